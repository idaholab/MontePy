import MontePyVerif.Model.ValueFormat
import MontePyVerif.Spec.Number

/-! # Text level (lemmas for C05)

What `Spec.firstWord` returns on blanks followed by a word and a separator, and the zero-filled digit strings the
formatter writes.  No arithmetic. -/
namespace MontePyVerif.C05
open MontePyVerif.ValueFormat MontePyVerif.Spec

def StartsSep (t : Text) : Prop := ∃ c r, t = c :: r ∧ (c = ' ' ∨ c = '\n' ∨ c = '$')

theorem replicate_startsSep (k : Nat) (hk : 1 ≤ k) (t : Text) : StartsSep (List.replicate k ' ' ++ t) := by
  obtain ⟨j, rfl⟩ : ∃ j, k = j + 1 := ⟨k - 1, by omega⟩
  exact ⟨' ', List.replicate j ' ' ++ t, rfl, Or.inl rfl⟩

theorem blanks_sep (k : Nat) (t : Text) (ht : t = [] ∨ StartsSep t) :
    List.replicate k ' ' ++ t = [] ∨ StartsSep (List.replicate k ' ' ++ t) := by
  cases k with
  | zero => exact ht
  | succ k => exact Or.inr (replicate_startsSep _ (by omega) t)

/-! ## the first word -/

/-- a character `Spec.firstWord` keeps -/
def WordChar (c : Char) : Prop := c ≠ ' ' ∧ c ≠ '\n' ∧ c ≠ '$' ∧ c ≠ '&'

theorem WordChar.kept {c : Char} (h : WordChar c) : (!(c = ' ' || c = '\n' || c = '$' || c = '&')) = true := by
  simp [h.1, h.2.1, h.2.2.1, h.2.2.2]

theorem wordChar_digit (c : Char) (hc : c.isDigit = true) : WordChar c := by
  refine ⟨?_, ?_, ?_, ?_⟩ <;> (rintro rfl; exact absurd hc (by decide))

theorem firstWord_blanks (i : Nat) (t : Text) : firstWord (List.replicate i ' ' ++ t) = firstWord t := by
  unfold firstWord
  rw [List.dropWhile_append_of_pos (fun a ha => by rw [(List.mem_replicate.mp ha).2]; rfl)]

theorem firstWord_word (i : Nat) (w tail : Text) (hw : ∀ c ∈ w, WordChar c) (hne : w ≠ [])
    (ht : tail = [] ∨ StartsSep tail) : firstWord (List.replicate i ' ' ++ w ++ tail) = w := by
  obtain ⟨c, r, rfl⟩ := List.exists_cons_of_ne_nil hne
  have hc : ¬ (decide (c = ' ') = true) := by simpa using (hw c List.mem_cons_self).1
  rw [List.append_assoc, firstWord_blanks]
  unfold firstWord
  rw [List.cons_append, List.dropWhile_cons_of_neg (p := (· = ' ')) hc, ← List.cons_append,
    List.takeWhile_append_of_pos (fun a ha => (hw a ha).kept)]
  rcases ht with rfl | ⟨c', r', rfl, hc'⟩
  · rw [List.takeWhile_nil, List.append_nil]
  · rw [List.takeWhile_cons_of_neg (by rcases hc' with rfl | rfl | rfl <;> decide), List.append_nil]

/-! ## strings of decimal digits -/

def AllDigits (t : Text) : Prop := ∀ c ∈ t, c.isDigit = true

theorem AllDigits.wordChars {t : Text} (h : AllDigits t) : ∀ c ∈ t, WordChar c :=
  fun c hc => wordChar_digit c (h c hc)

theorem allDigits_fill (z m : Nat) : AllDigits (List.replicate z '0' ++ Nat.toDigits 10 m) :=
  List.forall_mem_append.mpr
    ⟨fun c hc => by rw [(List.mem_replicate.mp hc).2]; rfl,
     fun _ hc => Nat.isDigit_of_mem_toDigits (by decide) (by decide) hc⟩

theorem ofDigitChars_fill (z m : Nat) : Nat.ofDigitChars 10 (List.replicate z '0' ++ Nat.toDigits 10 m) 0 = m := by
  rw [Nat.ofDigitChars_append, Nat.ofDigitChars_replicate_zero, Nat.mul_zero, Nat.ofDigitChars_ten_toDigits]

theorem fill_ne_nil (z m : Nat) : List.replicate z '0' ++ Nat.toDigits 10 m ≠ [] :=
  List.append_ne_nil_of_right_ne_nil _ Nat.toDigits_ne_nil

theorem length_zfill (f b : Nat) (hf : 0 < f) (hb : b < 10 ^ f) : (zfill f (Nat.toDigits 10 b)).length = f := by
  have := (Nat.length_toDigits_le_iff (b := 10) (by decide) hf).mpr hb
  unfold zfill
  rw [List.length_append, List.length_replicate]
  omega

end MontePyVerif.C05
