import MontePyVerif.Model.Links
/-!
Lemmas about `Model/Links.lean` for C16.  Relations between the state before and after an operation: on `_problem`
pointers, in rising strength, `LinkExt`, `PExt`, `Ext`; on geometry and containers `SameCells` (every cell keeps them)
and `LoadExt c` (every cell but `c`).  In terms of `Ext` and of `Good` (a tree is registered with a cell), what the
helpers that register dividers and the in-place operators guarantee.
-/
namespace MontePyVerif.Links

theorem memS_iff {st : St} {s : ObjId} {l : List ObjId} : memS st s l = true ↔ s ∈ l := by
  simp [memS]

@[simp] theorem updCell_cellOf (st : St) (c : ObjId) (f : CellSt → CellSt) (x : ObjId) :
    (st.updCell c f).cellOf x = if x = c then f (st.cellOf c) else st.cellOf x := rfl

theorem upd_cases {α : Type} {P : ObjId → α → Prop} {f : ObjId → α} {k : ObjId} {v : α}
    (hk : P k v) (ho : ∀ x, x ≠ k → P x (f x)) (x : ObjId) : P x (upd f k v x) := by
  unfold upd
  split
  · subst_vars; exact hk
  · exact ho x ‹_›

theorem upd_self {α : Type} (f : ObjId → α) (k : ObjId) (v : α) : upd f k v k = v := if_pos rfl

/-- setting a flag keeps the flags that were set (`upd f k true` is such an `if`) -/
theorem ite_true_of {p : Prop} [Decidable p] {v : Bool} (h : v = true) : (if p then true else v) = true := by
  split
  · rfl
  · exact h

/-! ### `_problem` pointers: `LinkExt`, `PExt`, `Ext` -/

structure LinkExt (st st' : St) : Prop where
  members : ∀ k, st'.members k = st.members k
  linked : ∀ k o, st.linked k o = true → st'.linked k o = true

theorem LinkExt.refl (st : St) : LinkExt st st := ⟨fun _ => rfl, fun _ _ h => h⟩

theorem LinkExt.trans {a b c : St} (h1 : LinkExt a b) (h2 : LinkExt b c) : LinkExt a c :=
  ⟨fun k => (h2.members k).trans (h1.members k), fun k o h => h2.linked k o (h1.linked k o h)⟩

/-- `Ext` without `geom`, `surfs`, `comps` -/
structure PExt (st st' : St) : Prop where
  members : ∀ k, st'.members k = st.members k
  linked : ∀ k o, st.linked k o = true → st'.linked k o = true
  mat : ∀ x, (st'.cellOf x).mat = (st.cellOf x).mat
  univ : ∀ x, (st'.cellOf x).univ = (st.cellOf x).univ
  cont : ∀ x, (st.cellOf x).contLinked = true → (st'.cellOf x).contLinked = true
  newSurf : ∀ x s, s ∈ (st'.cellOf x).surfs →
    s ∈ (st.cellOf x).surfs ∨ ((st.cellOf x).contLinked = true → st'.slink s = true)

theorem PExt.refl (st : St) : PExt st st :=
  ⟨fun _ => rfl, fun _ _ h => h, fun _ => rfl, fun _ => rfl, fun _ h => h, fun _ _ h => Or.inl h⟩

theorem PExt.trans {a b c : St} (h1 : PExt a b) (h2 : PExt b c) : PExt a c :=
  ⟨fun k => (h2.members k).trans (h1.members k), fun k o h => h2.linked k o (h1.linked k o h),
   fun x => (h2.mat x).trans (h1.mat x), fun x => (h2.univ x).trans (h1.univ x),
   fun x h => h2.cont x (h1.cont x h),
   fun x s h => by
     rcases h2.newSurf x s h with hb | hb
     · rcases h1.newSurf x s hb with ha | ha
       · exact Or.inl ha
       · exact Or.inr (fun hc => h2.linked .surface s (ha hc))
     · exact Or.inr (fun hc => hb (h1.cont x hc))⟩

theorem PExt.toLink {st st' : St} (e : PExt st st') : LinkExt st st' := ⟨e.members, e.linked⟩

/-- what every helper that only registers dividers with cells guarantees -/
structure Ext (st st' : St) : Prop where
  geom : ∀ x, (st'.cellOf x).geom = (st.cellOf x).geom
  surfs : ∀ x s, s ∈ (st.cellOf x).surfs → s ∈ (st'.cellOf x).surfs
  comps : ∀ x d, d ∈ (st.cellOf x).comps → d ∈ (st'.cellOf x).comps
  members : ∀ k, st'.members k = st.members k
  linked : ∀ k o, st.linked k o = true → st'.linked k o = true
  mat : ∀ x, (st'.cellOf x).mat = (st.cellOf x).mat
  univ : ∀ x, (st'.cellOf x).univ = (st.cellOf x).univ
  cont : ∀ x, (st.cellOf x).contLinked = true → (st'.cellOf x).contLinked = true
  /-- a surface that is new in a container whose collection is linked to the problem has been linked -/
  newSurf : ∀ x s, s ∈ (st'.cellOf x).surfs →
    s ∈ (st.cellOf x).surfs ∨ ((st.cellOf x).contLinked = true → st'.slink s = true)

theorem Ext.refl (st : St) : Ext st st :=
  ⟨fun _ => rfl, fun _ _ h => h, fun _ _ h => h, fun _ => rfl, fun _ _ h => h, fun _ => rfl, fun _ => rfl,
   fun _ h => h, fun _ _ h => Or.inl h⟩

theorem Ext.pExt {st st' : St} (e : Ext st st') : PExt st st' :=
  ⟨e.members, e.linked, e.mat, e.univ, e.cont, e.newSurf⟩

theorem Ext.trans {a b c : St} (h1 : Ext a b) (h2 : Ext b c) : Ext a c :=
  have p := h1.pExt.trans h2.pExt
  ⟨fun x => (h2.geom x).trans (h1.geom x),
   fun x s h => h2.surfs x s (h1.surfs x s h), fun x d h => h2.comps x d (h1.comps x d h),
   p.members, p.linked, p.mat, p.univ, p.cont, p.newSurf⟩

/-! ### geometry and containers: `SameCells`, `LoadExt` -/

abbrev SameRec (r r' : CellSt) : Prop := r'.geom = r.geom ∧ r'.surfs = r.surfs ∧ r'.comps = r.comps

theorem SameRec.trans {a b c : CellSt} (h1 : SameRec a b) (h2 : SameRec b c) : SameRec a c :=
  ⟨h2.1.trans h1.1, h2.2.1.trans h1.2.1, h2.2.2.trans h1.2.2⟩

def SameCells (st st' : St) : Prop := ∀ x, SameRec (st.cellOf x) (st'.cellOf x)

theorem SameCells.refl (st : St) : SameCells st st := fun _ => ⟨rfl, rfl, rfl⟩

theorem SameCells.trans {a b c : St} (h1 : SameCells a b) (h2 : SameCells b c) : SameCells a c :=
  fun x => (h1 x).trans (h2 x)

theorem sameCells_updCell (st : St) (c : ObjId) (f : CellSt → CellSt) (hf : SameRec (st.cellOf c) (f (st.cellOf c))) :
    SameCells st (st.updCell c f) :=
  upd_cases (P := fun x r => SameRec (st.cellOf x) r) hf fun _ _ => ⟨rfl, rfl, rfl⟩

/-- what an operation working on cell `c` (`update_pointers`, the divider setter) leaves alone -/
structure LoadExt (c : ObjId) (st st' : St) : Prop where
  other : ∀ x, x ≠ c → (st'.cellOf x).geom = (st.cellOf x).geom ∧ (st'.cellOf x).surfs = (st.cellOf x).surfs ∧
    (st'.cellOf x).comps = (st.cellOf x).comps
  surfaces : st'.surfaces = st.surfaces
  snum : st'.snum = st.snum

theorem LoadExt.refl (c : ObjId) (st : St) : LoadExt c st st := ⟨fun _ _ => ⟨rfl, rfl, rfl⟩, rfl, rfl⟩

theorem LoadExt.trans {c : ObjId} {a b d : St} (h1 : LoadExt c a b) (h2 : LoadExt c b d) : LoadExt c a d :=
  ⟨fun x hx => SameRec.trans (h1.other x hx) (h2.other x hx), h2.surfaces.trans h1.surfaces, h2.snum.trans h1.snum⟩

theorem loadExt_updCell (st : St) (c : ObjId) (f : CellSt → CellSt) : LoadExt c st (st.updCell c f) :=
  ⟨fun x hx => by rw [updCell_cellOf, if_neg hx]; exact ⟨rfl, rfl, rfl⟩, rfl, rfl⟩

theorem loadExt_updCell_pres (st : St) (c d : ObjId) (f : CellSt → CellSt)
    (hf : ∀ cs, (f cs).geom = cs.geom ∧ (f cs).surfs = cs.surfs ∧ (f cs).comps = cs.comps) :
    LoadExt c st (st.updCell d f) :=
  ⟨fun x _ => sameCells_updCell st d f (hf _) x, rfl, rfl⟩

theorem sameCells_linkCell (st : St) (o : ObjId) : SameCells st (st.linkCell o) :=
  sameCells_updCell st o (fun cs => { cs with link := true, contLinked := true }) ⟨rfl, rfl, rfl⟩

theorem loadExt_linkCell (st : St) (c d : ObjId) : LoadExt c st (st.linkCell d) :=
  ⟨fun x _ => sameCells_linkCell st d x, rfl, rfl⟩

/-! ### registering dividers with a cell -/

/-- The shape of every registering step: the record of one cell `c` goes through `f` and the tables of `_problem`
    pointers of surfaces, materials and universes are raised to `sl`, `ml`, `ul`.  The defaults are for what stays
    as it is. -/
theorem ext_upd (st : St) (c : ObjId) (f : CellSt → CellSt) (sl ml ul : ObjId → Bool)
    (hg : (f (st.cellOf c)).geom = (st.cellOf c).geom := by rfl)
    (hs : ∀ s, s ∈ (st.cellOf c).surfs → s ∈ (f (st.cellOf c)).surfs := by exact fun _ h => h)
    (hn : ∀ s, s ∈ (f (st.cellOf c)).surfs →
      s ∈ (st.cellOf c).surfs ∨ ((st.cellOf c).contLinked = true → sl s = true) := by exact fun _ => Or.inl)
    (hc : ∀ d, d ∈ (st.cellOf c).comps → d ∈ (f (st.cellOf c)).comps := by exact fun _ h => h)
    (hl : (st.cellOf c).link = true → (f (st.cellOf c)).link = true := by exact id)
    (hcl : (st.cellOf c).contLinked = true → (f (st.cellOf c)).contLinked = true := by exact id)
    (hm : (f (st.cellOf c)).mat = (st.cellOf c).mat := by rfl)
    (hu : (f (st.cellOf c)).univ = (st.cellOf c).univ := by rfl)
    (hsl : ∀ x, st.slink x = true → sl x = true := by exact fun _ h => h)
    (hml : ∀ x, st.mlink x = true → ml x = true := by exact fun _ h => h)
    (hul : ∀ x, st.ulink x = true → ul x = true := by exact fun _ h => h) :
    Ext st { st.updCell c f with slink := sl, mlink := ml, ulink := ul } where
  geom := upd_cases (P := fun x (r : CellSt) => r.geom = (st.cellOf x).geom) hg fun _ _ => rfl
  surfs x s := upd_cases (P := fun x (r : CellSt) => s ∈ (st.cellOf x).surfs → s ∈ r.surfs) (hs s) (fun _ _ h => h) x
  comps x d := upd_cases (P := fun x (r : CellSt) => d ∈ (st.cellOf x).comps → d ∈ r.comps) (hc d) (fun _ _ h => h) x
  members k := by cases k <;> rfl
  linked k := by
    cases k
    · exact upd_cases (P := fun x (r : CellSt) => (st.cellOf x).link = true → r.link = true) hl fun _ _ h => h
    · exact hsl
    · exact hml
    · exact hul
    · exact fun _ h => h
  mat := upd_cases (P := fun x (r : CellSt) => r.mat = (st.cellOf x).mat) hm fun _ _ => rfl
  univ := upd_cases (P := fun x (r : CellSt) => r.univ = (st.cellOf x).univ) hu fun _ _ => rfl
  cont := upd_cases (P := fun x (r : CellSt) => (st.cellOf x).contLinked = true → r.contLinked = true) hcl fun _ _ h => h
  newSurf x s := upd_cases
    (P := fun x (r : CellSt) => s ∈ r.surfs →
      s ∈ (st.cellOf x).surfs ∨ ((st.cellOf x).contLinked = true → sl s = true))
    (hn s) (fun _ _ h => Or.inl h) x

theorem linkCell_ext (st : St) (o : ObjId) : Ext st (st.linkCell o) :=
  ext_upd st o _ _ _ _ (hl := fun _ => rfl) (hcl := fun _ => rfl) (hsl := fun _ => ite_true_of)
    (hml := fun _ => ite_true_of) (hul := fun _ => ite_true_of)

theorem cellSurfAppend_spec (st : St) (c s : ObjId) (st' : St) (e : Option Err) (h : cellSurfAppend st c s = (st', e)) :
    Ext st st' ∧ LoadExt c st st' ∧ (st'.cellOf c).comps = (st.cellOf c).comps ∧
    (e = none → (st'.cellOf c).surfs = (st.cellOf c).surfs ++ [s]) := by
  unfold cellSurfAppend at h
  dsimp only at h
  split at h
  · cases h; exact ⟨Ext.refl st, LoadExt.refl c st, rfl, fun h => nomatch h⟩
  · cases h
    refine ⟨ext_upd st c _ _ st.mlink st.ulink (hs := fun _ h => List.mem_append_left _ h) (hn := fun t ht => ?_)
      (hsl := fun x h => ?_), ⟨(loadExt_updCell st c (fun cs => { cs with surfs := cs.surfs ++ [s] })).other, rfl, rfl⟩,
      ?_, fun _ => ?_⟩
    · rcases List.mem_append.mp ht with ht | ht
      · exact Or.inl ht
      · cases List.mem_singleton.mp ht
        exact Or.inr fun hc => by rw [if_pos hc]; exact upd_self _ _ _
    · split
      · exact ite_true_of h
      · exact h
    · simp only [updCell_cellOf, if_true]
    · simp only [updCell_cellOf, if_true]

theorem cellCompAppend_spec (st : St) (c d : ObjId) (st' : St) (e : Option Err) (h : cellCompAppend st c d = (st', e)) :
    Ext st st' ∧ LoadExt c st st' ∧ (st'.cellOf c).surfs = (st.cellOf c).surfs ∧
    (e = none → (st'.cellOf c).comps = (st.cellOf c).comps ++ [d]) := by
  unfold cellCompAppend at h
  dsimp only at h
  split at h
  · cases h; exact ⟨Ext.refl st, LoadExt.refl c st, rfl, fun h => nomatch h⟩
  · have e1 : Ext st (st.updCell c (fun cs => { cs with comps := cs.comps ++ [d] })) :=
      ext_upd st c (fun cs => { cs with comps := cs.comps ++ [d] }) st.slink st.mlink st.ulink
        (hc := fun _ h => List.mem_append_left _ h)
    have l1 := loadExt_updCell st c (fun cs => { cs with comps := cs.comps ++ [d] })
    have hs : ((st.updCell c (fun cs => { cs with comps := cs.comps ++ [d] })).cellOf c).surfs = (st.cellOf c).surfs := by
      rw [updCell_cellOf, if_pos rfl]
    have hc : ((st.updCell c (fun cs => { cs with comps := cs.comps ++ [d] })).cellOf c).comps =
        (st.cellOf c).comps ++ [d] := by
      rw [updCell_cellOf, if_pos rfl]
    split at h
    · cases h
      have s2 := sameCells_linkCell (st.updCell c (fun cs => { cs with comps := cs.comps ++ [d] })) d c
      exact ⟨e1.trans (linkCell_ext _ d), l1.trans (loadExt_linkCell _ c d), s2.2.1.trans hs, fun _ => s2.2.2.trans hc⟩
    · cases h; exact ⟨e1, l1, hs, fun _ => hc⟩

theorem registerDivider_exact (st : St) (c : ObjId) (ic : Bool) (d : ObjId) (side : Bool) (res : St) (e : Option Err)
    (h : registerDivider st (some c) ic d = (res, e)) :
    Ext st res ∧ LoadExt c st res ∧
    (e = none →
      (∀ s, s ∈ (res.cellOf c).surfs ↔ s ∈ (st.cellOf c).surfs ∨ s ∈ (HS.leaf ic d side (some c)).surfs) ∧
      (∀ x, x ∈ (res.cellOf c).comps ↔ x ∈ (st.cellOf c).comps ∨ x ∈ (HS.leaf ic d side (some c)).comps)) := by
  unfold registerDivider at h
  cases ic with
  | true =>
    simp only [if_true] at h
    split at h
    · rename_i hc
      cases h
      exact ⟨Ext.refl st, LoadExt.refl c st, fun _ => ⟨fun _ => (or_iff_left List.not_mem_nil).symm,
        fun _ => ⟨Or.inl, fun h => h.elim id fun e => List.mem_singleton.mp e ▸ List.contains_iff_mem.mp hc⟩⟩⟩
    · have hs := cellCompAppend_spec st c d res e h
      refine ⟨hs.1, hs.2.1, fun hok => ⟨fun s => ?_, fun x => ?_⟩⟩
      · rw [hs.2.2.1]; exact (or_iff_left List.not_mem_nil).symm
      · rw [hs.2.2.2 hok]; exact List.mem_append
  | false =>
    simp only [Bool.false_eq_true, if_false] at h
    split at h
    · rename_i hc
      cases h
      exact ⟨Ext.refl st, LoadExt.refl c st, fun _ =>
        ⟨fun _ => ⟨Or.inl, fun h => h.elim id fun e => List.mem_singleton.mp e ▸ memS_iff.mp hc⟩,
         fun _ => (or_iff_left List.not_mem_nil).symm⟩⟩
    · have hs := cellSurfAppend_spec st c d res e h
      refine ⟨hs.1, hs.2.1, fun hok => ⟨fun x => ?_, fun x => ?_⟩⟩
      · rw [hs.2.2.2 hok]; exact List.mem_append
      · rw [hs.2.2.1]; exact (or_iff_left List.not_mem_nil).symm

theorem addSurfs_spec (c : ObjId) : ∀ (l : List ObjId) (st st' : St) (e : Option Err), addSurfs c l st = (st', e) →
    Ext st st' ∧ (e = none → ∀ s ∈ l, s ∈ (st'.cellOf c).surfs) := by
  intro l
  induction l with
  | nil => intro st st' e h; cases h; exact ⟨Ext.refl st, fun _ _ hs => nomatch hs⟩
  | cons a t ih =>
    intro st st' e h
    simp only [addSurfs] at h
    split at h
    · rename_i hm
      obtain ⟨ex, hs⟩ := ih st st' e h
      refine ⟨ex, fun hok s hmem => ?_⟩
      rcases List.mem_cons.mp hmem with rfl | ht
      · exact ex.surfs c _ (memS_iff.mp hm)
      · exact hs hok s ht
    · generalize hr : cellSurfAppend st c a = r at h
      obtain ⟨st1, e1⟩ := r
      have hsp := cellSurfAppend_spec st c a st1 e1 hr
      cases e1 with
      | some err => cases h; exact ⟨hsp.1, fun hok => nomatch hok⟩
      | none =>
        obtain ⟨ex, hs⟩ := ih st1 st' e h
        refine ⟨hsp.1.trans ex, fun hok s hmem => ?_⟩
        rcases List.mem_cons.mp hmem with rfl | ht
        · exact ex.surfs c _ (hsp.2.2.2 rfl ▸ List.mem_append_right _ (List.mem_singleton_self _))
        · exact hs hok s ht

theorem addComps_spec (c : ObjId) : ∀ (l : List ObjId) (st st' : St) (e : Option Err), addComps c l st = (st', e) →
    Ext st st' ∧ (e = none → ∀ d ∈ l, d ∈ (st'.cellOf c).comps) := by
  intro l
  induction l with
  | nil => intro st st' e h; cases h; exact ⟨Ext.refl st, fun _ _ hs => nomatch hs⟩
  | cons a t ih =>
    intro st st' e h
    simp only [addComps] at h
    split at h
    · rename_i hm
      obtain ⟨ex, hs⟩ := ih st st' e h
      refine ⟨ex, fun hok s hmem => ?_⟩
      rcases List.mem_cons.mp hmem with rfl | ht
      · exact ex.comps c _ (List.contains_iff_mem.mp hm)
      · exact hs hok s ht
    · generalize hr : cellCompAppend st c a = r at h
      obtain ⟨st1, e1⟩ := r
      have hsp := cellCompAppend_spec st c a st1 e1 hr
      cases e1 with
      | some err => cases h; exact ⟨hsp.1, fun hok => nomatch hok⟩
      | none =>
        obtain ⟨ex, hs⟩ := ih st1 st' e h
        refine ⟨hsp.1.trans ex, fun hok s hmem => ?_⟩
        rcases List.mem_cons.mp hmem with rfl | ht
        · exact ex.comps c _ (hsp.2.2.2 rfl ▸ List.mem_append_right _ (List.mem_singleton_self _))
        · exact hs hok s ht

/-- the tree `g` is registered with cell `c` -/
def Good (st : St) (c : ObjId) (g : HS) : Prop :=
  g.allCell c = true ∧ (∀ s ∈ g.surfs, s ∈ (st.cellOf c).surfs) ∧ (∀ d ∈ g.comps, d ∈ (st.cellOf c).comps)

theorem Good.ext {st st' : St} {c : ObjId} {g : HS} (h : Good st c g) (e : Ext st st') : Good st' c g :=
  ⟨h.1, fun s hs => e.surfs c s (h.2.1 s hs), fun d hd => e.comps c d (h.2.2 d hd)⟩

theorem newSurfs_spec (st : St) (c : ObjId) : ∀ (l acc ns : List ObjId), newSurfs st c l acc = some ns →
    (∀ x ∈ acc, x ∈ ns) ∧ (∀ s ∈ l, s ∈ (st.cellOf c).surfs ∨ s ∈ ns) := by
  intro l
  induction l with
  | nil => intro acc ns h; cases h; exact ⟨fun _ h => h, fun _ hs => nomatch hs⟩
  | cons a t ih =>
    intro acc ns h
    simp only [newSurfs, memS, Bool.or_eq_true, List.contains_iff_mem] at h
    split at h
    · rename_i hm
      obtain ⟨h1, h2⟩ := ih acc ns h
      exact ⟨h1, fun s hs => (List.mem_cons.mp hs).elim (fun e => e ▸ hm.imp id (h1 a)) (h2 s)⟩
    · split at h
      · cases h
      · obtain ⟨h1, h2⟩ := ih (acc ++ [a]) ns h
        exact ⟨fun x hx => h1 x (List.mem_append_left _ hx), fun s hs => (List.mem_cons.mp hs).elim
          (fun e => e ▸ Or.inr (h1 a (List.mem_append_right _ (List.mem_singleton_self a)))) (h2 s)⟩

theorem newComps_spec (st : St) (c : ObjId) : ∀ (l acc nc : List ObjId), newComps st c l acc = some nc →
    (∀ x ∈ acc, x ∈ nc) ∧ (∀ d ∈ l, d ∈ (st.cellOf c).comps ∨ d ∈ nc) := by
  intro l
  induction l with
  | nil => intro acc nc h; cases h; exact ⟨fun _ h => h, fun _ hs => nomatch hs⟩
  | cons a t ih =>
    intro acc nc h
    simp only [newComps, Bool.or_eq_true, List.contains_iff_mem] at h
    split at h
    · rename_i hm
      obtain ⟨h1, h2⟩ := ih acc nc h
      exact ⟨h1, fun s hs => (List.mem_cons.mp hs).elim (fun e => e ▸ hm.imp id (h1 a)) (h2 s)⟩
    · split at h
      · cases h
      · obtain ⟨h1, h2⟩ := ih (acc ++ [a]) nc h
        exact ⟨fun x hx => h1 x (List.mem_append_left _ hx), fun s hs => (List.mem_cons.mp hs).elim
          (fun e => e ▸ Or.inr (h1 a (List.mem_append_right _ (List.mem_singleton_self a)))) (h2 s)⟩

theorem allCell_compl {c : ObjId} {l : HS} (h : l.allCell c = true) : (HS.compl l (some c)).allCell c = true := by
  simp [HS.allCell, h]

theorem allCell_bin {c : ObjId} {u : Bool} {l r : HS} (hl : l.allCell c = true) (hr : r.allCell c = true) :
    (HS.bin u l r (some c)).allCell c = true := by
  simp [HS.allCell, hl, hr]

@[simp] theorem setCell_surfs (c : ObjId) (g : HS) : (g.setCell c).surfs = g.surfs := by
  induction g with
  | leaf ic d s p => rfl
  | compl l p ih => exact ih
  | bin u l r p ihl ihr => simp only [HS.setCell, HS.surfs, ihl, ihr]

@[simp] theorem setCell_comps (c : ObjId) (g : HS) : (g.setCell c).comps = g.comps := by
  induction g with
  | leaf ic d s p => rfl
  | compl l p ih => exact ih
  | bin u l r p ihl ihr => simp only [HS.setCell, HS.comps, ihl, ihr]

@[simp] theorem setCell_allCell (c : ObjId) (g : HS) : (g.setCell c).allCell c = true := by
  induction g with
  | leaf ic d s p => exact beq_self_eq_true (some c)
  | compl l p ih => exact allCell_compl ih
  | bin u l r p ihl ihr => exact allCell_bin ihl ihr

theorem setCell_of_allCell (c : ObjId) (g : HS) (h : g.allCell c = true) : g.setCell c = g := by
  induction g with
  | leaf ic d s p => simp [HS.allCell] at h; simp [HS.setCell, h]
  | compl l p ih => simp [HS.allCell] at h; simp [HS.setCell, h.1, ih h.2]
  | bin u l r p ihl ihr => simp [HS.allCell] at h; simp [HS.setCell, h.1.1, ihl h.1.2, ihr h.2]

theorem addChildren_spec (st : St) (c : ObjId) (other : HS) (st' : St) (e : Option Err)
    (h : addChildren st c other = (st', e)) : Ext st st' ∧ (e = none → Good st' c (other.setCell c)) := by
  unfold addChildren at h
  split at h
  · rename_i nc ns hnc hns
    have hc := (newComps_spec st c _ _ _ hnc).2
    have hs := (newSurfs_spec st c _ _ _ hns).2
    generalize hr : addComps c nc st = r at h
    obtain ⟨st1, e1⟩ := r
    have h1 := addComps_spec c nc st st1 e1 hr
    cases e1 with
    | some err => cases h; exact ⟨h1.1, fun hok => nomatch hok⟩
    | none =>
      have h2 := addSurfs_spec c ns st1 st' e h
      refine ⟨h1.1.trans h2.1, fun hok => ⟨setCell_allCell c other, fun s hs' => ?_, fun d hd => ?_⟩⟩
      · rw [setCell_surfs] at hs'
        exact (hs s hs').elim (fun hm => h2.1.surfs c s (h1.1.surfs c s hm)) (h2.2 hok s)
      · rw [setCell_comps] at hd
        exact h2.1.comps c d ((hc d hd).elim (h1.1.comps c d) (h1.2 rfl d))
  · cases h; exact ⟨Ext.refl st, fun h => nomatch h⟩

theorem linkChild_spec (st : St) (p : Option ObjId) (child : HS) (st' : St) (e : Option Err) (child' : HS)
    (h : linkChild st p child = ((st', e), child')) :
    Ext st st' ∧ ∀ c, p = some c → e = none → Good st' c child' := by
  cases p with
  | none => cases h; exact ⟨Ext.refl st, fun _ h => nomatch h⟩
  | some c =>
    unfold linkChild at h
    dsimp only at h
    generalize hr : addChildren st c child = r at h
    obtain ⟨st1, e1⟩ := r
    have ha := addChildren_spec st c child st1 e1 hr
    cases e1 with
    | some err => cases h; exact ⟨ha.1, fun _ _ hh => nomatch hh⟩
    | none => cases h; exact ⟨ha.1, fun _ hc _ => Option.some.inj hc ▸ ha.2 rfl⟩

theorem good_bin {st : St} {c : ObjId} {u : Bool} {l r : HS} {p : Option ObjId} :
    Good st c (.bin u l r p) ↔ p = some c ∧ Good st c l ∧ Good st c r := by
  unfold Good
  simp only [HS.allCell, HS.surfs, HS.comps, Bool.and_eq_true, beq_iff_eq, List.mem_append]
  constructor
  · rintro ⟨⟨⟨hp, hl⟩, hr⟩, hs, hc⟩
    exact ⟨hp, ⟨hl, fun s h => hs s (Or.inl h), fun d h => hc d (Or.inl h)⟩,
      ⟨hr, fun s h => hs s (Or.inr h), fun d h => hc d (Or.inr h)⟩⟩
  · rintro ⟨hp, ⟨hl, hls, hlc⟩, ⟨hr, hrs, hrc⟩⟩
    exact ⟨⟨⟨hp, hl⟩, hr⟩, fun s h => h.elim (hls s) (hrs s), fun d h => h.elim (hlc d) (hrc d)⟩

theorem good_compl {st : St} {c : ObjId} {l : HS} {p : Option ObjId} :
    Good st c (.compl l p) ↔ p = some c ∧ Good st c l := by
  unfold Good
  simp only [HS.allCell, HS.surfs, HS.comps, Bool.and_eq_true, beq_iff_eq]
  exact ⟨fun ⟨⟨hp, hl⟩, hs, hc⟩ => ⟨hp, hl, hs, hc⟩, fun ⟨hp, hl, hs, hc⟩ => ⟨⟨hp, hl⟩, hs, hc⟩⟩

theorem iopTail_spec (u0 : Bool) (l : HS) (p : Option ObjId) (other : HS) (st1 : St) (r1 newRight : HS)
    (st' : St) (e : Option Err) (g : HS) (ret : Option HS) (h : iopTail u0 l p other st1 r1 newRight = ((st', e), g, ret)) :
    Ext st1 st' ∧ ∀ c, p = some c → Good st1 c l → Good st1 c r1 → Good st' c g := by
  unfold iopTail at h
  generalize hr : linkChild st1 p newRight = lres at h
  obtain ⟨⟨st2, e2⟩, r2⟩ := lres
  have hl := linkChild_spec st1 p newRight st2 e2 r2 hr
  cases e2 with
  | some err => cases h; exact ⟨hl.1, fun c hp hgl hr1 => good_bin.mpr ⟨hp, hgl.ext hl.1, hr1.ext hl.1⟩⟩
  | none =>
    cases p with
    | none => cases h; exact ⟨hl.1, fun _ hp => nomatch hp⟩
    | some c' =>
      cases h
      have ha := (addChildren_spec st2 c' other _ _ rfl).1
      exact ⟨hl.1.trans ha, fun c hp hgl _ =>
        good_bin.mpr ⟨hp, hgl.ext (hl.1.trans ha), (hl.2 c hp rfl).ext ha⟩⟩

/-- `__iand__` / `__ior__` in place: also when the operand is refused, a tree that was registered with a cell stays
    registered with it -/
theorem iop_spec (u : Bool) (other : HS) : ∀ (self : HS) (st st' : St) (e : Option Err) (g : HS) (ret : Option HS),
    iop u st self other = ((st', e), g, ret) → Ext st st' ∧ ∀ c, Good st c self → Good st' c g := by
  intro self
  induction self with
  | leaf ic d s p => intro st st' e g ret h; cases h; exact ⟨Ext.refl st, fun _ hg => hg⟩
  | compl l p _ => intro st st' e g ret h; cases h; exact ⟨Ext.refl st, fun _ hg => hg⟩
  | bin u0 l r p _ ihr =>
    intro st st' e g ret h
    unfold iop at h
    split at h
    · cases h; exact ⟨Ext.refl st, fun _ hg => hg⟩
    · split at h
      · rename_i ic d s q
        generalize hr : linkChild st p (.bin u (.leaf ic d s q) other none) = lres at h
        obtain ⟨⟨st1, e1⟩, child⟩ := lres
        have hl := linkChild_spec st p _ st1 e1 child hr
        cases e1 with
        | some err => cases h; exact ⟨hl.1, fun c hg => hg.ext hl.1⟩
        | none =>
          cases h
          refine ⟨hl.1, fun c hg => ?_⟩
          obtain ⟨hp, hgl, _⟩ := good_bin.mp hg
          exact good_bin.mpr ⟨hp, hgl.ext hl.1, hl.2 c hp rfl⟩
      · -- any other right side, a complement included: the recursive call, then `iopTail`
        generalize hr : iop u st r other = res at h
        obtain ⟨⟨st1, e1⟩, r1, ret1⟩ := res
        have ih := ihr st st1 e1 r1 ret1 hr
        cases e1 with
        | some err =>
          cases h
          refine ⟨ih.1, fun c hg => ?_⟩
          obtain ⟨hp, hgl, hgr⟩ := good_bin.mp hg
          exact good_bin.mpr ⟨hp, hgl.ext ih.1, ih.2 c hgr⟩
        | none =>
          have ht := iopTail_spec u0 l p other st1 r1 _ st' e g ret h
          refine ⟨ih.1.trans ht.1, fun c hg => ?_⟩
          obtain ⟨hp, hgl, hgr⟩ := good_bin.mp hg
          exact ht.2 c hp (hgl.ext ih.1) (ih.2 c hgr)

theorem good_get {st : St} {c : ObjId} : ∀ (g : HS) (path : List Bool) (n : HS),
    Good st c g → g.get? path = some n → Good st c n := by
  intro g
  induction g with
  | leaf ic d s p =>
    intro path n hg h
    cases path with
    | nil => cases h; exact hg
    | cons b t => simp [HS.get?] at h
  | compl l p ih =>
    intro path n hg h
    match path, h with
    | [], h => cases h; exact hg
    | false :: t, h => exact ih t n (good_compl.mp hg).2 h
  | bin u l r p ihl ihr =>
    intro path n hg h
    match path, h with
    | [], h => cases h; exact hg
    | false :: t, h => exact ihl t n (good_bin.mp hg).2.1 h
    | true :: t, h => exact ihr t n (good_bin.mp hg).2.2 h

theorem good_set {st : St} {c : ObjId} : ∀ (g : HS) (path : List Bool) (n : HS),
    Good st c g → Good st c n → Good st c (g.set path n) := by
  intro g
  induction g with
  | leaf ic d s p =>
    intro path n hg hn
    cases path with
    | nil => exact hn
    | cons b t => simpa [HS.set] using hg
  | compl l p ih =>
    intro path n hg hn
    match path with
    | [] => exact hn
    | false :: t => exact good_compl.mpr ⟨(good_compl.mp hg).1, ih t n (good_compl.mp hg).2 hn⟩
    | true :: t => exact hg
  | bin u l r p ihl ihr =>
    intro path n hg hn
    obtain ⟨hp, hl, hr⟩ := good_bin.mp hg
    match path with
    | [] => exact hn
    | false :: t => exact good_bin.mpr ⟨hp, ihl t n hl hn, hr⟩
    | true :: t => exact good_bin.mpr ⟨hp, hl, ihr t n hr hn⟩

end MontePyVerif.Links
