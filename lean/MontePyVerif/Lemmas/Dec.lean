import MontePyVerif.Lemmas.Round
import MontePyVerif.Spec.Number

/-! # Values of formatted numbers (`Dec`) and the library tolerance (lemmas for C05)

What `.{p}f` writes is within half a unit of the last kept digit of the exact value, what `.{p}e`, `.{p}g` write within
that relative error; 17 significant
digits are inside `constants.rel_tol`; CPython's `isclose` formula implies the Spec's closeness.  A sign bit enters a
value as the factor `sgnQ`: `Dec.value` and `Num.toRat` are put in that form here, and `Spelling.value`
(`Lemmas/Readers.lean`) is defined in it, so that the three compare. -/
namespace MontePyVerif.C05
open MontePyVerif.ValueFormat

def sgnQ (b : Bool) : ℚ := if b then -1 else 1

theorem sgnQ_mul (b : Bool) (q : ℚ) : sgnQ b * q = if b then -q else q := by
  cases b
  · exact one_mul q
  · exact neg_one_mul q

theorem abs_sgnQ_mul (b : Bool) (q : ℚ) : |sgnQ b * q| = |q| := by
  rw [sgnQ_mul]; split
  · exact abs_neg q
  · rfl

theorem Dec.value_eq (d : Dec) :
    d.value = sgnQ d.neg * ((d.m : ℚ) * (10 : ℚ) ^ (d.exp.getD 0 - (d.frac : Int))) := by
  rw [sgnQ_mul, ← pow10Rat_eq]; rfl

theorem Num.toRat_eq (x : Num) : x.toRat = sgnQ x.neg * x.mag := (sgnQ_mul _ _).symm

theorem mag_eq (x : Num) (h : 0 ≤ x.mag) : ((x.mag.num.toNat : Nat) : ℚ) / ((x.mag.den : Nat) : ℚ) = x.mag := by
  have hn : 0 ≤ x.mag.num := Rat.num_nonneg.mpr h
  have : ((x.mag.num.toNat : Nat) : ℚ) = ((x.mag.num : Int) : ℚ) := by
    exact_mod_cast congrArg (fun z : Int => (z : ℚ)) (Int.toNat_of_nonneg hn)
  rw [this]; exact Rat.num_div_den x.mag

theorem Dec.abs_value_sub (d : Dec) (x : Num) (h : d.neg = x.neg) :
    |d.value - x.toRat| = |(d.m : ℚ) * (10 : ℚ) ^ (d.exp.getD 0 - (d.frac : Int)) - x.mag| := by
  rw [Dec.value_eq, Num.toRat_eq, h, ← mul_sub, abs_sgnQ_mul]

/-- **C05_pyformat_error (f)**: `.{p}f` is off by at most half a unit of the last decimal -/
theorem C05_pyformat_error_f (x : Num) (hx : 0 ≤ x.mag) (p : Nat) :
    |(decF x p).value - x.toRat| ≤ 1 / 2 * (10 : ℚ) ^ (-(p : Int)) := by
  have herr := scaleRound_err x.mag.num.toNat x.mag.den x.mag.den_pos (p : Int)
  rw [mag_eq x hx] at herr
  rw [Dec.abs_value_sub _ x rfl]
  show |((scaleRound x.mag.num.toNat x.mag.den (p : Int) : Nat) : ℚ) * (10 : ℚ) ^ ((0 : Int) - (p : Int)) - x.mag| ≤ _
  rw [zero_sub]
  exact abs_unscale _ _ _ herr

/-- **C05_pyformat_error (e)**: `.{p}e` (p+1 significant digits) has relative error at most `½·10^-p` -/
theorem C05_pyformat_error_e (x : Num) (hx : 0 ≤ x.mag) (p : Nat) :
    |(decE x p).value - x.toRat| ≤ 1 / 2 * (10 : ℚ) ^ (-(p : Int)) * x.mag := by
  have h := sciDigits_rel x.mag.num.toNat x.mag.den p x.mag.den_pos
  rw [mag_eq x hx] at h
  rw [Dec.abs_value_sub _ x rfl]
  exact h

/-- **C05_pyformat_error (g)**: `.{p}g` (`P = max p 1` significant digits, either layout, zeros stripped)
    has relative error at most `½·10^-(P-1)` -/
theorem C05_pyformat_error_g (x : Num) (hx : 0 ≤ x.mag) (p : Nat) :
    |(decG x p).value - x.toRat| ≤ 1 / 2 * (10 : ℚ) ^ (-(((if p = 0 then 1 else p) - 1 : Nat) : Int)) * x.mag := by
  have h := sciDigits_rel x.mag.num.toNat x.mag.den ((if p = 0 then 1 else p) - 1) x.mag.den_pos
  rw [mag_eq x hx] at h
  have hP : 1 ≤ (if p = 0 then 1 else p) := by split <;> omega
  unfold decG
  simp only []
  generalize (if p = 0 then 1 else p) = P at *
  generalize sciDigits x.mag.num.toNat x.mag.den (P - 1) = r at *
  split
  · -- fixed layout: `P - 1 - exp` digits behind the point, no exponent
    rw [Dec.abs_value_sub _ x rfl]
    show |((stripZeros r.1 ((P : Int) - 1 - r.2).toNat).1 : ℚ)
      * (10 : ℚ) ^ ((0 : Int) - ((stripZeros r.1 ((P : Int) - 1 - r.2).toNat).2 : Int)) - x.mag| ≤ _
    have e : (0 : Int) - (((P : Int) - 1 - r.2).toNat : Int) = r.2 - ((P - 1 : Nat) : Int) := by omega
    rw [stripZeros_value, e]
    exact h
  · rw [Dec.abs_value_sub _ x rfl]
    show |((stripZeros r.1 (P - 1)).1 : ℚ) * (10 : ℚ) ^ (r.2 - ((stripZeros r.1 (P - 1)).2 : Int)) - x.mag| ≤ _
    rw [stripZeros_value]
    exact h

/-! ## the library tolerance -/

theorem absR_eq (q : ℚ) : Spec.absR q = |q| := by
  unfold Spec.absR; split
  · rw [abs_of_nonneg]; assumption
  · rw [abs_of_neg]; linarith

/-- the library's tolerance is the double nearest `1e-9`, no absolute tolerance (`constants.py`) -/
theorem C05_tolerance : (1 : ℚ) / 10 ^ 9 ≤ Spec.relTol ∧ Spec.relTol ≤ 1 / 10 ^ 9 + 1 / 10 ^ 24 ∧ Spec.absTol = 0 := by
  unfold Spec.relTol Spec.absTol Gen.relTolNum Gen.relTolDen Gen.absTolNum Gen.absTolDen
  norm_num

/-- 17 significant digits are always enough: a relative error of `½·10^-16` is inside the library's tolerance (it is
    inside any tolerance of at least `1e-9`, which is all the proof uses of `C05_tolerance`) -/
theorem tol_17 : 1 / 2 * (10 : ℚ) ^ (-(16 : Int)) ≤ Spec.relTol :=
  le_trans (by norm_num) C05_tolerance.1

theorem relTol_nonneg : 0 ≤ Spec.relTol := le_trans (by positivity) tol_17

theorem isClose_iff (y x : ℚ) :
    Spec.isClose y x ↔ |y - x| ≤ max (Spec.relTol * max |x| |y|) Spec.absTol := by
  unfold Spec.isClose
  rw [absR_eq, absR_eq, absR_eq]

theorem isClose_of_le (y x : ℚ)
    (h : |y - x| ≤ Spec.relTol * |x| ∨ |y - x| ≤ Spec.relTol * |y| ∨ |y - x| ≤ Spec.absTol) : Spec.isClose y x := by
  rw [isClose_iff]
  rcases h with h | h | h
  · exact h.trans (le_max_of_le_left (mul_le_mul_of_nonneg_left (le_max_left _ _) relTol_nonneg))
  · exact h.trans (le_max_of_le_left (mul_le_mul_of_nonneg_left (le_max_right _ _) relTol_nonneg))
  · exact le_max_of_le_right h

theorem isClose_symm (a b : ℚ) (h : Spec.isClose a b) : Spec.isClose b a := by
  rw [isClose_iff] at h ⊢
  rwa [abs_sub_comm b a, max_comm |a| |b|]

theorem isClose_neg (a b : ℚ) (h : Spec.isClose a b) : Spec.isClose (-a) (-b) := by
  rw [isClose_iff] at h ⊢
  rwa [neg_sub_neg, abs_sub_comm, abs_neg, abs_neg]

/-- `q` counts the digits after the first: `16 ≤ q` is 17 significant digits -/
theorem isClose_of_digits (y : ℚ) (x : Num) (hx : 0 ≤ x.mag) (q : Nat) (hq : 16 ≤ q)
    (h : |y - x.toRat| ≤ 1 / 2 * (10 : ℚ) ^ (-(q : Int)) * x.mag) : Spec.isClose y x.toRat := by
  refine isClose_of_le _ _ (Or.inl (h.trans ?_))
  have habs : |x.toRat| = x.mag := by rw [Num.toRat_eq, abs_sgnQ_mul, abs_of_nonneg hx]
  rw [habs]
  apply mul_le_mul_of_nonneg_right _ hx
  apply le_trans _ tol_17
  apply mul_le_mul_of_nonneg_left _ (by norm_num)
  apply zpow_le_zpow_right₀ (by norm_num) (by omega)

theorem ratAbs_eq (q : ℚ) : ratAbs q = |q| := by
  unfold ratAbs; split
  · rw [abs_of_neg]; assumption
  · rw [abs_of_nonneg]; linarith

theorem relTol_eq : ValueFormat.relTol = Spec.relTol := by
  unfold ValueFormat.relTol Spec.relTol; rw [Rat.mkRat_eq_div]

theorem absTol_eq : ValueFormat.absTol = Spec.absTol := by
  unfold ValueFormat.absTol Spec.absTol; rw [Rat.mkRat_eq_div]

theorem spec_of_model_isClose (y x : ℚ) (h : ValueFormat.isClose y x = true) : Spec.isClose y x := by
  unfold ValueFormat.isClose at h
  simp only [Bool.or_eq_true, decide_eq_true_eq, beq_iff_eq, ratAbs_eq, relTol_eq, absTol_eq, abs_mul,
    abs_of_nonneg relTol_nonneg, abs_sub_comm x y] at h
  rcases h with rfl | (h | h) | h
  · refine isClose_of_le _ _ (Or.inl ?_)
    rw [sub_self, abs_zero]
    exact mul_nonneg relTol_nonneg (abs_nonneg _)
  · exact isClose_of_le _ _ (Or.inl h)
  · exact isClose_of_le _ _ (Or.inr (Or.inl h))
  · exact isClose_of_le _ _ (Or.inr (Or.inr h))

end MontePyVerif.C05
