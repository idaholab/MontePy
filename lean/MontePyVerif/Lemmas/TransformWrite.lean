import MontePyVerif.Model.TransformWrite
import MontePyVerif.Spec.Transform
/-! # Jumps of a TR input are written so that MCNP reads the numbers the transform holds (C05) -/
namespace MontePyVerif.C05
open MontePyVerif.TransformWrite

/-- `Transform._default_entry` is MCNP's default of the jumped-over entry, for both units and all 12 positions:
    the formula against the Spec's table, entry by entry -/
theorem defaultEntry_spec : ∀ (inDegrees : Bool) (k : Nat), k < 12 →
    defaultEntry inDegrees k = Spec.trDefault inDegrees k := by
  decide

theorem updateFrom_length (inDegrees : Bool) (vals : List Rat) :
    ∀ (k : Nat) (nodes : List (Option Rat)), (updateFrom inDegrees k nodes vals).length = vals.length := by
  induction vals with
  | nil => intro k nodes; cases nodes <;> simp [updateFrom]
  | cons v vs ih => intro k nodes; cases nodes <;> simp [updateFrom, ih]

theorem jumpOrNumber_getD (c : Bool) (v d : Rat) (h : c = true → v = d) :
    (if c then none else some v : Option Rat).getD d = v := by
  cases c
  · rfl
  · exact (h rfl).symm

/-- the entry loop of `_update_values`: whatever the nodes of the card (jumps anywhere, fewer or more nodes than
    values), MCNP reads the written entries, in the unit the defaults were taken from, as exactly the values; also when
    only the first `n` written entries are kept and the values behind them are all defaults (read as jumps) -/
theorem updateFrom_take_reads (inDegrees : Bool) (vals : List Rat) :
    ∀ (k : Nat) (nodes : List (Option Rat)) (n : Nat), k + vals.length ≤ 12 →
      allDefaultFrom inDegrees (k + n) (vals.drop n) = true →
      Spec.trReadFrom inDegrees k
        ((updateFrom inDegrees k nodes vals).take n ++ List.replicate (vals.length - n) none) = vals := by
  induction vals with
  | nil => intro k nodes n _ _; cases nodes <;> simp [updateFrom, Spec.trReadFrom]
  | cons v vs ih =>
    intro k nodes n hk hd
    have hk' : (k + 1) + vs.length ≤ 12 := by simp only [List.length_cons] at hk; omega
    have hspec := defaultEntry_spec inDegrees k (by simp only [List.length_cons] at hk; omega)
    cases n with
    | zero =>
      -- nothing is kept: `v` and everything behind it are defaults, read from jumps
      simp only [Nat.add_zero, List.drop_zero, allDefaultFrom, Bool.and_eq_true, decide_eq_true_eq] at hd
      have ht := ih (k + 1) [] 0 hk' hd.2
      simp only [List.take_zero, List.nil_append, Nat.sub_zero] at ht
      simp only [List.take_zero, List.nil_append, Nat.sub_zero, List.length_cons, List.replicate_succ,
        Spec.trReadFrom, ht, Option.getD_none]
      rw [hd.1, hspec]
    | succ m =>
      have hd' : allDefaultFrom inDegrees (k + 1 + m) (vs.drop m) = true := by
        rwa [Nat.add_right_comm k 1 m]
      have hlen : (v :: vs).length - (m + 1) = vs.length - m := Nat.add_sub_add_right _ 1 _
      cases nodes with
      | nil =>
        simp only [updateFrom, List.take_succ_cons, List.cons_append, Spec.trReadFrom, hlen, ih (k + 1) [] m hk' hd',
          Option.getD_some]
      | cons nd ns =>
        simp only [updateFrom, List.take_succ_cons, List.cons_append, Spec.trReadFrom, hlen, ih (k + 1) ns m hk' hd']
        rw [jumpOrNumber_getD _ v _ (fun hc => hspec ▸ of_decide_eq_true (Bool.and_eq_true_iff.mp hc).2)]

theorem updateFrom_reads (inDegrees : Bool) (vals : List Rat) (k : Nat) (nodes : List (Option Rat))
    (hk : k + vals.length ≤ 12) : Spec.trReadFrom inDegrees k (updateFrom inDegrees k nodes vals) = vals := by
  have h := updateFrom_take_reads inDegrees vals k nodes vals.length hk (by rw [List.drop_length]; rfl)
  rwa [Nat.sub_self, List.replicate_zero, List.append_nil,
    List.take_of_length_le (Nat.le_of_eq (updateFrom_length inDegrees vals k nodes))] at h

theorem flatPack_length (s : State) (hr : s.rot.length ≤ 9) : (flatPack s).length ≤ 9 := by
  unfold flatPack
  split
  · split <;> simp
  · exact hr

theorem heldNumbers_length (s : State) (hd : s.disp.length = 3) (hr : s.rot.length ≤ 9) :
    (heldNumbers s).length ≤ 12 := by
  have := flatPack_length s hr
  unfold heldNumbers
  split <;> simp [hd] <;> omega

end MontePyVerif.C05
