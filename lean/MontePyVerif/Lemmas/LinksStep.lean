import MontePyVerif.Lemmas.Links
/-!
Lemmas about `Model/Links.lean` for C16: the invariants, and the one relation that describes whatever moves the state.

`Edit st st'`: no `_problem` pointer is cleared and whatever is new has been linked.  `Step` = an `Edit` that keeps
containment; `Reach` is stable under a `Step` (`Reach.step`).  Every operation is a `Step` (`step_spec`, the one case
analysis over the operations), hence every history (`run_spec`).  The operations on a geometry are `Step`s because the
helpers that register dividers are `Ext` (`Ext.step`, `Ext.step_store`), the others because they are `Book`: an `Edit`
that touches no geometry and no container.
-/
namespace MontePyVerif.Links

/-! ## the invariants -/

/-- cell `c`: every node of its geometry points back at `c` and every divider is in `c`'s containers -/
def Contain (st : St) (c : ObjId) : Prop := ∀ g, (st.cellOf c).geom = some g → Good st c g

/-- the invariant of C16's first statement, for every cell object (member of the problem or not) -/
def InvContain (st : St) : Prop := ∀ c, Contain st c

/-- every member of `problem.cells / surfaces / materials / universes / transforms` has `_problem` set -/
def InvLinked (st : St) : Prop := ∀ k o, o ∈ st.members k → st.linked k o = true

/-- what cell `d` points at is linked to the problem: its containers' collections, every surface it holds,
    its material, its universe -/
def GoodCell (st : St) (d : ObjId) : Prop :=
  (st.cellOf d).contLinked = true ∧ (∀ s ∈ (st.cellOf d).surfs, st.slink s = true) ∧
  (∀ m, (st.cellOf d).mat = some m → st.mlink m = true) ∧ (∀ u, (st.cellOf d).univ = some u → st.ulink u = true)

/-- the invariant of every reachable state: containment for every cell object, members of the five collections
    linked, and whatever a cell *of the problem* points at linked (so that the reverse look-ups see the cell) -/
structure Reach (st : St) : Prop where
  contain : InvContain st
  linked : InvLinked st
  good : ∀ d ∈ st.cells, GoodCell st d

theorem InvContain.ext {st st' : St} (h : InvContain st) (e : Ext st st') : InvContain st' := by
  intro c g hg
  rw [e.geom c] at hg
  exact (h c g hg).ext e

theorem Contain.same {st st' : St} {c : ObjId} (h : Contain st c) (e : SameRec (st.cellOf c) (st'.cellOf c)) :
    Contain st' c := by
  intro g hg
  rw [e.1] at hg
  have := h g hg
  exact ⟨this.1, by rw [e.2.1]; exact this.2.1, by rw [e.2.2]; exact this.2.2⟩

theorem InvContain.same {st st' : St} (h : InvContain st) (e : SameCells st st') : InvContain st' :=
  fun c => (h c).same (e c)

theorem inv_setGeom {st : St} {c : ObjId} {g : HS} (h : InvContain st) (hg : Good st c g) :
    InvContain (st.updCell c (fun cs => { cs with geom := some g })) :=
  upd_cases (k := c) (v := { st.cellOf c with geom := some g }) (P := fun x (r : CellSt) => ∀ g', r.geom = some g' →
    g'.allCell x = true ∧ (∀ s ∈ g'.surfs, s ∈ r.surfs) ∧ (∀ d ∈ g'.comps, d ∈ r.comps))
    (fun _ hg' => Option.some.inj hg' ▸ hg) (fun x _ => h x)

/-! ## what every operation guarantees about `_problem` pointers -/

/-- No pointer is cleared and whatever is new has been linked: a new member of a collection; a new surface in a linked
    container of a linked cell; a new material or universe of a linked cell; a new cell of the problem, together with
    what it points at.  Only linked cells are spoken of because `Cell.update_pointers` gives a cell new containers
    that are linked if the cell is, and the setters of material and universe link the pointee if the cell is. -/
structure Edit (st st' : St) : Prop where
  linked : ∀ k o, st.linked k o = true → st'.linked k o = true
  cont : ∀ x, (st.cellOf x).link = true → (st.cellOf x).contLinked = true → (st'.cellOf x).contLinked = true
  member : ∀ k o, o ∈ st'.members k → o ∈ st.members k ∨ st'.linked k o = true
  surf : ∀ x s, s ∈ (st'.cellOf x).surfs → s ∈ (st.cellOf x).surfs ∨
    ((st.cellOf x).link = true → (st.cellOf x).contLinked = true → st'.slink s = true)
  mat : ∀ x m, (st'.cellOf x).mat = some m →
    (st.cellOf x).mat = some m ∨ ((st.cellOf x).link = true → st'.mlink m = true)
  univ : ∀ x u, (st'.cellOf x).univ = some u →
    (st.cellOf x).univ = some u ∨ ((st.cellOf x).link = true → st'.ulink u = true)
  cell : ∀ d, d ∈ st'.cells → d ∈ st.cells ∨ ((st'.cellOf d).link = true ∧ GoodCell st' d)

theorem Edit.refl (st : St) : Edit st st :=
  ⟨fun _ _ h => h, fun _ _ h => h, fun _ _ h => Or.inl h, fun _ _ h => Or.inl h, fun _ _ h => Or.inl h,
   fun _ _ h => Or.inl h, fun _ h => Or.inl h⟩

theorem GoodCell.edit {st st' : St} {d : ObjId} (hg : GoodCell st d) (hl : (st.cellOf d).link = true)
    (e : Edit st st') : GoodCell st' d :=
  ⟨e.cont d hl hg.1,
   fun s hs => (e.surf d s hs).elim (fun h => e.linked .surface s (hg.2.1 s h)) (fun h => h hl hg.1),
   fun m hm => (e.mat d m hm).elim (fun h => e.linked .material m (hg.2.2.1 m h)) (fun h => h hl),
   fun u hu => (e.univ d u hu).elim (fun h => e.linked .universe u (hg.2.2.2 u h)) (fun h => h hl)⟩

theorem Edit.trans {a b c : St} (h1 : Edit a b) (h2 : Edit b c) : Edit a c where
  linked k o h := h2.linked k o (h1.linked k o h)
  cont x hl hc := h2.cont x (h1.linked .cell x hl) (h1.cont x hl hc)
  member k o h := (h2.member k o h).elim (fun h => (h1.member k o h).imp_right (h2.linked k o)) Or.inr
  surf x s h := (h2.surf x s h).elim
    (fun h => (h1.surf x s h).imp_right fun h hl hc => h2.linked .surface s (h hl hc))
    (fun h => Or.inr fun hl hc => h (h1.linked .cell x hl) (h1.cont x hl hc))
  mat x m h := (h2.mat x m h).elim (fun h => (h1.mat x m h).imp_right fun h hl => h2.linked .material m (h hl))
    (fun h => Or.inr fun hl => h (h1.linked .cell x hl))
  univ x u h := (h2.univ x u h).elim (fun h => (h1.univ x u h).imp_right fun h hl => h2.linked .universe u (h hl))
    (fun h => Or.inr fun hl => h (h1.linked .cell x hl))
  cell d h := (h2.cell d h).elim
    (fun h => (h1.cell d h).imp_right fun ⟨hl, hg⟩ => ⟨h2.linked .cell d hl, hg.edit hl h2⟩) Or.inr

theorem InvLinked.edit {st st' : St} (h : InvLinked st) (e : Edit st st') : InvLinked st' :=
  fun k o ho => (e.member k o ho).elim (fun hm => e.linked k o (h k o hm)) id

theorem PExt.edit {st st' : St} (e : PExt st st') : Edit st st' where
  linked := e.linked
  cont x _ := e.cont x
  member k _ ho := Or.inl (e.members k ▸ ho)
  surf x s hs := (e.newSurf x s hs).imp_right fun h _ => h
  mat x _ hm := Or.inl (e.mat x ▸ hm)
  univ x _ hu := Or.inl (e.univ x ▸ hu)
  cell d hd := Or.inl (e.members .cell ▸ (hd : d ∈ st'.members .cell) : d ∈ st.members .cell)

/-- The record of one cell `c` is replaced: no surface is new, and a new material or universe is linked already (if `c`
    is).  The defaults are for an `f` that leaves the field in question alone. -/
theorem edit_updCell (st : St) (c : ObjId) (f : CellSt → CellSt)
    (hl : (f (st.cellOf c)).link = (st.cellOf c).link := by rfl)
    (hcl : (st.cellOf c).link = true → (st.cellOf c).contLinked = true → (f (st.cellOf c)).contLinked = true := by
      exact fun _ h => h)
    (hs : ∀ s, s ∈ (f (st.cellOf c)).surfs → s ∈ (st.cellOf c).surfs := by exact fun _ h => h)
    (hm : ∀ m, (f (st.cellOf c)).mat = some m →
      (st.cellOf c).mat = some m ∨ ((st.cellOf c).link = true → st.mlink m = true) := by exact fun _ => Or.inl)
    (hu : ∀ u, (f (st.cellOf c)).univ = some u →
      (st.cellOf c).univ = some u ∨ ((st.cellOf c).link = true → st.ulink u = true) := by exact fun _ => Or.inl) :
    Edit st (st.updCell c f) where
  linked k := by
    cases k
    · exact upd_cases (P := fun x (r : CellSt) => (st.cellOf x).link = true → r.link = true) (fun h => hl ▸ h)
        fun _ _ h => h
    all_goals exact fun _ h => h
  cont := upd_cases (P := fun x (r : CellSt) => (st.cellOf x).link = true → (st.cellOf x).contLinked = true →
    r.contLinked = true) hcl fun _ _ _ h => h
  member k _ ho := Or.inl (by cases k <;> exact ho)
  surf x s := upd_cases (P := fun x (r : CellSt) => s ∈ r.surfs → s ∈ (st.cellOf x).surfs ∨
    ((st.cellOf x).link = true → (st.cellOf x).contLinked = true → st.slink s = true)) (fun h => Or.inl (hs s h))
    (fun _ _ => Or.inl) x
  mat x m := upd_cases (P := fun x (r : CellSt) => r.mat = some m →
    (st.cellOf x).mat = some m ∨ ((st.cellOf x).link = true → st.mlink m = true)) (hm m) (fun _ _ => Or.inl) x
  univ x u := upd_cases (P := fun x (r : CellSt) => r.univ = some u →
    (st.cellOf x).univ = some u ∨ ((st.cellOf x).link = true → st.ulink u = true)) (hu u) (fun _ _ => Or.inl) x
  cell _ hd := Or.inl hd

/-- Only pointer tables are raised (and fields no invariant reads are changed).  The defaults are for a table that
    stays; `fun _ => ite_true_of` is the proof for `fun x => if … then true else old x` (`upd old o true` is such). -/
theorem edit_links {st st' : St} (hc : st'.cellOf = st.cellOf := by rfl)
    (hm : ∀ k, st'.members k = st.members k := by exact fun _ => rfl)
    (hs : ∀ x, st.slink x = true → st'.slink x = true := by exact fun _ h => h)
    (hml : ∀ x, st.mlink x = true → st'.mlink x = true := by exact fun _ h => h)
    (hu : ∀ x, st.ulink x = true → st'.ulink x = true := by exact fun _ h => h)
    (ht : ∀ x, st.tlink x = true → st'.tlink x = true := by exact fun _ h => h) :
    Edit st st' where
  linked k o h := by
    cases k
    · exact (show (st'.cellOf o).link = true from hc ▸ h)
    · exact hs o h
    · exact hml o h
    · exact hu o h
    · exact ht o h
  cont x _ h := hc ▸ h
  member k o ho := Or.inl (hm k ▸ ho)
  surf x s h := Or.inl (hc ▸ h)
  mat x m h := Or.inl (hc ▸ h)
  univ x u h := Or.inl (hc ▸ h)
  cell d hd := Or.inl (hm .cell ▸ (hd : d ∈ st'.members .cell) : d ∈ st.members .cell)

theorem setMembers_members (st : St) (k k' : Kind) (l : List ObjId) :
    (st.setMembers k l).members k' = if k' = k then l else st.members k' := by
  cases k <;> cases k' <;> rfl

/-- A member list may be replaced first, if in the end every new member is linked (a new cell: with what it
    points at). -/
theorem Edit.setMembers {st st' : St} {k : Kind} {l : List ObjId} (e : Edit (st.setMembers k l) st')
    (hnew : ∀ o ∈ l, o ∈ st.members k ∨ (st'.linked k o = true ∧ (k = .cell → GoodCell st' o))) :
    Edit st st' := by
  have hc : (st.setMembers k l).cellOf = st.cellOf := by cases k <;> rfl
  have hl : (st.setMembers k l).linked = st.linked := by cases k <;> rfl
  have hm : ∀ k' o, o ∈ (st.setMembers k l).members k' →
      o ∈ st.members k' ∨ (st'.linked k' o = true ∧ (k' = .cell → GoodCell st' o)) := by
    intro k' o ho
    rw [setMembers_members] at ho
    split at ho
    · subst_vars; exact hnew o ho
    · exact Or.inl ho
  obtain ⟨e1, e2, e3, e4, e5, e6, e7⟩ := e
  rw [hc] at e2 e4 e5 e6
  rw [hl] at e1
  exact ⟨e1, e2, fun k' o ho => (e3 k' o ho).elim (fun h => (hm k' o h).imp_right And.left) Or.inr, e4, e5, e6,
    fun d hd => (e7 d hd).elim (fun h => (hm .cell d h).imp_right fun h' => ⟨h'.1, h'.2 rfl⟩) Or.inr⟩

def Step (st st' : St) : Prop := Edit st st' ∧ (InvContain st → InvContain st')

theorem Step.refl (st : St) : Step st st := ⟨Edit.refl st, id⟩

theorem Step.trans {a b c : St} (h1 : Step a b) (h2 : Step b c) : Step a c :=
  ⟨h1.1.trans h2.1, fun h => h2.2 (h1.2 h)⟩

theorem Reach.step {st st' : St} (h : Reach st) (s : Step st st') : Reach st' :=
  ⟨s.2 h.contain, h.linked.edit s.1,
   fun d hd => (s.1.cell d hd).elim (fun hm => (h.good d hm).edit (h.linked .cell d hm) s.1) And.right⟩

/-! ### the operations that touch no geometry and no container -/

theorem fst_ite {C : Prop} [Decidable C] {P : St → Prop} {a b : Res} (ha : P a.1) (hb : P b.1) :
    P (if C then a else b).1 := by
  split
  · exact ha
  · exact hb

structure Book (st st' : St) : Prop extends Edit st st' where
  same : SameCells st st'

theorem Book.refl (st : St) : Book st st := ⟨Edit.refl st, SameCells.refl st⟩

theorem Book.trans {a b c : St} (h1 : Book a b) (h2 : Book b c) : Book a c :=
  ⟨h1.toEdit.trans h2.toEdit, h1.same.trans h2.same⟩

theorem Book.step {st st' : St} (b : Book st st') : Step st st' := ⟨b.toEdit, fun h => h.same b.same⟩

theorem Book.foldl {α : Type} (f : St → α → St) (hf : ∀ s x, Book s (f s x)) :
    ∀ (l : List α) (st : St), Book st (l.foldl f st) := by
  intro l
  induction l with
  | nil => intro st; exact Book.refl st
  | cons a t ih => intro st; exact (hf st a).trans (ih (f st a))

theorem Book.setMembers {st st' : St} {k : Kind} {l : List ObjId} (e : Book (st.setMembers k l) st')
    (hnew : ∀ o ∈ l, o ∈ st.members k ∨ (st'.linked k o = true ∧ (k = .cell → GoodCell st' o))) : Book st st' :=
  ⟨e.toEdit.setMembers hnew, (by cases k <;> exact e.same)⟩

theorem Edit.book {st st' : St} (e : Edit st st') (hc : st'.cellOf = st.cellOf := by rfl) : Book st st' :=
  ⟨e, fun _ => hc ▸ ⟨rfl, rfl, rfl⟩⟩

theorem book_setNum (st : St) (k : Kind) (o : ObjId) (n : Int) : Book st (st.setNum k o n) := by
  cases k <;> exact Edit.book edit_links

theorem goodCell_linkCell_self (st : St) (o : ObjId) : GoodCell (st.linkCell o) o := by
  have hc : (st.linkCell o).cellOf o = { st.cellOf o with link := true, contLinked := true } := upd_self _ _ _
  unfold GoodCell
  rw [hc]
  exact ⟨rfl, fun s hs => if_pos (List.contains_iff_mem.mpr hs), fun m hm => if_pos (beq_iff_eq.mpr hm),
    fun u hu => if_pos (beq_iff_eq.mpr hu)⟩

theorem setLinked_spec (st : St) (k : Kind) (o : ObjId) :
    Book st (st.setLinked k o) ∧ (st.setLinked k o).linked k o = true ∧
    (k = .cell → GoodCell (st.setLinked k o) o) := by
  cases k
  · exact ⟨⟨(linkCell_ext st o).pExt.edit, sameCells_linkCell st o⟩, congrArg CellSt.link (upd_self _ _ _),
      fun _ => goodCell_linkCell_self st o⟩
  · exact ⟨Edit.book (edit_links (hs := fun _ => ite_true_of)), upd_self _ _ _, nofun⟩
  · exact ⟨Edit.book (edit_links (hml := fun _ => ite_true_of)), upd_self _ _ _, nofun⟩
  · exact ⟨Edit.book (edit_links (hu := fun _ => ite_true_of)), upd_self _ _ _, nofun⟩
  · exact ⟨Edit.book (edit_links (ht := fun _ => ite_true_of)), upd_self _ _ _, nofun⟩

theorem setLinkedFold_spec (k : Kind) : ∀ (l : List ObjId) (st : St),
    Book st (l.foldl (fun s o => s.setLinked k o) st) ∧
    ∀ o ∈ l, (l.foldl (fun s o => s.setLinked k o) st).linked k o = true ∧
      (k = .cell → GoodCell (l.foldl (fun s o => s.setLinked k o) st) o) := by
  intro l
  induction l with
  | nil => intro st; exact ⟨Book.refl st, fun _ ho => nomatch ho⟩
  | cons a t ih =>
    intro st
    obtain ⟨b0, l0, g0⟩ := setLinked_spec st k a
    obtain ⟨b, h⟩ := ih (st.setLinked k a)
    refine ⟨b0.trans b, fun o ho => ?_⟩
    rcases List.mem_cons.mp ho with rfl | ht
    · exact ⟨b.linked k o l0, fun hk => (g0 hk).edit (hk ▸ l0) b.toEdit⟩
    · exact h o ht

/-- first the pointer table is raised (if the cell is linked), then in that state the record is replaced -/
theorem setMaterial_book (st : St) (c : ObjId) (m : Option ObjId) : Book st (setMaterial st c m).1 :=
  (Edit.book (st := st)
    (st' := { st with mlink := fun x => if (st.cellOf c).link && m == some x then true else st.mlink x })
    (edit_links (hml := fun _ => ite_true_of))).trans
  ⟨edit_updCell _ c (fun cs => { cs with mat := m })
    (hm := fun m' hm => Or.inr fun hl => if_pos (by rw [hl, show m = some m' from hm]; exact beq_self_eq_true _)),
   sameCells_updCell _ c (fun cs => { cs with mat := m }) ⟨rfl, rfl, rfl⟩⟩

theorem setUniverse_book (st : St) (c u : ObjId) : Book st (setUniverse st c u).1 :=
  (Edit.book (st := st)
    (st' := { st with ulink := fun x => if (st.cellOf c).link && u == x then true else st.ulink x })
    (edit_links (hu := fun _ => ite_true_of))).trans
  ⟨edit_updCell _ c (fun cs => { cs with univ := some u }) (hu := fun u' hu => Or.inr fun hl =>
      if_pos (by rw [hl, show u = u' from Option.some.inj hu]; exact beq_self_eq_true _)),
   sameCells_updCell _ c (fun cs => { cs with univ := some u }) ⟨rfl, rfl, rfl⟩⟩

theorem setFill_book (st : St) (c : ObjId) (u : Option ObjId) : Book st (setFill st c u).1 :=
  ⟨edit_updCell st c (fun cs => { cs with fill := u }),
   sameCells_updCell st c (fun cs => { cs with fill := u }) ⟨rfl, rfl, rfl⟩⟩

/-- a new *cell* is good because `Cell.link_to_problem` links what it already points at -/
theorem collAppend_book (st : St) (k : Kind) (o : ObjId) : Book st (collAppend st k o).1 := by
  obtain ⟨b, hl, hg⟩ := setLinked_spec (st.setMembers k (st.members k ++ [o])) k o
  refine fst_ite (Book.refl st) (b.setMembers fun x hx => ?_)
  rcases List.mem_append.mp hx with hx | hx
  · exact Or.inl hx
  · cases List.mem_singleton.mp hx
    exact Or.inr ⟨hl, hg⟩

theorem collRemove_book (st : St) (k : Kind) (o : ObjId) : Book st (collRemove st k o).1 := by
  unfold collRemove
  split
  · exact Book.refl st
  · exact (Book.refl _).setMembers fun x hx => Or.inl (List.mem_of_mem_erase hx)

theorem collExtend_book (st : St) (k : Kind) (os : List ObjId) : Book st (collExtend st k os).1 := by
  obtain ⟨b, h⟩ := setLinkedFold_spec k os (st.setMembers k (st.members k ++ os))
  exact fst_ite (b.setMembers fun x hx => (List.mem_append.mp hx).imp_right (h x)) (Book.refl st)

theorem appendRenumber_book (st : St) (k : Kind) (o : ObjId) : Book st (appendRenumber st k o).1 :=
  have b1 := (setLinked_spec st k o).1
  fst_ite (Book.refl st) (fst_ite (fst_ite b1 ((b1.trans (book_setNum _ k o _)).trans (collAppend_book _ k o)))
    (b1.trans (collAppend_book _ k o)))

theorem setNumber_book (st : St) (k : Kind) (o : ObjId) (n : Int) : Book st (setNumber st k o n).1 :=
  fst_ite (Book.refl st) (fst_ite (Book.refl st) (book_setNum st k o n))

theorem claim_book (st : St) (u : ObjId) (cs : List ObjId) : Book st (claim st u cs).1 :=
  fst_ite (Book.foldl _ (fun s c => setUniverse_book s c u) cs st) (Book.refl st)

theorem setMaterials_book (st : St) (ms : List ObjId) : Book st (setMaterials st ms).1 :=
  fst_ite (Book.setMembers (k := .material) (l := ms) (Edit.book (edit_links (hml := fun _ => ite_true_of)))
    fun _ hx => Or.inr ⟨if_pos (List.contains_iff_mem.mpr hx), nofun⟩) (Book.refl st)

theorem setCells_book (st : St) (cs : List ObjId) : Book st (setCells st cs).1 := by
  obtain ⟨b, h⟩ := setLinkedFold_spec .cell cs (st.setMembers .cell cs)
  exact fst_ite (b.setMembers fun x hx => Or.inr (h x hx)) (Book.refl st)

theorem mem_insertByNum (num : ObjId → Int) (o x : ObjId) : ∀ l, x ∈ insertByNum num o l ↔ x = o ∨ x ∈ l := by
  intro l
  induction l with
  | nil => simp [insertByNum]
  | cons a t ih =>
    simp only [insertByNum]
    split
    · simp
    · simp only [List.mem_cons, ih, or_left_comm]

theorem mem_sortByNum (num : ObjId → Int) (x : ObjId) : ∀ l, x ∈ sortByNum num l ↔ x ∈ l := by
  intro l
  induction l with
  | nil => simp [sortByNum]
  | cons a t ih =>
    have : sortByNum num (a :: t) = insertByNum num a (sortByNum num t) := rfl
    rw [this, mem_insertByNum, ih, List.mem_cons]

/-- `data_inputs` (`dM`, `dT`) is read by no invariant -/
theorem book_install (st : St) (S M T dM dT : List ObjId) (sl ml tl : ObjId → Bool)
    (hS : ∀ x ∈ S, sl x = true) (hM : ∀ x ∈ M, ml x = true) (hT : ∀ x ∈ T, tl x = true)
    (hsl : ∀ x, st.slink x = true → sl x = true) (hml : ∀ x, st.mlink x = true → ml x = true)
    (htl : ∀ x, st.tlink x = true → tl x = true) :
    Book st { st with surfaces := S, materials := M, transforms := T, slink := sl, mlink := ml, tlink := tl,
                      dataM := dM, dataT := dT } :=
  Book.setMembers (k := .surface) (l := S) (Book.setMembers (k := .material) (l := M) (Book.setMembers
    (k := .transform) (l := T) (edit_links (hs := hsl) (hml := hml) (ht := htl)).book
    fun x hx => Or.inr ⟨hT x hx, nofun⟩) fun x hx => Or.inr ⟨hM x hx, nofun⟩) fun x hx => Or.inr ⟨hS x hx, nofun⟩

theorem addCellChildren_book (st : St) : Book st (addCellChildren st).1 :=
  have hin : ∀ (num : ObjId → Int) (l : List ObjId) (f : ObjId → Bool), ∀ x ∈ sortByNum num l,
      (if l.contains x then true else f x) = true :=
    fun _ _ _ _ hx => if_pos (List.contains_iff_mem.mpr ((mem_sortByNum _ _ _).mp hx))
  fst_ite (Book.refl st) (book_install st _ _ _ _ _ _ _ _ (hin _ _ _) (hin _ _ _) (hin _ _ _) (fun _ h => ite_true_of h)
    (fun _ h => ite_true_of h) (fun _ h => ite_true_of h))

/-! ### the operations on a geometry -/

theorem Ext.step {st st' : St} (e : Ext st st') : Step st st' := ⟨e.pExt.edit, fun h => h.ext e⟩

theorem Ext.step_store {st st1 : St} (e : Ext st st1) (c : ObjId) (g : HS) (hg : InvContain st → Good st1 c g) :
    Step st (st1.updCell c (fun cs => { cs with geom := some g })) :=
  ⟨e.pExt.edit.trans (edit_updCell st1 c (fun cs => { cs with geom := some g })), fun h => inv_setGeom (h.ext e) (hg h)⟩

theorem setGeometry_step (st : St) (c : ObjId) (g : HS) : Step st (setGeometry st c g).1 := by
  unfold setGeometry
  generalize hr : addChildren st c g = r
  obtain ⟨st1, e⟩ := r
  have hs := addChildren_spec st c g st1 e hr
  cases e with
  | some err => exact hs.1.step
  | none => exact hs.1.step_store c _ fun _ => hs.2 rfl

theorem iopCell_step (u : Bool) (st : St) (c : ObjId) (other : HS) : Step st (iopCell u st c other).1 := by
  unfold iopCell
  split
  · exact Step.refl st
  · rename_i g hg
    generalize hr : iop u st g other = res
    obtain ⟨⟨st1, e1⟩, g1, ret⟩ := res
    have hs := iop_spec u other g st st1 e1 g1 ret hr
    have h1 := hs.1.step_store c g1 fun h => hs.2 c (h c g hg)
    cases e1 with
    | some err => exact h1
    | none => exact h1.trans (setGeometry_step _ c _)

theorem iopAlias_step (u : Bool) (st : St) (c : ObjId) (other : HS) : Step st (iopAlias u st c other).1 := by
  unfold iopAlias
  split
  · exact Step.refl st
  · rename_i g hg
    generalize hr : iop u st g other = res
    obtain ⟨⟨st1, e1⟩, g1, ret⟩ := res
    have hs := iop_spec u other g st st1 e1 g1 ret hr
    exact hs.1.step_store c g1 fun h => hs.2 c (h c g hg)

theorem setChild_step (st : St) (c : ObjId) (path : List Bool) (right : Bool) (new : HS) :
    Step st (setChild st c path right new).1 := by
  unfold setChild
  split
  · exact Step.refl st
  · rename_i g hg
    split
    · rename_i u l r p hget
      generalize hr : linkChild st p new = lres
      obtain ⟨⟨st1, e1⟩, n'⟩ := lres
      have hs := linkChild_spec st p new st1 e1 n' hr
      cases e1 with
      | some err => exact hs.1.step
      | none =>
        refine hs.1.step_store c _ fun h => ?_
        obtain ⟨hp, hl, hr⟩ := good_bin.mp (good_get g path _ (h c g hg) hget)
        refine good_set g path _ ((h c g hg).ext hs.1) ?_
        cases right
        · exact good_bin.mpr ⟨hp, hs.2 c hp rfl, hr.ext hs.1⟩
        · exact good_bin.mpr ⟨hp, hl.ext hs.1, hs.2 c hp rfl⟩
    · rename_i l p hget
      split
      · exact Step.refl st
      · generalize hr : linkChild st p new = lres
        obtain ⟨⟨st1, e1⟩, n'⟩ := lres
        have hs := linkChild_spec st p new st1 e1 n' hr
        cases e1 with
        | some err => exact hs.1.step
        | none =>
          refine hs.1.step_store c _ fun h => ?_
          obtain ⟨hp, _⟩ := good_compl.mp (good_get g path _ (h c g hg) hget)
          exact good_set g path _ ((h c g hg).ext hs.1) (good_compl.mpr ⟨hp, hs.2 c hp rfl⟩)
    · exact Step.refl st

theorem registerDivider_spec (st : St) (p : Option ObjId) (ic : Bool) (d : ObjId) (side : Bool) (st' : St)
    (e : Option Err) (h : registerDivider st p ic d = (st', e)) :
    Ext st st' ∧ ∀ c, p = some c → e = none → Good st' c (.leaf ic d side p) := by
  cases p with
  | none => cases h; exact ⟨Ext.refl st, fun _ h => nomatch h⟩
  | some c =>
    have h := registerDivider_exact st c ic d side st' e h
    exact ⟨h.1, fun _ hc hok => Option.some.inj hc ▸ ⟨beq_self_eq_true _,
      fun s hs => ((h.2.2 hok).1 s).mpr (Or.inr hs), fun x hx => ((h.2.2 hok).2 x).mpr (Or.inr hx)⟩⟩

theorem setDivider_step (st : St) (c : ObjId) (path : List Bool) (ic : Bool) (d : ObjId) :
    Step st (setDivider st c path ic d).1 := by
  unfold setDivider
  split
  · exact Step.refl st
  · rename_i g hg
    split
    · rename_i ic0 d0 side p hget
      split
      · exact Step.refl st
      · generalize hr : registerDivider st p ic0 d = r
        obtain ⟨st1, e1⟩ := r
        have hs := registerDivider_spec st p ic0 d side st1 e1 hr
        cases e1 with
        | some err => exact hs.1.step
        | none =>
          have hg1 : (st1.cellOf c).geom = some g := by rw [hs.1.geom c]; exact hg
          simp only [replaceDivider, hg1]
          refine hs.1.step_store c _ fun h => good_set g path _ ((h c g hg).ext hs.1) (hs.2 c ?_ rfl)
          have hnode := good_get g path _ (h c g hg) hget
          exact beq_iff_eq.mp hnode.1
    · exact Step.refl st

/-! ### every operation, and histories of them -/

/-- Every modelled operation, also when it raises, is an `Edit` and keeps containment. -/
theorem step_spec (st : St) (op : Op) : Step st (step st op).1 := by
  cases op with
  | setGeometry c g => exact setGeometry_step st c g
  | iopCell u c g => exact iopCell_step u st c g
  | iopAlias u c g => exact iopAlias_step u st c g
  | setDivider c p ic d => exact setDivider_step st c p ic d
  | setChild c p r g => exact setChild_step st c p r g
  | setMaterial c m => exact (setMaterial_book st c m).step
  | setUniverse c u => exact (setUniverse_book st c u).step
  | claim u cs => exact (claim_book st u cs).step
  | setFill c u => exact (setFill_book st c u).step
  | setNumber k o n => exact (setNumber_book st k o n).step
  | append k o => exact (collAppend_book st k o).step
  | remove k o => exact (collRemove_book st k o).step
  | extend k os => exact (collExtend_book st k os).step
  | appendRenumber k o => exact (appendRenumber_book st k o).step
  | setMaterials ms => exact (setMaterials_book st ms).step
  | setCells cs => exact (setCells_book st cs).step
  | addCellChildren => exact (addCellChildren_book st).step
  | reupdate => exact (Book.refl st).step

/-- A history of operations is a `Step`. -/
theorem run_spec : ∀ (ops : List Op) (st : St), Step st (run st ops) := by
  intro ops
  induction ops with
  | nil => exact Step.refl
  | cons op t ih => intro st; exact (step_spec st op).trans (ih _)

end MontePyVerif.Links
