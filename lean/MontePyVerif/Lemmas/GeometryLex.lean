import MontePyVerif.Spec.Geometry
import MontePyVerif.Model.Geometry
/-! Character-level lemmas about the Spec's lexer `lexAux`.
    `Steps p0 c0 T ts p c`: reading the text `T` from lexer state `(p0, c0)` (pending lexeme, inside comment)
    emits the tokens `ts` and leaves the lexer in state `(p, c)`, whatever follows.  The relation composes by
    transitivity, so a printer's output can be followed piece by piece. -/
namespace MontePyVerif.Spec.Geometry
open MontePyVerif.Geometry (cmtAfter)

/-- a pending lexeme that may end here -/
def Complete : Pend → Prop
  | .none => True
  | .digits _ _ => True
  | .hdigits _ => True
  | _ => False

/-- the token a complete pending lexeme stands for -/
def ftoks : Pend → List Tok
  | .digits neg v => [.num v neg]
  | .hdigits v => [.cell v]
  | _ => []

theorem flush_complete {p : Pend} (h : Complete p) : flush p = some (ftoks p) := by
  cases p with
  | none | digits | hdigits => rfl
  | sign | hash => exact h.elim

theorem emit_complete {p : Pend} (h : Complete p) (t : List Tok) (r : Option (List Tok)) :
    emit p t r = r.map (fun b => ftoks p ++ t ++ b) := by
  unfold emit; rw [flush_complete h]; cases r <;> rfl

def Steps (p0 : Pend) (c0 : Bool) (T : List GCh) (ts : List Tok) (p : Pend) (c : Bool) : Prop :=
  ∀ rest, lexAux p0 c0 (T ++ rest) = (lexAux p c rest).map (fun b => ts ++ b)

theorem Steps.nil (p : Pend) (c : Bool) : Steps p c [] [] p c := by
  intro rest; show lexAux p c rest = _; cases lexAux p c rest <;> rfl

theorem Steps.trans {p0 c0 T1 ts1 p1 c1 T2 ts2 p2 c2}
    (h1 : Steps p0 c0 T1 ts1 p1 c1) (h2 : Steps p1 c1 T2 ts2 p2 c2) :
    Steps p0 c0 (T1 ++ T2) (ts1 ++ ts2) p2 c2 := by
  intro rest
  rw [List.append_assoc, h1, h2]
  cases lexAux p2 c2 rest <;> simp [List.append_assoc]

theorem Steps.cast {p0 c0 T ts p c T' ts'} (h : Steps p0 c0 T ts p c) (hT : T = T') (hts : ts = ts') :
    Steps p0 c0 T' ts' p c := by subst hT; subst hts; exact h

theorem Steps.cons {p c x p1 c1 T ts p2 c2} (hx : ∀ rest, lexAux p c (x :: rest) = lexAux p1 c1 rest)
    (h : Steps p1 c1 T ts p2 c2) : Steps p c (x :: T) ts p2 c2 :=
  fun rest => (hx _).trans (h rest)

theorem Steps.emit {p x t c} (hp : Complete p)
    (hx : ∀ rest, lexAux p false (x :: rest) = emit p t (lexAux .none c rest)) :
    Steps p false [x] (ftoks p ++ t) .none c := by
  intro rest; rw [List.singleton_append, hx, emit_complete hp]

/-! single characters -/

theorem step_rp {p} (h : Complete p) : Steps p false [.rp] (ftoks p ++ [.rp]) .none false :=
  Steps.emit h fun _ => rfl
theorem step_colon {p} (h : Complete p) : Steps p false [.colon] (ftoks p ++ [.colon]) .none false :=
  Steps.emit h fun _ => rfl
theorem step_lp {p} (h : Complete p) : Steps p false [.lp] (ftoks p ++ [.lp]) .none false := by
  have hp : p ≠ .hash := by intro e; subst e; exact h
  exact Steps.emit h fun _ => if_neg hp
theorem step_clp : Steps .hash false [.lp] [.clp] .none false :=
  fun _ => emit_complete (p := .none) trivial [.clp] _
theorem step_hash : Steps .none false [.hash] [] .hash false :=
  Steps.cons (fun _ => rfl) (Steps.nil _ _)

theorem lexAux_comment (p : Pend) (x : GCh) (rest : List GCh) :
    lexAux p true (x :: rest) = lexAux .none (x != .nl) rest := by
  show (if x = .nl then _ else _) = _
  by_cases hx : x = .nl
  · rw [if_pos hx, hx]; rfl
  · rw [if_neg hx, bne_iff_ne.2 hx]

/-! separators -/

/-- every character that is not hidden in a comment is a separator -/
def isSep : Bool → List GCh → Bool
  | _, [] => true
  | true, x :: xs => isSep (x != .nl) xs
  | false, .sp :: xs => isSep false xs
  | false, .nl :: xs => isSep false xs
  | false, .amp :: xs => isSep false xs
  | false, .cmt :: xs => isSep true xs
  | false, _ :: _ => false

theorem cmtAfter_append (c : Bool) (a b : List GCh) : cmtAfter c (a ++ b) = cmtAfter (cmtAfter c a) b := by
  induction a generalizing c with
  | nil => rfl
  | cons x xs ih => cases c <;> exact ih _

theorem isSep_append (c : Bool) (a b : List GCh) : isSep c (a ++ b) = (isSep c a && isSep (cmtAfter c a) b) := by
  induction a generalizing c with
  | nil => rfl
  | cons x xs ih =>
    cases c
    · cases x with
      | sp | nl | amp | cmt => exact ih _
      | _ => rfl
    · exact ih _

theorem isSep_of_false (c : Bool) {S : List GCh} (h : isSep false S = true) : isSep c S = true := by
  induction S generalizing c with
  | nil => rfl
  | cons x xs ih =>
    cases c
    · exact h
    · cases x with
      | sp | nl | amp => exact ih _ h
      | cmt => exact h
      | _ => cases h

theorem sep_head {p : Pend} (hp : Complete p) {x : GCh} {xs : List GCh} (h : isSep false (x :: xs) = true) :
    Steps p false [x] (ftoks p) .none (x == .cmt) ∧ isSep (x == .cmt) xs = true := by
  have hs {c} (hx : ∀ rest, lexAux p false (x :: rest) = emit p [] (lexAux .none c rest)) :
      Steps p false [x] (ftoks p) .none c := (Steps.emit hp hx).cast rfl (List.append_nil _)
  cases x with
  | sp | nl | amp | cmt => exact ⟨hs fun _ => rfl, h⟩
  | _ => cases h

theorem sep_steps {c : Bool} {S : List GCh} (h : isSep c S = true) : Steps .none c S [] .none (cmtAfter c S) := by
  induction S generalizing c with
  | nil => exact Steps.nil _ _
  | cons x xs ih =>
    cases c
    · obtain ⟨h1, h2⟩ := sep_head (p := .none) trivial h
      exact h1.trans (ih h2)
    · exact Steps.cons (lexAux_comment _ x) (ih h)

theorem sep_steps_pending {p : Pend} (hp : Complete p) {x : GCh} {S : List GCh} (h : isSep false (x :: S) = true) :
    Steps p false (x :: S) (ftoks p) .none (cmtAfter false (x :: S)) := by
  obtain ⟨h1, h2⟩ := sep_head hp h
  exact (h1.trans (sep_steps h2)).cast rfl (List.append_nil _)

/-! numerals -/

def digVal : Nat → List GCh → Option Nat
  | a, [] => some a
  | a, .digit d :: cs => digVal (10 * a + d) cs
  | _, _ :: _ => none

/-- the value of a surface token: optional sign, then digits -/
def tokVal : List GCh → Option (Bool × Nat)
  | .digit d :: cs => (digVal d cs).map fun v => (false, v)
  | .plus :: .digit d :: cs => (digVal d cs).map fun v => (false, v)
  | .minus :: .digit d :: cs => (digVal d cs).map fun v => (true, v)
  | _ => none

/-- the value of a cell token behind `#`: digits only -/
def cellVal : List GCh → Option Nat
  | .digit d :: cs => digVal d cs
  | _ => none

theorem digVal_cons {a v : Nat} {x : GCh} {xs : List GCh} (h : digVal a (x :: xs) = some v) :
    ∃ d, x = .digit d ∧ digVal (10 * a + d) xs = some v := by
  cases x with
  | digit d => exact ⟨d, rfl, h⟩
  | _ => cases h

/-- `P` is `.digits neg` or `.hdigits` -/
theorem digVal_steps {P : Nat → Pend}
    (hP : ∀ a d rest, lexAux (P a) false (.digit d :: rest) = lexAux (P (10 * a + d)) false rest)
    {a v : Nat} {ds : List GCh} (h : digVal a ds = some v) : Steps (P a) false ds [] (P v) false := by
  induction ds generalizing a with
  | nil => cases h; exact Steps.nil _ _
  | cons x xs ih =>
    obtain ⟨d, rfl, h'⟩ := digVal_cons h
    exact Steps.cons (hP a d) (ih h')

theorem cellVal_shape {num : List GCh} {v : Nat} (h : cellVal num = some v) :
    ∃ d cs, num = .digit d :: cs ∧ digVal d cs = some v := by
  unfold cellVal at h
  split at h
  · exact ⟨_, _, rfl, h⟩
  · cases h

theorem cellVal_steps {q : Pend} {P : Nat → Pend}
    (hq : ∀ d rest, lexAux q false (.digit d :: rest) = lexAux (P d) false rest)
    (hP : ∀ a d rest, lexAux (P a) false (.digit d :: rest) = lexAux (P (10 * a + d)) false rest)
    {num : List GCh} {v : Nat} (h : cellVal num = some v) : Steps q false num [] (P v) false := by
  obtain ⟨d, cs, rfl, hd⟩ := cellVal_shape h
  exact Steps.cons (hq d) (digVal_steps hP hd)

theorem celltok_steps {tok : List GCh} {v : Nat} (h : cellVal tok = some v) :
    Steps .hash false tok [] (.hdigits v) false :=
  cellVal_steps (fun _ _ => rfl) (fun _ _ _ => rfl) h

theorem tokVal_shape {tok : List GCh} {neg : Bool} {v : Nat} (h : tokVal tok = some (neg, v)) :
    ∃ s num, tok = s ++ num ∧ cellVal num = some v ∧
      (s = [] ∧ neg = false ∨ s = [.plus] ∧ neg = false ∨ s = [.minus] ∧ neg = true) := by
  have inv {b : Bool} {o : Option Nat} (h : (o.map fun v => (b, v)) = some (neg, v)) : o = some v ∧ neg = b := by
    cases o with
    | none => cases h
    | some w => cases h; exact ⟨rfl, rfl⟩
  unfold tokVal at h
  split at h
  · exact ⟨[], _, rfl, (inv h).1, .inl ⟨rfl, (inv h).2⟩⟩
  · exact ⟨[.plus], _, rfl, (inv h).1, .inr (.inl ⟨rfl, (inv h).2⟩)⟩
  · exact ⟨[.minus], _, rfl, (inv h).1, .inr (.inr ⟨rfl, (inv h).2⟩)⟩
  · cases h

theorem tok_steps {tok : List GCh} {neg : Bool} {v : Nat} (h : tokVal tok = some (neg, v)) :
    Steps .none false tok [] (.digits neg v) false := by
  have hP (neg a d rest) : lexAux (.digits neg a) false (.digit d :: rest) =
      lexAux (.digits neg (10 * a + d)) false rest := rfl
  obtain ⟨s, num, rfl, hv, hs⟩ := tokVal_shape h
  rcases hs with ⟨rfl, rfl⟩ | ⟨rfl, rfl⟩ | ⟨rfl, rfl⟩
  · exact cellVal_steps (fun _ _ => rfl) (hP false) hv
  · exact Steps.cons (fun _ => rfl) (cellVal_steps (q := .sign false) (fun _ _ => rfl) (hP false) hv)
  · exact Steps.cons (fun _ => rfl) (cellVal_steps (q := .sign true) (fun _ _ => rfl) (hP true) hv)

theorem lex_of_steps {T ts p c} (h : Steps .none false T ts p c) (hp : Complete p) (hc : c = true → p = .none) :
    lex T = some (ts ++ ftoks p) := by
  have := h []
  rw [List.append_nil] at this
  unfold lex; rw [this]
  cases c
  · show Option.map _ (flush p) = _
    rw [flush_complete hp]; rfl
  · rw [hc rfl]; rfl

end MontePyVerif.Spec.Geometry
