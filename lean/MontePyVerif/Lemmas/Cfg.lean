import MontePyVerif.Spec.Card
/-! # Lemmas.Cfg — context-free derivability, for ANY production list that contains the required productions

`Der P A w`: the symbol `A` derives the sentential form `w` using productions of `P` (a symbol of a right-hand
side may also stand for itself, which is how terminals enter).  `Props/C12.lean` instantiates `P` with the
productions the translator extracted from the SLY parser classes; the kernel decides the inclusions `req… ⊆ P`.

The inductions over G's derivations carry the trailing padding as a parameter of the statement, because MontePy's
grammar attaches padding to the phrase on its LEFT while G puts gaps BETWEEN words.
-/
namespace MontePyVerif.Cfg
open MontePyVerif.Spec.Card

abbrev Prods := List (String × List String)

mutual
inductive Der (P : Prods) : String → List String → Prop
  | rule {lhs : String} {rhs w : List String} : (lhs, rhs) ∈ P → DerL P rhs w → Der P lhs w
/-- a right-hand side derives the concatenation of what its symbols derive -/
inductive DerL (P : Prods) : List String → List String → Prop
  | nil : DerL P [] []
  | tok {s : String} {ss ws : List String} : DerL P ss ws → DerL P (s :: ss) (s :: ws)
  | nt {s : String} {ss w ws : List String} : Der P s w → DerL P ss ws → DerL P (s :: ss) (w ++ ws)
end

variable {P : Prods}

theorem Der.cast {A : String} {w w' : List String} (h : Der P A w) (e : w = w') : Der P A w' := e ▸ h

/-- `prod_mem` proves `p ∈ req…` for `p` in the literal that ends `req…` (`reqA ++ reqB ++ [ … ]`):
    `List.mem_append_right` once, then `List.Mem.tail` until `List.Mem.head` unifies.  Not `decide`: it tests string
    equality at every entry passed, and the kernel compares strings through their UTF-8 encoding, very slowly.
    Trap: `p` must be known, from the expected type (`hP (by prod_mem)` where a lemma names the production) or an
    ascription (`(by prod_mem : (X, rhs) ∈ req…)`); else `head` settles for the first entry.  A production of an
    earlier list is proved there and carried over by `…_sub_…`. -/
macro "prod_mem" : tactic =>
  `(tactic| (first | refine List.mem_append_right _ ?_ | skip
             repeat (first | exact .head _ | apply List.Mem.tail)))

/-- a right-hand side of one symbol (`DerL.nt h .nil` would leave `w ++ []` behind) -/
theorem DerL.one {s : String} {w : List String} (h : Der P s w) : DerL P [s] w := by
  simpa using DerL.nt h .nil

theorem DerL.append {α β u v : List String} (hα : DerL P α u) (hβ : DerL P β v) : DerL P (α ++ β) (u ++ v) := by
  induction α generalizing u with
  | nil => cases hα; exact hβ
  | cons s ss ih =>
    cases hα with
    | tok h => exact .tok (ih h)
    | nt hd h => rw [List.append_assoc]; exact .nt hd (ih h)

/-- `X → Y` -/
theorem Der.unit {X Y : String} {w : List String} (hr : (X, [Y]) ∈ P) (h : Der P Y w) : Der P X w :=
  .rule hr (.one h)

/-! ## padding -/

def reqPadding : Prods :=
  [("padding", ["SPACE"]), ("padding", ["DOLLAR_COMMENT"]), ("padding", ["COMMENT"]),
   ("padding", ["padding", "SPACE"]), ("padding", ["padding", "DOLLAR_COMMENT"]),
   ("padding", ["padding", "COMMENT"]), ("padding", ["padding", "&"])]

theorem pad_snoc (hP : reqPadding ⊆ P) : ∀ (rest : Gap) (w : List String),
    Der P "padding" w → Der P "padding" (w ++ Gap.cls rest) := by
  intro rest
  induction rest with
  | nil => intro w h; simpa [Gap.cls] using h
  | cons x xs ih =>
    intro w h
    have hr : ("padding", ["padding", x.cls]) ∈ P := by cases x <;> exact hP (by prod_mem)
    simpa [Gap.cls, List.append_assoc] using ih (w ++ [x.cls]) (.rule hr (.nt h (.tok .nil)))

theorem pad_der (hP : reqPadding ⊆ P) (g : Gap) (hok : g.ok = true) (hne : g ≠ []) :
    Der P "padding" g.cls := by
  cases g with
  | nil => exact absurd rfl hne
  | cons x xs =>
    have hr : ("padding", [x.cls]) ∈ P := by
      cases x
      case amp => simp [Gap.ok] at hok
      all_goals exact hP (by prod_mem)
    simpa [Gap.cls] using pad_snoc hP xs [x.cls] (.rule hr (.tok .nil))

theorem req_split {g : Gap} (h : g.req = true) : g.ok = true ∧ g ≠ [] := by
  unfold Gap.req at h
  cases g with
  | nil => simp at h
  | cons x xs => simp at h; exact ⟨h, by simp⟩

/-- `X → α β | α padding β` -/
theorem opt_pad (hP : reqPadding ⊆ P) {X : String} {α β u v : List String} (hα : DerL P α u) (hβ : DerL P β v)
    (h0 : (X, α ++ β) ∈ P) (h1 : (X, α ++ "padding" :: β) ∈ P) (g : Gap) (hok : g.ok = true) :
    Der P X (u ++ g.cls ++ v) := by
  by_cases hg : g = []
  · subst hg; exact (Der.rule h0 (hα.append hβ)).cast (by simp [Gap.cls])
  · exact (Der.rule h1 (hα.append (.nt (pad_der hP g hok hg) hβ))).cast (by simp)

/-- `X → β | padding β` -/
theorem lead_der (hP : reqPadding ⊆ P) {X : String} {β v : List String} (hβ : DerL P β v)
    (h0 : (X, β) ∈ P) (h1 : (X, "padding" :: β) ∈ P) (g : Gap) (hok : g.ok = true) : Der P X (g.cls ++ v) :=
  opt_pad hP .nil hβ h0 h1 g hok

/-- `X → α | α padding` -/
theorem trail_der (hP : reqPadding ⊆ P) {X : String} {α u : List String} (hα : DerL P α u)
    (h0 : (X, α) ∈ P) (h1 : (X, α ++ ["padding"]) ∈ P) (g : Gap) (hok : g.ok = true) : Der P X (u ++ g.cls) :=
  (opt_pad hP hα .nil (by rwa [List.append_nil]) h1 g hok).cast (by simp)

/-- `X → t | t padding` -/
theorem phrase_der (hP : reqPadding ⊆ P) {X t : String} (h1 : (X, [t]) ∈ P) (h2 : (X, [t, "padding"]) ∈ P)
    (g : Gap) (hok : g.ok = true) : Der P X (t :: g.cls) :=
  trail_der hP (.tok .nil) h1 h2 g hok

/-- `X → Y | Y padding` -/
theorem wrap_der (hP : reqPadding ⊆ P) {X Y : String} (h1 : (X, [Y]) ∈ P) (h2 : (X, [Y, "padding"]) ∈ P)
    {w : List String} (hy : Der P Y w) (g : Gap) (hok : g.ok = true) : Der P X (w ++ g.cls) :=
  trail_der hP (.one hy) h1 h2 g hok

/-- `X → X padding` -/
theorem absorb_der (hP : reqPadding ⊆ P) {X : String} (hr : (X, [X, "padding"]) ∈ P) {w : List String}
    (h : Der P X w) (g : Gap) (hok : g.ok = true) : Der P X (w ++ g.cls) := by
  by_cases hg : g = []
  · subst hg; simpa [Gap.cls] using h
  · exact .rule hr (.nt h (.one (pad_der hP g hok hg)))

/-! ## cell geometry -/

def reqGeometry : Prods :=
  reqPadding ++
  [("union", [":"]), ("union", ["union", "padding"]),
   ("geometry_expr", ["geometry_term"]), ("geometry_expr", ["geometry_expr", "union", "geometry_term"]),
   ("geometry_term", ["geometry_factor"]), ("geometry_term", ["geometry_term", "padding"]),
   ("geometry_term", ["geometry_term", "geometry_factory"]),
   ("geometry_term", ["geometry_term", "COMPLEMENT", "geometry_factory"]),
   ("geometry_term", ["geometry_term", "padding", "geometry_factor"]),
   ("geometry_factor", ["COMPLEMENT", "geometry_factory"]), ("geometry_factor", ["geometry_factory"]),
   ("geometry_factory", ["(", "padding", "geometry_expr", ")"]), ("geometry_factory", ["(", "geometry_expr", ")"]),
   ("geometry_factory", ["NUMBER"])]

theorem reqPadding_sub_geometry : reqPadding ⊆ reqGeometry := List.subset_append_left _ _

section geometry
variable (hP : reqGeometry ⊆ P)
include hP

theorem union_der (g : Gap) (hok : g.ok = true) : Der P "union" (":" :: g.cls) :=
  absorb_der (reqPadding_sub_geometry.trans hP) (hP (by prod_mem))
    (.rule (hP (by prod_mem : ("union", [":"]) ∈ reqGeometry)) (.tok .nil)) g hok

theorem term_pad {w : List String} (h : Der P "geometry_term" w) (g : Gap) (hok : g.ok = true) :
    Der P "geometry_term" (w ++ g.cls) :=
  absorb_der (reqPadding_sub_geometry.trans hP) (hP (by prod_mem)) h g hok

theorem factor_of_factory {w : List String} (h : Der P "geometry_factory" w) : Der P "geometry_factor" w :=
  .unit (hP (by prod_mem)) h

theorem term_of_factor {w : List String} (h : Der P "geometry_factor" w) : Der P "geometry_term" w :=
  .unit (hP (by prod_mem)) h

theorem expr_of_term {w : List String} (h : Der P "geometry_term" w) : Der P "geometry_expr" w :=
  .unit (hP (by prod_mem)) h

/-- what a well-formed `Geom` derives from, level by level; a gap may follow where the grammar lets one follow -/
structure GeomDer (P : Prods) (e : Geom) : Prop where
  factory : e.isAtom = true → Der P "geometry_factory" e.classes
  operand : ∀ e' : Geom, e = Geom.compl e' → Der P "geometry_factory" e'.classes
  factor : e.level = 0 → Der P "geometry_factor" e.classes
  term : e.level ≤ 1 → ∀ pad : Gap, pad.ok = true → Der P "geometry_term" (e.classes ++ pad.cls)
  expr : ∀ pad : Gap, pad.ok = true → Der P "geometry_expr" (e.classes ++ pad.cls)

theorem GeomDer.ofTerm {e : Geom} (h : Der P "geometry_term" e.classes)
    (factory : e.isAtom = true → Der P "geometry_factory" e.classes)
    (operand : ∀ e' : Geom, e = Geom.compl e' → Der P "geometry_factory" e'.classes)
    (factor : e.level = 0 → Der P "geometry_factor" e.classes) : GeomDer P e :=
  ⟨factory, operand, factor, fun _ => term_pad hP h, fun pad hp => expr_of_term hP (term_pad hP h pad hp)⟩

theorem GeomDer.ofFactory {e : Geom} (h : Der P "geometry_factory" e.classes) (hc : ∀ e', e ≠ Geom.compl e') :
    GeomDer P e :=
  .ofTerm hP (term_of_factor hP (factor_of_factory hP h)) (fun _ => h) (fun e' he => absurd he (hc e'))
    (fun _ => factor_of_factory hP h)

theorem geom_der : ∀ e : Geom, e.WF = true → GeomDer P e := by
  have hpad : reqPadding ⊆ P := reqPadding_sub_geometry.trans hP
  intro e
  induction e with
  | surf t =>
    intro _
    exact .ofFactory hP (.rule (hP (by prod_mem : ("geometry_factory", ["NUMBER"]) ∈ reqGeometry)) (.tok .nil)) nofun
  | paren g1 e g2 ih =>
    intro hwf
    simp [Geom.WF, and_assoc] at hwf
    obtain ⟨h1, h2, he⟩ := hwf
    exact .ofFactory hP ((opt_pad hpad (.tok .nil) (.nt ((ih he).expr g2 h2) (.tok .nil))
      (hP (by prod_mem : ("geometry_factory", ["(", "geometry_expr", ")"]) ∈ reqGeometry))
      (hP (by prod_mem : ("geometry_factory", ["(", "padding", "geometry_expr", ")"]) ∈ reqGeometry)) g1 h1).cast
      (by simp [Geom.classes])) nofun
  | compl e ih =>
    intro hwf
    simp [Geom.WF] at hwf
    have hfy := (ih hwf.2).factory hwf.1
    have hf : Der P "geometry_factor" (Geom.compl e).classes :=
      .rule (hP (by prod_mem : ("geometry_factor", ["COMPLEMENT", "geometry_factory"]) ∈ reqGeometry))
        (.tok (.one hfy))
    exact .ofTerm hP (term_of_factor hP hf) (fun h => by simp [Geom.isAtom] at h) (fun e' h => by cases h; exact hfy)
      (fun _ => hf)
  | inter l gap r ihl ihr =>
    intro hwf
    simp [Geom.WF, and_assoc] at hwf
    obtain ⟨hl, hr, hll, hrl, hgok, hsep⟩ := hwf
    have h1 : Der P "geometry_term" l.classes := by simpa [Gap.cls] using (ihl hl).term hll [] rfl
    have hterm : Der P "geometry_term" (Geom.inter l gap r).classes := by
      by_cases hg : gap = []
      · subst hg
        rcases hsep with (h | h) | h
        · simp at h
        · exact (Der.rule (hP (by prod_mem : ("geometry_term", ["geometry_term", "geometry_factory"]) ∈ reqGeometry))
            (.nt h1 (.one ((ihr hr).factory h.1)))).cast (by simp [Geom.classes, Gap.cls])
        · cases r with
          | compl e' =>
            exact (Der.rule (hP (by prod_mem :
              ("geometry_term", ["geometry_term", "COMPLEMENT", "geometry_factory"]) ∈ reqGeometry))
              (.nt h1 (.tok (.one ((ihr hr).operand e' rfl))))).cast (by simp [Geom.classes, Gap.cls])
          | _ => simp [Geom.isCompl] at h
      · exact (Der.rule
          (hP (by prod_mem : ("geometry_term", ["geometry_term", "padding", "geometry_factor"]) ∈ reqGeometry))
          (.nt h1 (.nt (pad_der hpad gap hgok hg) (.one ((ihr hr).factor hrl))))).cast (by simp [Geom.classes])
    exact .ofTerm hP hterm (fun h => by simp [Geom.isAtom] at h) (fun e' h => by cases h)
      (fun h => by simp [Geom.level] at h)
  | union l g1 g2 r ihl ihr =>
    intro hwf
    simp [Geom.WF, and_assoc] at hwf
    obtain ⟨hl, hr, hrl, h1, h2⟩ := hwf
    refine ⟨(fun h => by simp [Geom.isAtom] at h), (fun e' h => by cases h), (fun h => by simp [Geom.level] at h),
      (fun h => by simp [Geom.level] at h), fun pad hp => ?_⟩
    exact (Der.rule (hP (by prod_mem : ("geometry_expr", ["geometry_expr", "union", "geometry_term"]) ∈ reqGeometry))
      (.nt ((ihl hl).expr g1 h1) (.nt (union_der hP g2 h2) (.one ((ihr hr).term hrl pad hp))))).cast
      (by simp [Geom.classes, List.append_assoc])

end geometry

/-! ## left-recursive lists:  X → Y | X Y  (Y may differ from element to element) -/

theorem leftrec_snoc {X : String} {α : Type} (cls : α → List String) :
    ∀ (l : List α) (w : List String), Der P X w →
      (∀ a ∈ l, ∃ Y, (X, [X, Y]) ∈ P ∧ Der P Y (cls a)) → Der P X (w ++ l.flatMap cls) := by
  intro l
  induction l with
  | nil => intro w h _; simpa using h
  | cons a as ih =>
    intro w h hall
    obtain ⟨Y, hr, hy⟩ := hall a (by simp)
    simpa [List.append_assoc] using
      ih (w ++ cls a) (.rule hr (.nt h (.one hy))) (fun b hb => hall b (by simp [hb]))

theorem leftrec {X : String} {α : Type} (cls : α → List String) (l : List α) (hne : l ≠ [])
    (hall : ∀ a ∈ l, ∃ Y, (X, [Y]) ∈ P ∧ (X, [X, Y]) ∈ P ∧ Der P Y (cls a)) : Der P X (l.flatMap cls) := by
  cases l with
  | nil => exact absurd rfl hne
  | cons a as =>
    obtain ⟨Y, h1, _, hy⟩ := hall a (by simp)
    simpa using leftrec_snoc cls as (cls a) (.unit h1 hy) (fun b hb => by
      obtain ⟨Y, _, h2, hy⟩ := hall b (by simp [hb]); exact ⟨Y, h2, hy⟩)

/-! ## numbers, jumps and shortcuts -/

def reqNumbers : Prods :=
  reqPadding ++
  [("number_phrase", ["NUMBER"]), ("number_phrase", ["NUMBER", "padding"]),
   ("null_phrase", ["NULL"]), ("null_phrase", ["NULL", "padding"]),
   ("numerical_phrase", ["number_phrase"]), ("numerical_phrase", ["null_phrase"]),
   ("shortcut_start", ["numerical_phrase"]),
   ("shortcut_sequence", ["shortcut_start", "NUM_REPEAT"]), ("shortcut_sequence", ["shortcut_start", "REPEAT"]),
   ("shortcut_sequence", ["shortcut_start", "NUM_MULTIPLY"]),
   ("shortcut_sequence", ["shortcut_start", "NUM_INTERPOLATE", "padding", "numerical_phrase"]),
   ("shortcut_sequence", ["shortcut_start", "INTERPOLATE", "padding", "numerical_phrase"]),
   ("shortcut_sequence", ["shortcut_start", "NUM_LOG_INTERPOLATE", "padding", "numerical_phrase"]),
   ("shortcut_sequence", ["shortcut_start", "LOG_INTERPOLATE", "padding", "numerical_phrase"]),
   ("shortcut_sequence", ["NUM_JUMP"]), ("shortcut_sequence", ["JUMP"]),
   ("shortcut_phrase", ["shortcut_sequence"]), ("shortcut_phrase", ["shortcut_sequence", "padding"]),
   ("number_sequence", ["numerical_phrase"]), ("number_sequence", ["shortcut_phrase"]),
   ("number_sequence", ["number_sequence", "numerical_phrase"]),
   ("number_sequence", ["number_sequence", "shortcut_phrase"])]

theorem reqPadding_sub_numbers : reqPadding ⊆ reqNumbers := List.subset_append_left _ _

section numbers
variable (hP : reqNumbers ⊆ P)
include hP

theorem number_phrase_der (g : Gap) (hok : g.ok = true) : Der P "number_phrase" ("NUMBER" :: g.cls) :=
  phrase_der (reqPadding_sub_numbers.trans hP) (hP (by prod_mem)) (hP (by prod_mem)) g hok

theorem numerical_phrase_der (n : Num) (g : Gap) (hok : g.ok = true) :
    Der P "numerical_phrase" (n.cls :: g.cls) := by
  by_cases hz : n.zero = true
  · have h : Der P "null_phrase" ("NULL" :: g.cls) :=
      phrase_der (reqPadding_sub_numbers.trans hP) (hP (by prod_mem)) (hP (by prod_mem)) g hok
    exact (Der.unit (hP (by prod_mem : ("numerical_phrase", ["null_phrase"]) ∈ reqNumbers)) h).cast
      (by simp [Num.cls, hz])
  · exact (Der.unit (hP (by prod_mem : ("numerical_phrase", ["number_phrase"]) ∈ reqNumbers))
      (number_phrase_der hP g hok)).cast (by simp [Num.cls, hz])

theorem shortcut_start_der (n : Num) (g : Gap) (hok : g.ok = true) : Der P "shortcut_start" (n.cls :: g.cls) :=
  .unit (hP (by prod_mem)) (numerical_phrase_der hP n g hok)

theorem sequence_of_phrase {w : List String} (h : Der P "numerical_phrase" w) : Der P "number_sequence" w :=
  .unit (hP (by prod_mem)) h

theorem shortcut_phrase_der {rhs w : List String} (hr : ("shortcut_sequence", rhs) ∈ P) (hd : DerL P rhs w)
    (g : Gap) (hok : g.ok = true) : Der P "shortcut_phrase" (w ++ g.cls) :=
  wrap_der (reqPadding_sub_numbers.trans hP) (hP (by prod_mem)) (hP (by prod_mem)) (.rule hr hd) g hok

theorem entry_der (e : Entry) (g : Gap) (hwf : e.WF = true) (hok : g.ok = true) :
    Der P "numerical_phrase" (e.classes ++ g.cls) ∨ Der P "shortcut_phrase" (e.classes ++ g.cls) := by
  cases e with
  | real n => exact .inl (numerical_phrase_der hP n g hok)
  | jump t c =>
    have hr : ("shortcut_sequence", [if c then "NUM_JUMP" else "JUMP"]) ∈ P := by
      cases c <;> exact hP (by prod_mem)
    exact .inr (shortcut_phrase_der hP hr (.tok .nil) g hok)
  | rep n gap t c =>
    have hs := shortcut_start_der hP n gap (req_split (by simpa [Entry.WF] using hwf)).1
    have hr : ("shortcut_sequence", ["shortcut_start", if c then "NUM_REPEAT" else "REPEAT"]) ∈ P := by
      cases c <;> exact hP (by prod_mem)
    exact .inr ((shortcut_phrase_der hP hr (.nt hs (.tok .nil)) g hok).cast (by simp [Entry.classes]))
  | mul n gap t =>
    have hs := shortcut_start_der hP n gap (req_split (by simpa [Entry.WF] using hwf)).1
    exact .inr ((shortcut_phrase_der hP
      (hP (by prod_mem : ("shortcut_sequence", ["shortcut_start", "NUM_MULTIPLY"]) ∈ reqNumbers))
      (.nt hs (.tok .nil)) g hok).cast (by simp [Entry.classes]))
  | interp a g1 t c lg g2 b =>
    simp [Entry.WF] at hwf
    obtain ⟨hg2, hg2ne⟩ := req_split hwf.2
    have hs := shortcut_start_der hP a g1 (req_split hwf.1).1
    have hp := pad_der (reqPadding_sub_numbers.trans hP) g2 hg2 hg2ne
    have hb := numerical_phrase_der hP b [] rfl
    -- the four interpolate productions differ in the token `i` only
    have key : ∀ i, ("shortcut_sequence", ["shortcut_start", i, "padding", "numerical_phrase"]) ∈ P →
        Der P "shortcut_phrase" ([a.cls] ++ g1.cls ++ [i] ++ g2.cls ++ [b.cls] ++ g.cls) := fun i hr =>
      (shortcut_phrase_der hP hr (.nt hs (.tok (.nt hp (.one hb)))) g hok).cast (by simp [Gap.cls])
    cases c <;> cases lg <;> exact .inr (key _ (hP (by prod_mem)))

theorem entries_elem (es : Entries) (hwf : es.WF = true) :
    ∀ eg ∈ es, ∃ Y, ("number_sequence", [Y]) ∈ P ∧ ("number_sequence", ["number_sequence", Y]) ∈ P ∧
      Der P Y (eg.1.classes ++ eg.2.cls) := by
  intro eg hmem
  have h1 : eg.1.WF = true ∧ eg.2.ok = true := by simpa using (List.all_eq_true.mp hwf) eg hmem
  rcases entry_der hP eg.1 eg.2 h1.1 h1.2 with h | h
  · exact ⟨"numerical_phrase", hP (by prod_mem), hP (by prod_mem), h⟩
  · exact ⟨"shortcut_phrase", hP (by prod_mem), hP (by prod_mem), h⟩

theorem entries_der (es : Entries) (hne : es ≠ []) (hwf : es.WF = true) :
    Der P "number_sequence" es.classes :=
  leftrec (fun eg : Entry × Gap => eg.1.classes ++ eg.2.cls) es hne (entries_elem hP es hwf)

theorem entries_snoc (es : Entries) (hwf : es.WF = true) {w : List String}
    (h : Der P "number_sequence" w) : Der P "number_sequence" (w ++ es.classes) :=
  leftrec_snoc (fun eg : Entry × Gap => eg.1.classes ++ eg.2.cls) es w h (fun eg hm => by
    obtain ⟨Y, _, h2, hy⟩ := entries_elem hP es hwf eg hm; exact ⟨Y, h2, hy⟩)

end numbers

/-! ## classifiers, separators -/

def reqClassifier : Prods :=
  reqPadding ++
  [("classifier", ["data_prefix"]), ("classifier", ["modifier", "data_prefix"]),
   ("classifier", ["classifier", "NUMBER"]), ("classifier", ["classifier", "particle_type"]),
   ("data_prefix", ["TEXT"]), ("data_prefix", ["KEYWORD"]), ("data_prefix", ["PARTICLE"]), ("modifier", ["*"]), ("modifier", ["PARTICLE_SPECIAL"]),
   ("particle_type", [":", "part"]), ("particle_type", ["particle_type", ",", "part"]), ("part", ["PARTICLE"]),
   ("param_seperator", ["padding"]), ("param_seperator", ["equals_sign"]),
   ("param_seperator", ["padding", "equals_sign"]), ("equals_sign", ["="]), ("equals_sign", ["=", "padding"])]

theorem reqPadding_sub_classifier : reqPadding ⊆ reqClassifier := List.subset_append_left _ _

section classifier
variable (hP : reqClassifier ⊆ P)
include hP

theorem particles_snoc : ∀ (rest : List String) (w : List String), Der P "particle_type" w →
    Der P "particle_type" (w ++ rest.flatMap (fun _ => [",", "PARTICLE"])) := by
  intro rest
  induction rest with
  | nil => intro w h; simpa using h
  | cons x xs ih =>
    intro w h
    have hpart : Der P "part" ["PARTICLE"] := .rule (hP (by prod_mem)) (.tok .nil)
    simpa [List.append_assoc] using ih _ (.rule
      (hP (by prod_mem : ("particle_type", ["particle_type", ",", "part"]) ∈ reqClassifier)) (.nt h (.tok (.one hpart))))

theorem classifier_der (c : Classifier) (hwf : c.WF = true) : Der P "classifier" c.classes := by
  have hw : (c.nameCls = "TEXT" ∨ c.nameCls = "KEYWORD" ∨ c.nameCls = "PARTICLE") ∧
      (c.starCls = "*" ∨ c.starCls = "PARTICLE_SPECIAL") := by
    simpa [Classifier.WF] using hwf
  have hprefix : Der P "data_prefix" [c.nameCls] := by
    have hr : ("data_prefix", [c.nameCls]) ∈ P := by
      rcases hw.1 with h | h | h <;> rw [h] <;> exact hP (by prod_mem)
    exact .rule hr (.tok .nil)
  have h0 : Der P "classifier" ((if c.star then [c.starCls] else []) ++ [c.nameCls]) := by
    cases c.star
    · exact .unit (hP (by prod_mem : ("classifier", ["data_prefix"]) ∈ reqClassifier)) hprefix
    · have hr : ("modifier", [c.starCls]) ∈ P := by
        rcases hw.2 with h | h <;> rw [h] <;> exact hP (by prod_mem)
      exact .rule (hP (by prod_mem : ("classifier", ["modifier", "data_prefix"]) ∈ reqClassifier))
        (.nt (.rule hr (.tok .nil)) (.one hprefix))
  have h1 : Der P "classifier" ((if c.star then [c.starCls] else []) ++ [c.nameCls] ++
      Classifier.numberClasses c.number) := by
    cases c.number with
    | none => simpa [Classifier.numberClasses] using h0
    | some _ =>
      exact .rule (hP (by prod_mem : ("classifier", ["classifier", "NUMBER"]) ∈ reqClassifier)) (.nt h0 (.tok .nil))
  unfold Classifier.classes
  cases hp : c.particles with
  | nil => simpa [Classifier.particleClasses] using h1
  | cons p ps =>
    have hpart : Der P "part" ["PARTICLE"] := .rule (hP (by prod_mem)) (.tok .nil)
    have hpt := particles_snoc hP ps _
      (.rule (hP (by prod_mem : ("particle_type", [":", "part"]) ∈ reqClassifier)) (.tok (.one hpart)))
    exact .rule (hP (by prod_mem : ("classifier", ["classifier", "particle_type"]) ∈ reqClassifier))
      (.nt h1 (.one hpt))

theorem sep_der (s : Sep) (hwf : s.WF = true) : Der P "param_seperator" s.classes := by
  have hpad : reqPadding ⊆ P := reqPadding_sub_classifier.trans hP
  simp [Sep.WF, and_assoc] at hwf
  obtain ⟨hb, ha, h1, h2⟩ := hwf
  unfold Sep.classes
  cases heq : s.eq with
  | false =>
    have hbne : s.before ≠ [] := by simpa [heq] using h1
    have hae : s.after = [] := by simpa [heq] using h2
    exact (Der.unit (hP (by prod_mem : ("param_seperator", ["padding"]) ∈ reqClassifier))
      (pad_der hpad s.before hb hbne)).cast (by simp [hae, Gap.cls])
  | true =>
    have heqs : Der P "equals_sign" ("=" :: s.after.cls) :=
      phrase_der hpad (hP (by prod_mem)) (hP (by prod_mem)) s.after ha
    exact (lead_der hpad (.one heqs) (hP (by prod_mem : ("param_seperator", ["equals_sign"]) ∈ reqClassifier))
      (hP (by prod_mem : ("param_seperator", ["padding", "equals_sign"]) ∈ reqClassifier)) s.before hb).cast (by simp)

end classifier

/-! ## cell cards -/

def reqCell : Prods :=
  reqGeometry ++ reqNumbers ++ reqClassifier ++
  [("parameter", ["classifier", "param_seperator", "number_sequence"]),
   ("parameters", ["parameter"]), ("parameters", ["parameters", "parameter"]),
   ("number_sequence", ["number_sequence", "(", "number_sequence", ")"]),
   ("number_sequence", ["number_sequence", "(", "number_sequence", ")", "padding"]),
   ("number_sequence", ["number_sequence", ":", "numerical_phrase"]),
   ("number_sequence", ["(", "number_sequence", ")"]), ("number_sequence", ["(", "number_sequence", ")", "padding"]),
   ("number_sequence", ["number_sequence", "(", "padding", "number_sequence", ")"]),
   ("number_sequence", ["number_sequence", "(", "padding", "number_sequence", ")", "padding"]),
   ("number_sequence", ["(", "padding", "number_sequence", ")"]),
   ("number_sequence", ["(", "padding", "number_sequence", ")", "padding"]),
   ("identifier_phrase", ["NUMBER"]), ("identifier_phrase", ["NUMBER", "padding"]),
   ("null_ident_phrase", ["NULL"]), ("null_ident_phrase", ["NULL", "padding"]),
   ("material", ["null_ident_phrase"]), ("material", ["identifier_phrase", "number_phrase"]),
   ("cell", ["identifier_phrase", "material", "geometry_expr"]),
   ("cell", ["identifier_phrase", "material", "geometry_expr", "parameters"]),
   ("cell", ["padding", "identifier_phrase", "material", "geometry_expr"]),
   ("cell", ["padding", "identifier_phrase", "material", "geometry_expr", "parameters"])]

theorem reqGeometry_sub_cell : reqGeometry ⊆ reqCell :=
  List.subset_append_of_subset_left _ (List.subset_append_of_subset_left _ (List.subset_append_left _ _))
theorem reqNumbers_sub_cell : reqNumbers ⊆ reqCell :=
  List.subset_append_of_subset_left _ (List.subset_append_of_subset_left _ (List.subset_append_right _ _))
theorem reqClassifier_sub_cell : reqClassifier ⊆ reqCell :=
  List.subset_append_of_subset_left _ (List.subset_append_right _ _)

section cell
variable (hP : reqCell ⊆ P)
include hP

/-- `number_sequence → α ( [padding] number_sequence ) [padding]`: the four productions of one prefix `α` -/
theorem paren_der {α u : List String} (hα : DerL P α u)
    (h00 : ("number_sequence", α ++ ["(", "number_sequence", ")"]) ∈ P)
    (h01 : ("number_sequence", α ++ ["(", "number_sequence", ")"] ++ ["padding"]) ∈ P)
    (h10 : ("number_sequence", α ++ ["(", "padding", "number_sequence", ")"]) ∈ P)
    (h11 : ("number_sequence", α ++ ["(", "padding", "number_sequence", ")"] ++ ["padding"]) ∈ P)
    (opened : Gap) (inner : Entries) (after : Gap) (hop : opened.ok = true) (hwf : inner.WF = true)
    (hne : inner ≠ []) (haf : after.ok = true) :
    Der P "number_sequence" (u ++ ["("] ++ opened.cls ++ inner.classes ++ [")"] ++ after.cls) := by
  have hnum : reqNumbers ⊆ P := reqNumbers_sub_cell.trans hP
  have hpad : reqPadding ⊆ P := reqPadding_sub_numbers.trans hnum
  have hi := entries_der hnum inner hne hwf
  by_cases ho : opened = []
  · subst ho
    exact (trail_der hpad (hα.append (.tok (.nt hi (.tok .nil)))) h00 h01 after haf).cast (by simp [Gap.cls])
  · exact (trail_der hpad (hα.append (.tok (.nt (pad_der hpad opened hop ho) (.nt hi (.tok .nil))))) h10 h11 after
      haf).cast (by simp)

theorem pval_der (v : PVal) (hwf : v.WF = true) :
    Der P "number_sequence" v.classes := by
  have hnum : reqNumbers ⊆ P := reqNumbers_sub_cell.trans hP
  cases v with
  | nums es =>
    simp [PVal.WF] at hwf
    exact entries_der hnum es hwf.2 hwf.1
  | numsParen es opened inner after =>
    simp [PVal.WF, and_assoc] at hwf
    obtain ⟨h1, h2, hop, h3, h4, h5⟩ := hwf
    exact paren_der hP (.one (entries_der hnum es h2 h1))
      (hP (by prod_mem : ("number_sequence", ["number_sequence", "(", "number_sequence", ")"]) ∈ reqCell))
      (hP (by prod_mem : ("number_sequence", ["number_sequence", "(", "number_sequence", ")", "padding"]) ∈ reqCell))
      (hP (by prod_mem : ("number_sequence", ["number_sequence", "(", "padding", "number_sequence", ")"]) ∈ reqCell))
      (hP (by prod_mem :
        ("number_sequence", ["number_sequence", "(", "padding", "number_sequence", ")", "padding"]) ∈ reqCell))
      opened inner after hop h3 h4 h5
  | paren opened inner after =>
    simp [PVal.WF, and_assoc] at hwf
    obtain ⟨hop, h3, h4, h5⟩ := hwf
    exact paren_der hP .nil
      (hP (by prod_mem : ("number_sequence", ["(", "number_sequence", ")"]) ∈ reqCell))
      (hP (by prod_mem : ("number_sequence", ["(", "number_sequence", ")", "padding"]) ∈ reqCell))
      (hP (by prod_mem : ("number_sequence", ["(", "padding", "number_sequence", ")"]) ∈ reqCell))
      (hP (by prod_mem : ("number_sequence", ["(", "padding", "number_sequence", ")", "padding"]) ∈ reqCell))
      opened inner after hop h3 h4 h5
  | lattice a b g1 c d g2 e f g3 us =>
    simp [PVal.WF, and_assoc] at hwf
    obtain ⟨h1, h2, h3, h4, _⟩ := hwf
    -- `i:j` after a sequence, and one more number after a sequence
    have colon : ∀ {w : List String} (j : Num) (g : Gap), Der P "number_sequence" w → g.req = true →
        Der P "number_sequence" (w ++ ":" :: j.cls :: g.cls) := fun j g hw hg =>
      .rule (hP (by prod_mem : ("number_sequence", ["number_sequence", ":", "numerical_phrase"]) ∈ reqCell))
        (.nt hw (.tok (.one (numerical_phrase_der hnum j g (req_split hg).1))))
    have next : ∀ {w : List String} (i : Num), Der P "number_sequence" w → Der P "number_sequence" (w ++ [i.cls]) :=
      fun i hw =>
      .rule (hnum (by prod_mem : ("number_sequence", ["number_sequence", "numerical_phrase"]) ∈ reqNumbers))
        (.nt hw (.one (numerical_phrase_der hnum i [] rfl)))
    have s0 : Der P "number_sequence" [a.cls] := sequence_of_phrase hnum (numerical_phrase_der hnum a [] rfl)
    exact (entries_snoc hnum us h4 (colon f g3 (next e (colon d g2 (next c (colon b g1 s0 h1)) h2)) h3)).cast
      (by simp [PVal.classes])

theorem cellparam_der (p : CellParam) (hwf : p.WF = true) :
    Der P "parameter" p.classes := by
  have hcl : reqClassifier ⊆ P := reqClassifier_sub_cell.trans hP
  simp [CellParam.WF, and_assoc] at hwf
  obtain ⟨h1, h2, h3⟩ := hwf
  exact (Der.rule (hP (by prod_mem : ("parameter", ["classifier", "param_seperator", "number_sequence"]) ∈ reqCell))
    (.nt (classifier_der hcl p.key h1) (.nt (sep_der hcl p.sep h2) (.one (pval_der hP p.val h3))))).cast
    (by simp [CellParam.classes])

theorem cellparams_der (ps : List CellParam) (hne : ps ≠ []) (hwf : ps.all CellParam.WF = true) :
    Der P "parameters" (ps.flatMap CellParam.classes) :=
  leftrec CellParam.classes ps hne (fun p hm =>
    ⟨"parameter", hP (by prod_mem), hP (by prod_mem), cellparam_der hP p ((List.all_eq_true.mp hwf) p hm)⟩)

omit hP in
theorem _root_.MontePyVerif.Spec.Card.CellCard.wf_iff (c : CellCard) : c.WF = true ↔
    c.lead.ok = true ∧ c.g0.req = true ∧ c.g1.req = true ∧ c.g2.ok = true ∧ c.geometry.WF = true ∧
    (∀ m g d, c.material = some (m, g, d) → g.req = true) ∧ (∀ p ∈ c.params, p.WF = true) ∧
    (c.params = [] ∨ c.g2.isEmpty = false) := by
  rcases h : c.material with _ | ⟨m, g, d⟩ <;> simp [CellCard.WF, h, and_assoc]

theorem cell_der (c : CellCard) (hwf : c.WF = true) : Der P "cell" c.classes := by
  have hnum : reqNumbers ⊆ P := reqNumbers_sub_cell.trans hP
  have hpad : reqPadding ⊆ P := reqPadding_sub_numbers.trans hnum
  obtain ⟨hlead, hg0, hg1, hg2, hgeom, hmat, hps, hsep⟩ := c.wf_iff.1 hwf
  have ident : ∀ g : Gap, g.req = true → Der P "identifier_phrase" ("NUMBER" :: g.cls) := fun g hg =>
    phrase_der hpad (hP (by prod_mem)) (hP (by prod_mem)) g (req_split hg).1
  have hgeo := (geom_der (reqGeometry_sub_cell.trans hP) c.geometry hgeom).expr c.g2 hg2
  -- the material, with the gap g1 that follows it
  have hmatd : ∃ wm, Der P "material" wm ∧
      c.classes = c.lead.cls ++ (("NUMBER" :: c.g0.cls) ++ (wm ++ (c.geometry.classes ++ c.g2.cls ++
        c.params.flatMap CellParam.classes))) := by
    cases hm : c.material with
    | none =>
      refine ⟨"NULL" :: c.g1.cls, ?_, by simp [CellCard.classes, hm]⟩
      exact .unit (hP (by prod_mem : ("material", ["null_ident_phrase"]) ∈ reqCell))
        (phrase_der hpad (hP (by prod_mem)) (hP (by prod_mem)) c.g1 (req_split hg1).1)
    | some m =>
      obtain ⟨mn, g, d⟩ := m
      refine ⟨("NUMBER" :: g.cls) ++ ("NUMBER" :: c.g1.cls), ?_, by simp [CellCard.classes, hm]⟩
      exact .rule (hP (by prod_mem : ("material", ["identifier_phrase", "number_phrase"]) ∈ reqCell))
        (.nt (ident g (hmat _ _ _ hm)) (.one (number_phrase_der hnum c.g1 (req_split hg1).1)))
  obtain ⟨wm, hm, hcls⟩ := hmatd
  rw [hcls]
  by_cases hpe : c.params = []
  · exact (lead_der hpad (.nt (ident c.g0 hg0) (.nt hm (.one hgeo)))
      (hP (by prod_mem : ("cell", ["identifier_phrase", "material", "geometry_expr"]) ∈ reqCell))
      (hP (by prod_mem : ("cell", ["padding", "identifier_phrase", "material", "geometry_expr"]) ∈ reqCell))
      c.lead hlead).cast (by simp [hpe])
  · have hpar := cellparams_der hP c.params hpe (by simpa using hps)
    exact lead_der hpad (.nt (ident c.g0 hg0) (.nt hm (.nt hgeo (.one hpar))))
      (hP (by prod_mem : ("cell", ["identifier_phrase", "material", "geometry_expr", "parameters"]) ∈ reqCell))
      (hP (by prod_mem :
        ("cell", ["padding", "identifier_phrase", "material", "geometry_expr", "parameters"]) ∈ reqCell))
      c.lead hlead

end cell

/-! ## surface cards -/

def reqSurface : Prods :=
  reqNumbers ++
  [("surface_id", ["number_phrase"]), ("surface_id", ["*", "number_phrase"]),
   ("surface", ["surface_id", "SURFACE_TYPE", "padding", "number_sequence"]),
   ("surface", ["padding", "surface_id", "SURFACE_TYPE", "padding", "number_sequence"]),
   ("surface", ["surface_id", "number_phrase", "SURFACE_TYPE", "padding", "number_sequence"]),
   ("surface", ["padding", "surface_id", "number_phrase", "SURFACE_TYPE", "padding", "number_sequence"])]

theorem reqNumbers_sub_surface : reqNumbers ⊆ reqSurface := List.subset_append_left _ _

section surface
variable (hP : reqSurface ⊆ P)
include hP

omit hP in
theorem _root_.MontePyVerif.Spec.Card.SurfaceCard.wf_iff (s : SurfaceCard) : s.WF = true ↔
    s.lead.ok = true ∧ s.g0.req = true ∧ s.g1.req = true ∧ (∀ p g, s.pointer = some (p, g) → g.req = true) ∧
    s.constants.WF = true ∧ s.constants ≠ [] ∧ lowerAscii s.mnemonic ∈ pinnedSurfaceTypes := by
  rcases h : s.pointer with _ | ⟨p, g⟩ <;> simp [SurfaceCard.WF, h, and_assoc]

theorem surface_der (s : SurfaceCard) (hwf : s.WF = true) :
    Der P "surface" s.classes := by
  have hnum : reqNumbers ⊆ P := reqNumbers_sub_surface.trans hP
  have hpad : reqPadding ⊆ P := reqPadding_sub_numbers.trans hnum
  obtain ⟨hlead, hg0, hg1, hptr, hcs, hcne, _⟩ := s.wf_iff.1 hwf
  have hnp := number_phrase_der hnum s.g0 (req_split hg0).1
  have hid : Der P "surface_id" ((if s.star then ["*"] else []) ++ ("NUMBER" :: s.g0.cls)) := by
    cases s.star
    · exact .unit (hP (by prod_mem : ("surface_id", ["number_phrase"]) ∈ reqSurface)) hnp
    · exact .rule (hP (by prod_mem : ("surface_id", ["*", "number_phrase"]) ∈ reqSurface)) (.tok (.one hnp))
  obtain ⟨hg1ok, hg1ne⟩ := req_split hg1
  have hrest : DerL P ["SURFACE_TYPE", "padding", "number_sequence"] ("SURFACE_TYPE" :: (s.g1.cls ++ s.constants.classes)) :=
    .tok (.nt (pad_der hpad s.g1 hg1ok hg1ne) (.one (entries_der hnum s.constants hcne hcs)))
  cases hpt : s.pointer with
  | none =>
    exact (lead_der hpad (.nt hid hrest)
      (hP (by prod_mem : ("surface", ["surface_id", "SURFACE_TYPE", "padding", "number_sequence"]) ∈ reqSurface))
      (hP (by prod_mem :
        ("surface", ["padding", "surface_id", "SURFACE_TYPE", "padding", "number_sequence"]) ∈ reqSurface))
      s.lead hlead).cast (by simp [SurfaceCard.classes, hpt])
  | some pg =>
    obtain ⟨pt, g⟩ := pg
    have hpp := number_phrase_der hnum g (req_split (hptr _ _ hpt)).1
    exact (lead_der hpad (.nt hid (.nt hpp hrest))
      (hP (by prod_mem :
        ("surface", ["surface_id", "number_phrase", "SURFACE_TYPE", "padding", "number_sequence"]) ∈ reqSurface))
      (hP (by prod_mem :
        ("surface", ["padding", "surface_id", "number_phrase", "SURFACE_TYPE", "padding", "number_sequence"]) ∈
          reqSurface))
      s.lead hlead).cast (by simp [SurfaceCard.classes, hpt])

end surface

/-! ## data cards: the introduction shared by every data parser -/

def reqIntro : Prods :=
  reqClassifier ++
  [("classifier_phrase", ["classifier"]), ("classifier_phrase", ["classifier", "padding"]),
   ("introduction", ["classifier_phrase"]), ("introduction", ["padding", "classifier_phrase"]),
   ("introduction", ["classifier_phrase", "KEYWORD", "padding"]),
   ("introduction", ["padding", "classifier_phrase", "KEYWORD", "padding"])]

theorem reqClassifier_sub_intro : reqClassifier ⊆ reqIntro := List.subset_append_left _ _

section intro
variable (hP : reqIntro ⊆ P)
include hP

theorem classifier_phrase_der (c : Classifier) (g0 : Gap) (hc : c.WF = true) (hg : g0.ok = true) :
    Der P "classifier_phrase" (c.classes ++ g0.cls) :=
  have hcl : reqClassifier ⊆ P := reqClassifier_sub_intro.trans hP
  wrap_der (reqPadding_sub_classifier.trans hcl) (hP (by prod_mem)) (hP (by prod_mem)) (classifier_der hcl c hc) g0 hg

theorem intro_der (lead : Gap) (c : Classifier) (g0 : Gap) (hl : lead.ok = true) (hc : c.WF = true)
    (hg : g0.ok = true) : Der P "introduction" (lead.cls ++ c.classes ++ g0.cls) :=
  (lead_der (reqPadding_sub_classifier.trans (reqClassifier_sub_intro.trans hP))
    (.one (classifier_phrase_der hP c g0 hc hg))
    (hP (by prod_mem : ("introduction", ["classifier_phrase"]) ∈ reqIntro))
    (hP (by prod_mem : ("introduction", ["padding", "classifier_phrase"]) ∈ reqIntro)) lead hl).cast (by simp)

/-- `VOL NO …` -/
theorem intro_kw_der (lead : Gap) (c : Classifier) (g0 gk : Gap) (hl : lead.ok = true) (hc : c.WF = true)
    (hg : g0.ok = true) (hk : gk.req = true) :
    Der P "introduction" (lead.cls ++ c.classes ++ g0.cls ++ ("KEYWORD" :: gk.cls)) := by
  have hpad : reqPadding ⊆ P := reqPadding_sub_classifier.trans (reqClassifier_sub_intro.trans hP)
  obtain ⟨hk1, hk2⟩ := req_split hk
  exact (lead_der hpad (.nt (classifier_phrase_der hP c g0 hc hg) (.tok (.one (pad_der hpad gk hk1 hk2))))
    (hP (by prod_mem : ("introduction", ["classifier_phrase", "KEYWORD", "padding"]) ∈ reqIntro))
    (hP (by prod_mem : ("introduction", ["padding", "classifier_phrase", "KEYWORD", "padding"]) ∈ reqIntro))
    lead hl).cast (by simp)

end intro

/-- a particle letter and the gap after it; MODE cards and the kitchen sink share it, hence memberships and not
    a `req… ⊆ P` as hypotheses -/
theorem particle_phrase_der (hP : reqPadding ⊆ P) (ht : ("particle_text", ["PARTICLE"]) ∈ P)
    (h1 : ("particle_phrase", ["particle_text"]) ∈ P) (h2 : ("particle_phrase", ["particle_text", "padding"]) ∈ P)
    (g : Gap) (hok : g.ok = true) : Der P "particle_phrase" ("PARTICLE" :: g.cls) :=
  wrap_der hP h1 h2 (.rule ht (.tok .nil)) g hok

/-! ## data cards parsed by `DataParser`: number lists (with an optional keyword) and MODE -/

def reqData : Prods :=
  reqIntro ++ reqNumbers ++
  [("data_input", ["introduction"]), ("data_input", ["introduction", "data"]),
   ("data", ["number_sequence"]), ("data", ["particle_sequence"]),
   ("particle_sequence", ["particle_phrase"]), ("particle_sequence", ["particle_sequence", "particle_phrase"]),
   ("particle_phrase", ["particle_text"]), ("particle_phrase", ["particle_text", "padding"]),
   ("particle_text", ["PARTICLE"])]

theorem reqIntro_sub_data : reqIntro ⊆ reqData := List.subset_append_of_subset_left _ (List.subset_append_left _ _)
theorem reqNumbers_sub_data : reqNumbers ⊆ reqData :=
  List.subset_append_of_subset_left _ (List.subset_append_right _ _)

/-- the bodies `DataParser` itself parses -/
def DataCard.isPlain (d : DataCard) : Bool :=
  match d.body with
  | .numbers .. => true
  | .mode _ => true
  | _ => false

section data
variable (hP : reqData ⊆ P)
include hP

theorem data_der (d : DataCard) (hwf : d.WF = true)
    (hplain : DataCard.isPlain d = true) : Der P "data_input" d.classes := by
  have hin : reqIntro ⊆ P := reqIntro_sub_data.trans hP
  have hnum : reqNumbers ⊆ P := reqNumbers_sub_data.trans hP
  obtain ⟨lead, c, g0, body⟩ := d
  cases body with
  | numbers kw es =>
    simp [DataCard.WF, and_assoc] at hwf
    obtain ⟨hl, hg, hc, hes, hkw, _⟩ := hwf
    have hintro : ∃ wi, Der P "introduction" wi ∧
        (DataCard.mk lead c g0 (.numbers kw es)).classes = wi ++ es.classes := by
      cases kw with
      | none => exact ⟨_, intro_der hin lead c g0 hl hc hg, by simp [DataCard.classes]⟩
      | some kg =>
        obtain ⟨k, gk⟩ := kg
        simp at hkw
        exact ⟨_, intro_kw_der hin lead c g0 gk hl hc hg hkw.1, by simp [DataCard.classes]⟩
    obtain ⟨wi, hi, hcls⟩ := hintro
    rw [hcls]
    by_cases hee : es = []
    · subst hee
      exact (Der.unit (hP (by prod_mem : ("data_input", ["introduction"]) ∈ reqData)) hi).cast
        (by simp [Entries.classes])
    · have hd := Der.unit (hP (by prod_mem : ("data", ["number_sequence"]) ∈ reqData)) (entries_der hnum es hee hes)
      exact .rule (hP (by prod_mem : ("data_input", ["introduction", "data"]) ∈ reqData)) (.nt hi (.one hd))
  | mode ps =>
    simp [DataCard.WF, and_assoc] at hwf
    obtain ⟨hl, hg, hc, hne, _, hps⟩ := hwf
    have hseq : Der P "particle_sequence" (ps.flatMap (fun p : String × Gap => ["PARTICLE"] ++ p.2.cls)) :=
      leftrec (fun p : String × Gap => ["PARTICLE"] ++ p.2.cls) ps hne (fun p hm =>
        ⟨"particle_phrase", hP (by prod_mem), hP (by prod_mem),
          particle_phrase_der (reqPadding_sub_numbers.trans hnum) (hP (by prod_mem)) (hP (by prod_mem))
            (hP (by prod_mem)) p.2 (hps p.1 p.2 hm)⟩)
    have hd := Der.unit (hP (by prod_mem : ("data", ["particle_sequence"]) ∈ reqData)) hseq
    exact (Der.rule (hP (by prod_mem : ("data_input", ["introduction", "data"]) ∈ reqData))
      (.nt (intro_der hin lead c g0 hl hc hg) (.one hd))).cast (by simp [DataCard.classes])
  | material _ _ => simp [DataCard.isPlain] at hplain
  | thermal _ => simp [DataCard.isPlain] at hplain

end data

/-! ## material cards (`MaterialParser`) -/

def reqMaterial : Prods :=
  reqIntro ++ reqNumbers ++
  [("material", ["introduction", "isotopes"]), ("material", ["introduction", "isotopes", "parameters"]),
   ("isotopes", ["isotope_fractions"]),
   ("isotope_fractions", ["isotope_fraction"]), ("isotope_fractions", ["isotope_fractions", "isotope_fraction"]),
   ("isotope_fraction", ["zaid_phrase", "number_phrase"]),
   ("zaid_phrase", ["ZAID"]), ("zaid_phrase", ["ZAID", "padding"]),
   ("parameters", ["parameter"]), ("parameters", ["parameters", "parameter"]),
   ("parameter", ["classifier", "param_seperator", "number_sequence"]),
   ("parameter", ["classifier", "param_seperator", "text_phrase"]),
   ("text_phrase", ["NUMBER_WORD"]), ("text_phrase", ["NUMBER_WORD", "padding"])]

theorem reqIntro_sub_material : reqIntro ⊆ reqMaterial :=
  List.subset_append_of_subset_left _ (List.subset_append_left _ _)
theorem reqNumbers_sub_material : reqNumbers ⊆ reqMaterial :=
  List.subset_append_of_subset_left _ (List.subset_append_right _ _)

section material
variable (hP : reqMaterial ⊆ P)
include hP

theorem matparam_der (p : MatParam) (hwf : p.WF = true) :
    Der P "parameter" p.classes := by
  have hcl : reqClassifier ⊆ P := reqClassifier_sub_intro.trans (reqIntro_sub_material.trans hP)
  have hnum : reqNumbers ⊆ P := reqNumbers_sub_material.trans hP
  obtain ⟨key, sep, val⟩ := p
  simp [MatParam.WF, and_assoc] at hwf
  obtain ⟨h1, h2, h3⟩ := hwf
  -- `parameter → classifier param_seperator Y` for the two kinds of value
  have param : ∀ {Y : String} {w : List String}, ("parameter", ["classifier", "param_seperator", Y]) ∈ P →
      Der P Y w → Der P "parameter" (key.classes ++ (sep.classes ++ w)) := fun hr hy =>
    .rule hr (.nt (classifier_der hcl key h1) (.nt (sep_der hcl sep h2) (.one hy)))
  cases val with
  | lib t a =>
    simp at h3
    have ht : Der P "text_phrase" ("NUMBER_WORD" :: a.cls) :=
      phrase_der (reqPadding_sub_numbers.trans hnum) (hP (by prod_mem)) (hP (by prod_mem)) a h3
    exact (param (hP (by prod_mem)) ht).cast (by simp [MatParam.classes])
  | nums es =>
    simp at h3
    exact (param (hP (by prod_mem)) (entries_der hnum es h3.2 h3.1)).cast (by simp [MatParam.classes])

theorem material_der (lead : Gap) (c : Classifier) (g0 : Gap) (fr : List (String × Gap × Num × Gap))
    (ps : List MatParam) (hwf : (DataCard.mk lead c g0 (.material fr ps)).WF = true) :
    Der P "material" (DataCard.mk lead c g0 (.material fr ps)).classes := by
  have hnum : reqNumbers ⊆ P := reqNumbers_sub_material.trans hP
  simp [DataCard.WF, and_assoc] at hwf
  obtain ⟨hl, hg, hc, hne, _, hfr, hps⟩ := hwf
  have hi := intro_der (reqIntro_sub_material.trans hP) lead c g0 hl hc hg
  have hfrs : Der P "isotope_fractions"
      (fr.flatMap (fun f : String × Gap × Num × Gap => ["ZAID"] ++ f.2.1.cls ++ ["NUMBER"] ++ f.2.2.2.cls)) :=
    leftrec (fun f : String × Gap × Num × Gap => ["ZAID"] ++ f.2.1.cls ++ ["NUMBER"] ++ f.2.2.2.cls) fr hne
      (fun f hm => by
        refine ⟨"isotope_fraction", hP (by prod_mem), hP (by prod_mem), ?_⟩
        obtain ⟨z, g1, n, g2⟩ := f
        have hf := hfr z g1 n g2 hm
        have hz : Der P "zaid_phrase" ("ZAID" :: g1.cls) :=
          phrase_der (reqPadding_sub_numbers.trans hnum) (hP (by prod_mem)) (hP (by prod_mem)) g1 (req_split hf.1).1
        exact (Der.rule (hP (by prod_mem : ("isotope_fraction", ["zaid_phrase", "number_phrase"]) ∈ reqMaterial))
          (.nt hz (.one (number_phrase_der hnum g2 hf.2.1)))).cast (by simp))
  have hiso := Der.unit (hP (by prod_mem : ("isotopes", ["isotope_fractions"]) ∈ reqMaterial)) hfrs
  by_cases hpe : ps = []
  · subst hpe
    exact (Der.rule (hP (by prod_mem : ("material", ["introduction", "isotopes"]) ∈ reqMaterial))
      (.nt hi (.one hiso))).cast (by simp [DataCard.classes])
  · have hpar : Der P "parameters" (ps.flatMap MatParam.classes) :=
      leftrec MatParam.classes ps hpe (fun p hm =>
        ⟨"parameter", hP (by prod_mem), hP (by prod_mem), matparam_der hP p (hps p hm)⟩)
    exact (Der.rule (hP (by prod_mem : ("material", ["introduction", "isotopes", "parameters"]) ∈ reqMaterial))
      (.nt hi (.nt hiso (.one hpar)))).cast (by simp [DataCard.classes])

end material

/-! ## thermal-scattering cards (`ThermalParser`) -/

def reqThermal : Prods :=
  reqIntro ++
  [("thermal_mat", ["introduction", "thermal_law_sequence"]),
   ("thermal_law_sequence", ["thermal_law"]), ("thermal_law_sequence", ["thermal_law_sequence", "thermal_law"]),
   ("thermal_law", ["THERMAL_LAW"]), ("thermal_law", ["THERMAL_LAW", "padding"])]

theorem reqIntro_sub_thermal : reqIntro ⊆ reqThermal := List.subset_append_left _ _

section thermal
variable (hP : reqThermal ⊆ P)
include hP

theorem thermal_der (lead : Gap) (c : Classifier) (g0 : Gap) (laws : List (String × Gap))
    (hwf : (DataCard.mk lead c g0 (.thermal laws)).WF = true) :
    Der P "thermal_mat" (DataCard.mk lead c g0 (.thermal laws)).classes := by
  have hin : reqIntro ⊆ P := reqIntro_sub_thermal.trans hP
  have hpad : reqPadding ⊆ P := reqPadding_sub_classifier.trans (reqClassifier_sub_intro.trans hin)
  simp [DataCard.WF, and_assoc] at hwf
  obtain ⟨hl, hg, hc, hne, _, hls⟩ := hwf
  have hseq : Der P "thermal_law_sequence" (laws.flatMap (fun l : String × Gap => ["THERMAL_LAW"] ++ l.2.cls)) :=
    leftrec (fun l : String × Gap => ["THERMAL_LAW"] ++ l.2.cls) laws hne (fun l hm =>
      ⟨"thermal_law", hP (by prod_mem), hP (by prod_mem),
        phrase_der hpad (hP (by prod_mem)) (hP (by prod_mem)) l.2 (hls l.1 l.2 hm)⟩)
  exact (Der.rule (hP (by prod_mem : ("thermal_mat", ["introduction", "thermal_law_sequence"]) ∈ reqThermal))
    (.nt (intro_der hin lead c g0 hl hc hg) (.one hseq))).cast (by simp [DataCard.classes])

end thermal

/-! ## tally cards (`TallyParser`): bins, groups, the total `T` -/

/-- what FS needs (`TallySegmentParser` has no groups) -/
def reqTallySeg : Prods :=
  reqIntro ++ reqNumbers ++
  [("tally", ["introduction", "tally_specification"]),
   ("tally_specification", ["tally_numbers"]), ("tally_specification", ["tally_numbers", "end_phrase"]),
   ("end_phrase", ["PARTICLE"]), ("end_phrase", ["PARTICLE", "padding"]),
   ("tally_numbers", ["number_sequence"]),
   ("tally_numbers", ["tally_numbers", "padding"]), ("tally_numbers", ["tally_numbers", "tally_numbers"])]

def reqTally : Prods :=
  reqTallySeg ++
  [("tally_numbers", ["tally_group"]),
   ("tally_group", ["(", "number_sequence", ")"]), ("tally_group", ["(", "padding", "number_sequence", ")"])]

theorem reqTallySeg_sub_tally : reqTallySeg ⊆ reqTally := List.subset_append_left _ _
theorem reqIntro_sub_tallyseg : reqIntro ⊆ reqTallySeg :=
  List.subset_append_of_subset_left _ (List.subset_append_left _ _)
theorem reqNumbers_sub_tallyseg : reqNumbers ⊆ reqTallySeg :=
  List.subset_append_of_subset_left _ (List.subset_append_right _ _)

section tallyseg
variable (hP : reqTallySeg ⊆ P)
include hP

/-- what F and FS cards share: the introduction, the bins, the optional total `T` -/
theorem tally_of_numbers (lead : Gap) (c : Classifier) (g0 : Gap) (hl : lead.ok = true) (hc : c.WF = true)
    (hg : g0.ok = true) (total : Option (String × Gap)) (htot : XCard.totalWF total = true) {w : List String}
    (hn : Der P "tally_numbers" w) :
    Der P "tally" (lead.cls ++ c.classes ++ g0.cls ++ (w ++ XCard.totalClasses total)) := by
  have hspec : Der P "tally_specification" (w ++ XCard.totalClasses total) := by
    cases total with
    | none =>
      exact (Der.unit (hP (by prod_mem : ("tally_specification", ["tally_numbers"]) ∈ reqTallySeg)) hn).cast
        (by simp [XCard.totalClasses])
    | some tg =>
      have he : Der P "end_phrase" ("PARTICLE" :: tg.2.cls) :=
        phrase_der (reqPadding_sub_numbers.trans (reqNumbers_sub_tallyseg.trans hP)) (hP (by prod_mem))
          (hP (by prod_mem)) tg.2 (by simpa [XCard.totalWF] using htot)
      exact .rule (hP (by prod_mem : ("tally_specification", ["tally_numbers", "end_phrase"]) ∈ reqTallySeg))
        (.nt hn (.one he))
  exact .rule (hP (by prod_mem : ("tally", ["introduction", "tally_specification"]) ∈ reqTallySeg))
    (.nt (intro_der (reqIntro_sub_tallyseg.trans hP) lead c g0 hl hc hg) (.one hspec))

theorem segments_der (lead : Gap) (c : Classifier) (g0 : Gap) (es : Entries) (total : Option (String × Gap))
    (hwf : (XCard.mk lead c g0 (.segments es total)).WF = true) :
    Der P "tally" (XCard.mk lead c g0 (.segments es total)).classes := by
  simp [XCard.WF, and_assoc] at hwf
  obtain ⟨hl, hg, hc, hes, hne, _, htot⟩ := hwf
  exact (tally_of_numbers hP lead c g0 hl hc hg total htot
    (.unit (hP (by prod_mem : ("tally_numbers", ["number_sequence"]) ∈ reqTallySeg))
      (entries_der (reqNumbers_sub_tallyseg.trans hP) es hne hes))).cast (by simp [XCard.classes])

end tallyseg

section tally
variable (hP : reqTally ⊆ P)
include hP

theorem tallyitem_der (it : TallyItem) (hwf : it.WF = true) : Der P "tally_numbers" it.classes := by
  have hseg : reqTallySeg ⊆ P := reqTallySeg_sub_tally.trans hP
  have hnum : reqNumbers ⊆ P := reqNumbers_sub_tallyseg.trans hseg
  have hpad : reqPadding ⊆ P := reqPadding_sub_numbers.trans hnum
  cases it with
  | bins es =>
    simp [TallyItem.WF] at hwf
    exact .unit (hseg (by prod_mem : ("tally_numbers", ["number_sequence"]) ∈ reqTallySeg))
      (entries_der hnum es hwf.2 hwf.1)
  | group opened es after =>
    simp [TallyItem.WF, and_assoc] at hwf
    obtain ⟨ho, hes, hne, ha⟩ := hwf
    have hg := opt_pad hpad (.tok .nil) (.nt (entries_der hnum es hne hes) (.tok .nil))
      (hP (by prod_mem : ("tally_group", ["(", "number_sequence", ")"]) ∈ reqTally))
      (hP (by prod_mem : ("tally_group", ["(", "padding", "number_sequence", ")"]) ∈ reqTally)) opened ho
    exact (absorb_der hpad (hseg (by prod_mem))
      (.unit (hP (by prod_mem : ("tally_numbers", ["tally_group"]) ∈ reqTally)) hg) after ha).cast
      (by simp [TallyItem.classes])

theorem tally_der (lead : Gap) (c : Classifier) (g0 : Gap) (items : List TallyItem) (total : Option (String × Gap))
    (hwf : (XCard.mk lead c g0 (.tally items total)).WF = true) :
    Der P "tally" (XCard.mk lead c g0 (.tally items total)).classes := by
  have hseg : reqTallySeg ⊆ P := reqTallySeg_sub_tally.trans hP
  simp [XCard.WF, and_assoc] at hwf
  obtain ⟨hl, hg, hc, hne, _, hit, htot⟩ := hwf
  have hnums : Der P "tally_numbers" (items.flatMap TallyItem.classes) := by
    cases items with
    | nil => exact absurd rfl hne
    | cons a rest =>
      simpa using leftrec_snoc TallyItem.classes rest a.classes (tallyitem_der hP a (hit a (by simp))) (fun b hb =>
        ⟨"tally_numbers", hseg (by prod_mem), tallyitem_der hP b (hit b (by simp [hb]))⟩)
  exact (tally_of_numbers hseg lead c g0 hl hc hg total htot hnums).cast (by simp [XCard.classes])

end tally

/-! ## the kitchen sink of `DataParser`: a letter followed by numbers (`d1`, `SI1 H 0 1 2`) -/

def reqSink : Prods :=
  reqNumbers ++
  [("data", ["number_sequence"]), ("data", ["particle_sequence"]), ("data", ["kitchen_sink"]),
   ("kitchen_sink", ["kitchen_junk"]), ("kitchen_sink", ["kitchen_sink", "kitchen_junk"]),
   ("kitchen_junk", ["number_sequence"]), ("kitchen_junk", ["particle_sequence"]),
   ("particle_sequence", ["particle_phrase"]),
   ("particle_phrase", ["particle_text"]), ("particle_phrase", ["particle_text", "padding"]),
   ("particle_text", ["PARTICLE"])]

theorem reqNumbers_sub_sink : reqNumbers ⊆ reqSink := List.subset_append_left _ _

section sink
variable (hP : reqSink ⊆ P)
include hP

theorem letter_seq_der (g : Gap) (hg : g.ok = true) : Der P "particle_sequence" ("PARTICLE" :: g.cls) :=
  .unit (hP (by prod_mem)) (particle_phrase_der (reqPadding_sub_numbers.trans (reqNumbers_sub_sink.trans hP))
    (hP (by prod_mem)) (hP (by prod_mem)) (hP (by prod_mem)) g hg)

theorem letter_numbers_der (g : Gap) (hg : g.ok = true) {w : List String} (hs : Der P "number_sequence" w) :
    Der P "data" ("PARTICLE" :: g.cls ++ w) := by
  have j1 : Der P "kitchen_junk" ("PARTICLE" :: g.cls) :=
    .unit (hP (by prod_mem : ("kitchen_junk", ["particle_sequence"]) ∈ reqSink)) (letter_seq_der hP g hg)
  have k1 := Der.unit (hP (by prod_mem : ("kitchen_sink", ["kitchen_junk"]) ∈ reqSink)) j1
  have j2 := Der.unit (hP (by prod_mem : ("kitchen_junk", ["number_sequence"]) ∈ reqSink)) hs
  exact .unit (hP (by prod_mem : ("data", ["kitchen_sink"]) ∈ reqSink))
    (.rule (hP (by prod_mem : ("kitchen_sink", ["kitchen_sink", "kitchen_junk"]) ∈ reqSink)) (.nt k1 (.one j2)))

end sink

/-! ## SI / SP / SB / DS with an option letter (`DataParser`) -/

def reqLettered : Prods := reqIntro ++ reqSink ++ [("data_input", ["introduction", "data"])]

theorem reqIntro_sub_lettered : reqIntro ⊆ reqLettered :=
  List.subset_append_of_subset_left _ (List.subset_append_left _ _)
theorem reqSink_sub_lettered : reqSink ⊆ reqLettered :=
  List.subset_append_of_subset_left _ (List.subset_append_right _ _)

theorem lettered_der (hP : reqLettered ⊆ P) (lead : Gap) (c : Classifier) (g0 : Gap) (l : String) (g : Gap)
    (es : Entries) (hwf : (XCard.mk lead c g0 (.lettered l g es)).WF = true) :
    Der P "data_input" (XCard.mk lead c g0 (.lettered l g es)).classes := by
  have hsk : reqSink ⊆ P := reqSink_sub_lettered.trans hP
  simp [XCard.WF, and_assoc] at hwf
  obtain ⟨hl, hg0, hc, hg, hes, hne, _⟩ := hwf
  have hd := letter_numbers_der hsk g (req_split hg).1 (entries_der (reqNumbers_sub_sink.trans hsk) es hne hes)
  exact (Der.rule (hP (by prod_mem : ("data_input", ["introduction", "data"]) ∈ reqLettered))
    (.nt (intro_der (reqIntro_sub_lettered.trans hP) lead c g0 hl hc hg0) (.one hd))).cast (by simp [XCard.classes])

/-! ## SDEF (`ParamOnlyDataParser`) -/

def reqSdef : Prods :=
  reqIntro ++ reqSink ++
  [("param_data_input", ["param_introduction"]), ("param_data_input", ["param_introduction", "spec_parameters"]),
   ("param_introduction", ["classifier_phrase"]), ("param_introduction", ["padding", "classifier_phrase"]),
   ("spec_parameters", ["spec_parameter"]), ("spec_parameters", ["spec_parameters", "spec_parameter"]),
   ("spec_parameter", ["spec_classifier", "param_seperator", "data"]),
   ("spec_classifier", ["spec_data_prefix"]), ("spec_data_prefix", ["KEYWORD"])]

theorem reqIntro_sub_sdef : reqIntro ⊆ reqSdef :=
  List.subset_append_of_subset_left _ (List.subset_append_left _ _)
theorem reqSink_sub_sdef : reqSink ⊆ reqSdef :=
  List.subset_append_of_subset_left _ (List.subset_append_right _ _)

section sdef
variable (hP : reqSdef ⊆ P)
include hP

theorem sdefparam_der (p : SdefParam) (hwf : p.WF = true) : Der P "spec_parameter" p.classes := by
  have hsk : reqSink ⊆ P := reqSink_sub_sdef.trans hP
  have hcl : reqClassifier ⊆ P := reqClassifier_sub_intro.trans (reqIntro_sub_sdef.trans hP)
  have hnum : reqNumbers ⊆ P := reqNumbers_sub_sink.trans hsk
  obtain ⟨key, sep, val⟩ := p
  simp [SdefParam.WF] at hwf
  obtain ⟨hsep, hval⟩ := hwf
  have hk : Der P "spec_classifier" ["KEYWORD"] :=
    .unit (hP (by prod_mem)) (.rule (hP (by prod_mem : ("spec_data_prefix", ["KEYWORD"]) ∈ reqSdef)) (.tok .nil))
  have hd : Der P "data" val.classes := by
    cases val with
    | nums es =>
      simp [SdefVal.WF] at hval
      exact .unit (hsk (by prod_mem : ("data", ["number_sequence"]) ∈ reqSink)) (entries_der hnum es hval.2 hval.1)
    | dist l n after =>
      simp [SdefVal.WF] at hval
      have hn : Der P "number_sequence" ("NUMBER" :: after.cls) :=
        sequence_of_phrase hnum (.unit (hnum (by prod_mem : ("numerical_phrase", ["number_phrase"]) ∈ reqNumbers))
          (number_phrase_der hnum after hval))
      simpa [Gap.cls, SdefVal.classes] using letter_numbers_der hsk [] rfl hn
    | particle w after =>
      simp [SdefVal.WF] at hval
      exact .unit (hsk (by prod_mem : ("data", ["particle_sequence"]) ∈ reqSink)) (letter_seq_der hsk after hval)
  exact (Der.rule (hP (by prod_mem : ("spec_parameter", ["spec_classifier", "param_seperator", "data"]) ∈ reqSdef))
    (.nt hk (.nt (sep_der hcl sep hsep) (.one hd)))).cast (by simp [SdefParam.classes])

theorem sdef_der (lead : Gap) (c : Classifier) (g0 : Gap) (ps : List SdefParam)
    (hwf : (XCard.mk lead c g0 (.sdef ps)).WF = true) :
    Der P "param_data_input" (XCard.mk lead c g0 (.sdef ps)).classes := by
  have hin : reqIntro ⊆ P := reqIntro_sub_sdef.trans hP
  simp [XCard.WF, and_assoc] at hwf
  obtain ⟨hl, hg0, hc, hps, _⟩ := hwf
  have hi : Der P "param_introduction" (lead.cls ++ c.classes ++ g0.cls) :=
    (lead_der (reqPadding_sub_classifier.trans (reqClassifier_sub_intro.trans hin))
      (.one (classifier_phrase_der hin c g0 hc hg0))
      (hP (by prod_mem : ("param_introduction", ["classifier_phrase"]) ∈ reqSdef))
      (hP (by prod_mem : ("param_introduction", ["padding", "classifier_phrase"]) ∈ reqSdef)) lead hl).cast (by simp)
  by_cases hpe : ps = []
  · subst hpe
    exact (Der.unit (hP (by prod_mem : ("param_data_input", ["param_introduction"]) ∈ reqSdef)) hi).cast
      (by simp [XCard.classes])
  · have hpar : Der P "spec_parameters" (ps.flatMap SdefParam.classes) :=
      leftrec SdefParam.classes ps hpe (fun p hm =>
        ⟨"spec_parameter", hP (by prod_mem), hP (by prod_mem), sdefparam_der hP p (hps p hm)⟩)
    exact (Der.rule (hP (by prod_mem : ("param_data_input", ["param_introduction", "spec_parameters"]) ∈ reqSdef))
      (.nt hi (.one hpar))).cast (by simp [XCard.classes])

end sdef

end MontePyVerif.Cfg
