import MontePyVerif.Lemmas.GeometryUpdate
/-! `__switch_operator` with a new symbol: where the ":" of a new union goes, and that the padding it leaves is the
    operator padding of a union.  With GeometryUpdate: what `_update_node` makes of the node of an intersection or
    union, whichever operator's text the node carried (`updateNodeBin_spec`). -/
namespace MontePyVerif.C02
open MontePyVerif.Spec.Geometry MontePyVerif.Geometry

theorem cmtAfter_false_cons_ne {x : GCh} (h : x ≠ .cmt) (xs : List GCh) : cmtAfter false (x :: xs) = cmtAfter false xs := by
  have : (x == GCh.cmt) = false := by simp [h]
  simp [cmtAfter, this]

theorem cmtAfter_noCmt {S : List GCh} (h : GCh.cmt ∉ S) : cmtAfter false S = false := by
  induction S with
  | nil => rfl
  | cons x xs ih =>
    rw [List.mem_cons, not_or] at h
    rw [cmtAfter_false_cons_ne (Ne.symm h.1), ih h.2]

theorem split_at_getElem? {α : Type} {l : List α} {j : Nat} {a : α} (h : l[j]? = some a) :
    l = l.take j ++ a :: l.drop (j + 1) := by
  obtain ⟨hj, rfl⟩ := List.getElem?_eq_some_iff.1 h
  rw [← List.drop_eq_getElem_cons hj, List.take_append_drop]

theorem setItem_cons_succ (it : PItem) (p : Pad) (i : Nat) (f : List GCh → List GCh) :
    setItem (it :: p) (i + 1) f = it :: setItem p i f := by
  simp only [setItem, List.length_cons, List.range_succ_eq_map, List.zip_cons_cons, List.map_cons, List.zip_map_left,
    List.map_map]
  congr 1
  · cases it with
    | str cs => exact if_neg (Nat.succ_ne_zero i).symm
    | cmt n => rfl
  · refine List.map_congr_left fun ⟨k, it'⟩ _ => ?_
    cases it' with
    | str cs => simp only [Function.comp_apply, Prod.map_apply, Nat.succ_eq_add_one, id_eq, Nat.add_right_cancel_iff]
    | cmt n => rfl

theorem setItem_cons_zero (cs : List GCh) (p : Pad) (f : List GCh → List GCh) :
    setItem (.str cs :: p) 0 f = .str (f cs) :: p := by
  simp only [setItem, List.length_cons, List.range_succ_eq_map, List.zip_cons_cons, List.map_cons, List.zip_map_left,
    List.map_map]
  congr 1
  refine (List.map_congr_left fun ⟨k, it'⟩ _ => ?_).trans (List.map_snd_zip (l₁ := List.range p.length) (by simp))
  cases it' with
  | str cs => simp only [Function.comp_apply, Prod.map_apply, id_eq, Nat.succ_ne_zero, if_false]
  | cmt n => rfl

theorem setItem_eq (f : List GCh → List GCh) (pre post : Pad) (cs : List GCh) :
    setItem (pre ++ .str cs :: post) pre.length f = pre ++ .str (f cs) :: post := by
  induction pre with
  | nil => exact setItem_cons_zero cs post f
  | cons it pre ih => exact (setItem_cons_succ it _ _ f).trans (congrArg (it :: ·) ih)

/-- a recorded blank really is a blank of a string item, and nothing in front of it on its line is a comment -/
def BlankAt (nodes : Pad) (e : Nat × Nat × Nat) : Prop :=
  ∃ pre cs post, nodes = pre ++ .str cs :: post ∧ pre.length = e.2.1 ∧ cs[e.2.2]? = some .sp ∧
    cmtAfter false (Pad.format pre ++ cs.take e.2.2) = false

theorem BlankAt.mono {nodes : Pad} {e : Nat × Nat × Nat} (h : BlankAt nodes e) (q : Pad) : BlankAt (nodes ++ q) e := by
  obtain ⟨pre, cs, post, rfl, h⟩ := h
  exact ⟨pre, cs, post ++ q, by simp, h⟩

/-- what the fold of `visibleBlanks` knows after the items `pre` -/
structure VbInv (pre : Pad) (st : List (Nat × Nat × Nat) × Nat × Bool × Nat) : Prop where
  idx : st.2.2.2 = pre.length
  closed : st.2.2.1 = false → cmtAfter false (Pad.format pre) = false
  blanks : ∀ e ∈ st.1, BlankAt pre e

theorem vbStep_inv {pre rest : Pad} {st : List (Nat × Nat × Nat) × Nat × Bool × Nat} (it : PItem) (h : VbInv pre st)
    (hit : cleanPad (it :: rest) = true) : VbInv (pre ++ [it]) (vbStep st it) := by
  have hmono : ∀ e ∈ st.1, BlankAt (pre ++ [it]) e := fun e he => (h.blanks e he).mono _
  have hidx : st.2.2.2 + 1 = (pre ++ [it]).length := by rw [List.length_append, h.idx]; rfl
  cases it with
  | cmt n => exact ⟨hidx, nofun, hmono⟩
  | str cs =>
    rw [vbStep]
    by_cases hnl : cs = [.nl]
    · rw [if_pos hnl]
      refine ⟨hidx, fun _ => ?_, hmono⟩
      rw [format_append, cmtAfter_append, hnl]
      cases cmtAfter false (Pad.format pre) <;> rfl
    rw [if_neg hnl]
    by_cases hin : st.2.2.1 = true
    · rw [if_pos hin]
      exact ⟨hidx, fun h' => Bool.noConfusion (hin.symm.trans h'), hmono⟩
    rw [if_neg hin]
    have hpre := h.closed (Bool.of_not_eq_true hin)
    have hcs : GCh.cmt ∉ cs := (cleanPad_cons_str.1 hit).1
    refine ⟨hidx, fun _ => ?_, fun e he => ?_⟩
    · rw [format_append, cmtAfter_then hpre, show Pad.format [.str cs] = cs from List.append_nil cs]
      exact cmtAfter_noCmt hcs
    · rcases List.mem_append.1 he with he | he
      · exact hmono e he
      · obtain ⟨j, _, hj⟩ := List.mem_filterMap.1 he
        obtain ⟨hsp, he⟩ := Option.ite_none_right_eq_some.1 hj
        cases he
        refine ⟨pre, cs, [], rfl, h.idx.symm, hsp, ?_⟩
        rw [cmtAfter_then hpre]
        exact cmtAfter_noCmt fun hm => hcs (List.mem_of_mem_take hm)

theorem vb_fold (q : Pad) {pre : Pad} {st : List (Nat × Nat × Nat) × Nat × Bool × Nat} (h : VbInv pre st)
    (hq : cleanPad q = true) : VbInv (pre ++ q) (q.foldl vbStep st) := by
  induction q generalizing pre st with
  | nil => simpa using h
  | cons it q ih =>
    have hq' : cleanPad q = true := by rw [cleanPad, List.all_cons, Bool.and_eq_true] at hq; exact hq.2
    have := ih (vbStep_inv it h hq) hq'
    rwa [List.append_assoc] at this

theorem visibleBlanks_spec (nodes : Pad) (hclean : cleanPad nodes = true) :
    ∀ e ∈ (visibleBlanks nodes).1, BlankAt nodes e :=
  (vb_fold nodes (pre := []) ⟨rfl, fun _ => rfl, fun _ he => (List.not_mem_nil he).elim⟩ hclean).blanks

theorem foldl_pick_mem {α : Type} (P : α → α → Prop) [∀ x m, Decidable (P x m)] (b : α) (bs : List α) :
    bs.foldl (fun m x => if P x m then x else m) b ∈ b :: bs := by
  refine List.foldlRecOn bs _ List.mem_cons_self fun m hm x hx => ?_
  split
  · exact List.mem_cons_of_mem _ hx
  · exact hm

theorem switchOperator_colon (p : Pad) :
    switchOperator p (some .colon) = .str [.colon] :: switchOperator p none ∨
      ∃ best ∈ (visibleBlanks (switchOperator p none)).1, switchOperator p (some .colon) =
        setItem (switchOperator p none) best.2.1 (fun cs => cs.take best.2.2 ++ [.colon] ++ cs.drop (best.2.2 + 1)) := by
  simp only [switchOperator]
  generalize List.map _ p = q
  rcases visibleBlanks q with ⟨_ | ⟨b, bs⟩, total, inCmt⟩
  · exact Or.inl rfl
  · refine Or.inr ⟨_, ?_, rfl⟩
    exact foldl_pick_mem _ b bs

/-- where `__switch_operator(":")` puts the ":": in front of the blanked padding, or on one of its blanks that is
    not behind a comment on its line (the code takes the front only when there is no such blank; the statement leaves
    open which of the two it is). -/
theorem switch_colon_text (p : Pad) (hclean : cleanPad p = true) :
    cleanPad (switchOperator p (some .colon)) = true ∧
      (Pad.format (switchOperator p (some .colon)) = .colon :: p.format.map blankSym ∨
       ∃ A B, p.format.map blankSym = A ++ .sp :: B ∧ cmtAfter false A = false ∧
         Pad.format (switchOperator p (some .colon)) = A ++ .colon :: B) := by
  have hcl := (cleanPad_switch_none p).trans hclean
  rw [← format_switch_none]
  rcases switchOperator_colon p with hr | ⟨best, hmem, hr⟩
  · rw [hr]
    exact ⟨cleanPad_cons_str.2 ⟨by decide, hcl⟩, Or.inl rfl⟩
  · obtain ⟨pre, cs, post, hq, hlen, hsp, hvis⟩ := visibleBlanks_spec _ hcl best hmem
    rw [hr, hq, ← hlen, setItem_eq]
    rw [hq] at hcl
    have hcs := split_at_getElem? hsp
    generalize cs.take best.2.2 = a at hcs hvis ⊢
    generalize cs.drop (best.2.2 + 1) = b at hcs ⊢
    subst hcs
    rw [cleanPad_append, Bool.and_eq_true, cleanPad_cons_str] at hcl ⊢
    refine ⟨⟨hcl.1, by simpa using hcl.2.1, hcl.2.2⟩, Or.inr ⟨Pad.format pre ++ a, b ++ Pad.format post, ?_, hvis, ?_⟩⟩
    · rw [format_append, format_cons_str]; simp only [List.append_assoc, List.cons_append]
    · rw [format_append, format_cons_str]; simp only [List.append_assoc, List.cons_append, List.nil_append]

theorem unionOpr_of_split {A B : List GCh} (hA : ∀ x ∈ A, x ≠ GCh.colon)
    (h1 : isSep false A = true) (h2 : cmtAfter false A = false) (h3 : isSep false B = true)
    (h4 : cmtAfter false B = false) : unionOpr (A ++ .colon :: B) = true := by
  have hA' : ∀ x ∈ A, (x != GCh.colon) = true := fun x hx => bne_iff_ne.2 (hA x hx)
  simp only [unionOpr, List.takeWhile_append_of_pos hA', List.dropWhile_append_of_pos hA', List.takeWhile_cons,
    List.dropWhile_cons, bne_self_eq_false, Bool.false_eq_true, if_false, List.append_nil, h1, h2, h3, h4]
  rfl

/-- `__switch_operator(":")` on a padding that holds separators and comments (what an intersection or a blanked-out
    operator leaves): the result is the operator padding of a union, and no comment state changes. -/
theorem switch_colon_spec (p : Pad) (hs : isSep false p.format = true) (hc : cmtAfter false p.format = false)
    (hclean : cleanPad p = true) :
    unionOpr (Pad.format (switchOperator p (some .colon))) = true ∧
      (∀ c, cmtAfter c (Pad.format (switchOperator p (some .colon))) = cmtAfter c p.format) ∧
      cleanPad (switchOperator p (some .colon)) = true := by
  obtain ⟨hcl, hr⟩ := switch_colon_text p hclean
  have hsn := isSep_map_blank _ _ hs
  have hcn : ∀ c, cmtAfter c (p.format.map blankSym) = cmtAfter c p.format := fun c => cmtAfter_map_blank c _
  have hnocol : ∀ x ∈ p.format.map blankSym, x ≠ GCh.colon := fun x hx e => colon_not_mem_map_blank _ (e ▸ hx)
  rcases hr with hr | ⟨A, B, hq, hA, hr⟩
  · rw [hr]
    refine ⟨unionOpr_of_split (A := []) nofun rfl rfl hsn (by rw [hcn, hc]), fun c => ?_, hcl⟩
    rw [← hcn]; cases c <;> rfl
  · rw [hr]
    rw [hq] at hsn hcn hnocol
    have hcB := hcn false
    rw [hc, cmtAfter_then hA] at hcB
    rw [isSep_append, hA, Bool.and_eq_true] at hsn
    refine ⟨unionOpr_of_split (fun x hx => hnocol x (List.mem_append_left _ hx)) hsn.1 hA hsn.2 hcB, fun c => ?_, hcl⟩
    rw [← hcn, cmtAfter_append, cmtAfter_append]
    cases cmtAfter c A <;> rfl

/-- `_update_node` of an intersection or union whose padding is that of either operator (`hs.operator = …` may have
    changed the operator since the text was made): the padding it leaves is the one `ready` asks of the operator —
    for an intersection non-empty unless a parenthesis separates the operands — and no comment state changes. -/
theorem updateNodeBin_spec (o : BOp) (g : GN) (hclean : cleanPad g.opr = true) (hpre : oprPre g.opr = true) :
    ∃ opr', updateNodeBin o g = { g with opr := opr' } ∧ oprOKp o opr' = true ∧
      (o = .inter → Pad.format opr' ≠ [] ∨ headParens g.lchain = true ∨ headParens g.rchain = true) ∧
      (∀ c, cmtAfter c (Pad.format opr') = cmtAfter c g.opr.format) ∧ cleanPad opr' = true := by
  simp only [oprPre, Bool.or_eq_true] at hpre
  cases o with
  | union =>
    rcases hpre with h | h
    · -- the text of an intersection: `__switch_operator(":")`
      obtain ⟨h1, h2, hnc⟩ := interLike_iff.1 h
      obtain ⟨s1, s2, s3⟩ := switch_colon_spec g.opr h1 h2 hclean
      exact ⟨switchOperator g.opr (some .colon), by simp [updateNodeBin, hnc], s1, nofun, s2, s3⟩
    · exact ⟨g.opr, by rw [updateNodeBin_union g h], h, nofun, fun _ => rfl, hclean⟩
  | inter =>
    have hp : isSep false (g.opr.format.map blankSym) = true ∧ cmtAfter false g.opr.format = false := by
      rcases hpre with h | h
      · obtain ⟨h1, h2, _⟩ := interLike_iff.1 h
        exact ⟨isSep_map_blank _ _ h1, h2⟩
      · -- the text of a union: the ":" is blanked out
        obtain ⟨a, b, hab, ha, hac, hb, hbc⟩ := unionOpr_shape h
        refine ⟨?_, by rw [hab, cmtAfter_then hac]; exact hbc⟩
        rw [hab, List.map_append, List.map_cons, isSep_append, isSep_map_blank _ _ ha, cmtAfter_map_blank, hac]
        simpa [blankSym, isSep] using isSep_map_blank _ _ hb
    obtain ⟨opr', hg', hi', hne', heq', hcl'⟩ := updateNodeBin_inter g hp.1 hp.2 hclean
    exact ⟨opr', hg', hi', fun _ => hne', heq', hcl'⟩

end MontePyVerif.C02
