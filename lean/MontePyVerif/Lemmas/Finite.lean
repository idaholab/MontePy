import MontePyVerif.Lemmas.Flatten
/-!
# With the cycle check the read-card queue always dies out on a finite file system (lemmas for C20_term_always)

Every queue entry carries the chain of files being read on the way to it; a card naming a file of its chain is
refused (`MalformedInputError`, fix 8561374), so chains are duplicate-free lists of present files, and the nesting
of read cards is bounded by the number of files.
-/
namespace MontePyVerif.Finite
open MontePyVerif MontePyVerif.Reader MontePyVerif.Flatten

structure EntryInv (fs : FS) (support : List Str) (main : Str) (e : QEntry) : Prop where
  head : e.chain.head? = some main
  nodup : e.chain.Nodup
  present : ∀ p ∈ e.chain, p ∈ support
  fresh : joinPath (dirname main) e.name ∉ e.chain

theorem inv_serve (ll : Nat) (fs : FS) (support : List Str) (hsup : ∀ p, fs p ≠ none → p ∈ support) (main : Str)
    (e : QEntry) (he : EntryInv fs support main e) :
    ∀ e' ∈ enqueued (serve ll fs (dirname main) e), EntryInv fs support main e' ∧ e'.chain.length = e.chain.length + 1 := by
  intro e' he'
  obtain ⟨hfs, hchain, hfresh⟩ := enqueued_serve ll fs main e he.head he'
  refine ⟨⟨?_, ?_, ?_, hfresh⟩, by rw [hchain]; simp⟩
  · rw [hchain, List.head?_append, he.head]; rfl
  · rw [hchain, List.nodup_append]
    refine ⟨he.nodup, by simp, ?_⟩
    intro a ha b hb
    rw [List.mem_singleton.mp hb]
    intro e; subst e; exact he.fresh ha
  · rw [hchain]
    intro p hp
    rcases List.mem_append.mp hp with h | h
    · exact he.present p h
    · rw [List.mem_singleton.mp h]; exact hsup _ hfs

theorem inv_serveAll (ll : Nat) (fs : FS) (support : List Str) (hsup : ∀ p, fs p ≠ none → p ∈ support) (main : Str)
    (q : List QEntry) (k : Nat) (hq : ∀ e ∈ q, EntryInv fs support main e ∧ e.chain.length ≥ k) :
    ∀ e' ∈ enqueued (serveAll ll fs (dirname main) q), EntryInv fs support main e' ∧ e'.chain.length ≥ k + 1 := by
  intro e' he'
  obtain ⟨e, he, h⟩ := mem_enqueued_serveAll.mp he'
  obtain ⟨hi, hl⟩ := inv_serve ll fs support hsup main e (hq e he).1 e' h
  exact ⟨hi, by have := (hq e he).2; omega⟩

theorem diesOut_of_finite (ll : Nat) (fs : FS) (support : List Str) (hsup : ∀ p, fs p ≠ none → p ∈ support) (main : Str)
    (m : Nat) : ∀ (q : List QEntry) (k : Nat), support.length + 1 ≤ m + k →
      (∀ e ∈ q, EntryInv fs support main e ∧ e.chain.length ≥ k) → DiesOut ll fs (dirname main) m q := by
  induction m with
  | zero =>
    intro q k hk hq
    cases q with
    | nil => simp [DiesOut]
    | cons e q =>
      exfalso
      obtain ⟨hi, hl⟩ := hq e (by simp)
      have := hi.nodup.length_le_of_subset (fun _ hp => hi.present _ hp)
      omega
  | succ m ih =>
    intro q k hk hq
    cases q with
    | nil => simp [DiesOut]
    | cons e q =>
      simp only [DiesOut]
      exact ih _ (k + 1) (by omega) (inv_serveAll ll fs support hsup main (e :: q) k hq)

theorem noFuel_serveAll (ll : Nat) (fs : FS) (dir : Str) (q : List QEntry) :
    Event.raise .outOfFuel ∉ serveAll ll fs dir q := by
  intro h
  obtain ⟨e, _, he⟩ := List.mem_flatMap.mp h
  unfold serve at he
  cases hfs : fs (joinPath dir e.name) with
  | none => rw [hfs] at he; simp at he
  | some bytes =>
    rw [hfs] at he
    rcases List.mem_cons.mp he with h | h
    · nomatch h
    · nomatch fileEvent_goLines _ _ _ _ h

end MontePyVerif.Finite
