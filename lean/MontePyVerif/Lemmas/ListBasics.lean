/-! # List facts that several proof modules share, mostly `takeWhile` / `dropWhile` (core only) -/
namespace MontePyVerif.ListBasics

theorem isEmpty_dropWhile {α} (p : α → Bool) (l : List α) : (l.dropWhile p).isEmpty = l.all p := by
  induction l with
  | nil => rfl
  | cons a t ih =>
    rw [List.dropWhile_cons, List.all_cons]
    cases p a
    · rfl
    · exact ih

theorem dropWhile_eq_nil {α} (p : α → Bool) (l : List α) : l.dropWhile p = [] ↔ ∀ x ∈ l, p x = true := by
  rw [← List.isEmpty_iff, isEmpty_dropWhile, List.all_eq_true]

theorem mem_takeWhile {α} (p : α → Bool) (l : List α) (x : α) (h : x ∈ l.takeWhile p) : p x = true :=
  List.all_eq_true.mp List.all_takeWhile x h

theorem takeWhile_eq_self {α} (p : α → Bool) (l : List α) : l.takeWhile p = l ↔ ∀ x ∈ l, p x = true :=
  ⟨fun h x hx => mem_takeWhile p l x (by rw [h]; exact hx),
    fun h => by simpa using List.takeWhile_append_of_pos (l₂ := []) h⟩

theorem dropWhile_snoc {α} (p : α → Bool) (xs : List α) (y : α) (hy : p y = false) :
    (xs ++ [y]).dropWhile p = xs.dropWhile p ++ [y] := by
  induction xs with
  | nil => simp [List.dropWhile, hy]
  | cons x xs ih =>
    simp only [List.cons_append, List.dropWhile_cons]
    split
    · exact ih
    · rfl

theorem dropWhile_append_of_ne {α} (p : α → Bool) (xs ys : List α) (h : xs.dropWhile p ≠ []) :
    (xs ++ ys).dropWhile p = xs.dropWhile p ++ ys := by
  rw [List.dropWhile_append]
  cases hh : xs.dropWhile p with
  | nil => exact absurd hh h
  | cons a t => simp

theorem takeWhile_append_stop {α} (p : α → Bool) (xs : List α) (y : α) (ys : List α)
    (h : ∀ x ∈ xs, p x = true) (hy : p y = false) : (xs ++ y :: ys).takeWhile p = xs := by
  rw [List.takeWhile_append_of_pos h]; simp [hy]

theorem length_takeWhile_add_dropWhile {α} (p : α → Bool) (l : List α) :
    (l.takeWhile p).length + (l.dropWhile p).length = l.length := by
  rw [← List.length_append, List.takeWhile_append_dropWhile]

theorem head_dropWhile {α} (p : α → Bool) (l : List α) (a : α) (t : List α) (h : l.dropWhile p = a :: t) :
    p a = false := by
  have := List.head?_dropWhile_not p l
  rwa [h] at this

theorem drop_length_takeWhile {α} (p : α → Bool) (l : List α) : l.drop (l.takeWhile p).length = l.dropWhile p := by
  have := List.drop_left (l₁ := l.takeWhile p) (l₂ := l.dropWhile p)
  rwa [List.takeWhile_append_dropWhile] at this

theorem length_takeWhile_le {α} (p : α → Bool) (l : List α) : (l.takeWhile p).length ≤ l.length :=
  (List.takeWhile_sublist p).length_le

/-- a list is what is left when the `a`s at its end are dropped, followed by those `a`s -/
theorem dropWhile_reverse_decomp {α} [DecidableEq α] (a : α) (l : List α) :
    ∃ k, l = (l.reverse.dropWhile (fun c => decide (c = a))).reverse ++ List.replicate k a := by
  refine ⟨(l.reverse.takeWhile (fun c => decide (c = a))).length, ?_⟩
  have h3 : (l.reverse.takeWhile (fun c => decide (c = a))).reverse =
      List.replicate (l.reverse.takeWhile (fun c => decide (c = a))).length a := by
    rw [List.eq_replicate_iff]
    exact ⟨by simp, fun c hc => by simpa using mem_takeWhile _ _ _ (List.mem_reverse.mp hc)⟩
  rw [← h3, ← List.reverse_append, List.takeWhile_append_dropWhile, List.reverse_reverse]

theorem replicate_all {α} (n : Nat) (a : α) (p : α → Bool) (h : p a = true) :
    ∀ x ∈ List.replicate n a, p x = true := by
  intro x hx
  rw [(List.mem_replicate.mp hx).2]; exact h

theorem all_dropWhile {α} (p : α → Bool) (l : List α) : (l.dropWhile p).all p = l.all p := by
  induction l with
  | nil => rfl
  | cons a t ih =>
    rw [List.dropWhile_cons, List.all_cons]
    cases h : p a
    · rw [if_neg (by simp), List.all_cons, h]
    · exact ih

theorem flatMap_congr' {α β} (l : List α) (f g : α → List β) (h : ∀ x ∈ l, f x = g x) :
    l.flatMap f = l.flatMap g := by
  induction l with
  | nil => rfl
  | cons a t ih =>
    simp only [List.flatMap_cons]
    rw [h a (by simp), ih (fun x hx => h x (List.mem_cons_of_mem _ hx))]

theorem head?_dropLast {α} (l : List α) (h : l.dropLast ≠ []) : l.dropLast.head? = l.head? := by
  match l with
  | [] => simp at h
  | [a] => simp at h
  | a :: b :: t => simp [List.dropLast]

theorem eq_of_nodup_map {α β : Type} {f : α → β} {l : List α} (h : (l.map f).Nodup) {a b : α}
    (ha : a ∈ l) (hb : b ∈ l) : f a = f b → a = b :=
  have hp : l.Pairwise fun a b => f a ≠ f b := List.pairwise_map.1 h
  List.Pairwise.forall_of_forall_of_flip (R := fun a b => f a = f b → a = b) (fun _ _ _ => rfl)
    (hp.imp fun hne e => absurd e hne) (hp.imp fun hne e => absurd e.symm hne) ha hb

end MontePyVerif.ListBasics
