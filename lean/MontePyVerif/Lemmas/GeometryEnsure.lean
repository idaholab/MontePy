import MontePyVerif.Lemmas.GeometryPrint
/-! `_ensure_has_nodes` establishes `linked` (`ensure_linked`).

    `Le T' T`: the text `T'` leaves a lexer's comment state at most as open as `T` does, from either state.  Every
    transformation `_end_trailing_comment` performs makes texts smaller in this preorder, and every text condition of
    `gen` is downward closed in it (`chainOK_ext`). -/
namespace MontePyVerif.C02
open MontePyVerif.Spec.Geometry MontePyVerif.Geometry

def Le (T' T : List GCh) : Prop := ∀ c, cmtAfter c T' = true → cmtAfter c T = true

theorem cmtAfter_mono (c c' : Bool) (T : List GCh) (hc : c = true → c' = true) :
    cmtAfter c T = true → cmtAfter c' T = true := by
  induction T generalizing c c' with
  | nil => exact hc
  | cons x xs ih =>
    cases c <;> cases c' <;> simp only [cmtAfter]
    · exact id
    · -- a comment start is not a line end
      refine ih _ _ fun h => ?_
      cases x <;> first | rfl | cases h
    · cases hc rfl
    · exact id

theorem Le.refl (T : List GCh) : Le T T := fun _ h => h
theorem Le.trans {A B C : List GCh} (h1 : Le A B) (h2 : Le B C) : Le A C := fun c h => h2 c (h1 c h)

theorem Le.append {A' A B' B : List GCh} (ha : Le A' A) (hb : Le B' B) : Le (A' ++ B') (A ++ B) := by
  intro c h
  rw [cmtAfter_append] at h ⊢
  exact cmtAfter_mono _ _ B (ha c) (hb _ h)

theorem Le.closed {T' T : List GCh} (h : Le T' T) (hc : cmtAfter false T = false) : cmtAfter false T' = false := by
  cases hh : cmtAfter false T' with
  | false => rfl
  | true => rw [h false hh] at hc; cases hc

/-- the text `_end_trailing_comment` appends -/
def endTxt : List GCh := .nl :: List.replicate Gen.blankSpaceContinue .sp

theorem cmtAfter_endTxt (c : Bool) : cmtAfter c endTxt = false := by
  cases c <;> rfl

theorem cmtAfter_append_endTxt (c : Bool) (T : List GCh) : cmtAfter c (T ++ endTxt) = false := by
  rw [cmtAfter_append, cmtAfter_endTxt]

theorem le_append_endTxt (T : List GCh) : Le (T ++ endTxt) T := by
  intro c h; rw [cmtAfter_append_endTxt] at h; cases h

theorem isSep_endTxt (c : Bool) : isSep c endTxt = true := by
  cases c <;> rfl

theorem isSep_append_endTxt {c : Bool} {S : List GCh} (h : isSep c S = true) : isSep c (S ++ endTxt) = true := by
  rw [isSep_append, h, isSep_endTxt]; rfl

theorem format_endComment (p : Pad) : Pad.format p.endComment = p.format ++ endTxt := by
  simp [Pad.endComment, Pad.format, PItem.format, endTxt]

theorem optFmt_map_endComment (p : Option Pad) (hp : p.isSome = true) :
    optFmt (p.map Pad.endComment) = optFmt p ++ endTxt := by
  cases p with
  | none => cases hp
  | some q => exact format_endComment q

/-! ## chains whose end paddings were extended -/

/-- a text that may be appended to a padding -/
def Tail (X : List GCh) : Prop := (∀ c, isSep c X = true) ∧ ∀ T, Le (T ++ X) T

theorem Tail.nil : Tail [] := ⟨fun c => by cases c <;> rfl, fun T => by rw [List.append_nil]; exact Le.refl T⟩

theorem Tail.endTxt : Tail endTxt := ⟨isSep_endTxt, le_append_endTxt⟩

theorem Tail.append {X Y : List GCh} (hx : Tail X) (hy : Tail Y) : Tail (X ++ Y) := by
  refine ⟨fun c => by rw [isSep_append, hx.1, hy.1]; rfl, fun T => ?_⟩
  rw [← List.append_assoc]
  exact (hy.2 (T ++ X)).trans (hx.2 T)

theorem format_append (p q : Pad) : Pad.format (p ++ q) = p.format ++ q.format := by
  simp [Pad.format]

/-- `c'` is `c` with tails appended to some end paddings -/
inductive ChainExt : List Wrap → List Wrap → Prop
  | nil : ChainExt [] []
  | cons {w' w : Wrap} {ws' ws : List Wrap} (hs : w'.sp = w.sp) (x : Pad) (tx : Tail x.format)
      (he : w'.ep = w.ep.map (· ++ x)) (h : ChainExt ws' ws) : ChainExt (w' :: ws') (w :: ws)

theorem ChainExt.same {c' c : List Wrap} (w : Wrap) (h : ChainExt c' c) : ChainExt (w :: c') (w :: c) :=
  .cons rfl [] (by simpa [Pad.format] using Tail.nil) (by cases w.ep <;> simp) h

theorem ChainExt.refl (c : List Wrap) : ChainExt c c := by
  induction c with
  | nil => exact .nil
  | cons w ws ih => exact ih.same w

theorem ChainExt.trans {a b c : List Wrap} (h1 : ChainExt a b) (h2 : ChainExt b c) : ChainExt a c := by
  induction h1 generalizing c with
  | nil => exact h2
  | cons hs1 x1 t1 he1 _ ih =>
    cases h2 with
    | @cons _ z _ _ hs2 x2 t2 he2 hr2 =>
      refine .cons (hs1.trans hs2) (x2 ++ x1) (by rw [format_append]; exact t2.append t1) ?_ (ih hr2)
      rw [he1, he2]; cases z.ep <;> simp

theorem kind_ext {w' w : Wrap} (hs : w'.sp = w.sp) {x : Pad} (he : w'.ep = w.ep.map (· ++ x)) :
    (wrapKind w = .bare → wrapKind w' = .bare) ∧
    (∀ s e, wrapKind w = .parens s e → wrapKind w' = .parens s (e ++ x.format)) := by
  constructor
  · intro h
    obtain ⟨h1, h2⟩ := (kind_bare_iff w).1 h
    exact (kind_bare_iff w').2 ⟨hs.trans h1, by rw [he, h2]; rfl⟩
  · intro s e h
    obtain ⟨si, ei, h1, h2, h3, h4⟩ := (kind_parens_iff w s e).1 h
    refine (kind_parens_iff w' s (e ++ x.format)).2 ⟨si, ei ++ x, hs.trans h1, by rw [he, h2]; rfl, h3, ?_⟩
    rw [h4, format_append]

theorem wrapFmt_le {c' c : List Wrap} (h : ChainExt c' c) {t' t : List GCh} (ht : Le t' t) :
    Le (wrapFmt c' t') (wrapFmt c t) := by
  induction h with
  | nil => exact ht
  | @cons w' w _ _ hs x tx he _ ih =>
    simp only [wrapFmt]
    refine Le.append (Le.append (by rw [hs]; exact Le.refl _) ih) ?_
    rw [he]
    cases w.ep with
    | none => exact Le.refl _
    | some p => simpa [optFmt, format_append] using tx.2 p.format

theorem chainExt_pads {c' c : List Wrap} (h : ChainExt c' c) (hp : chainPads c = true) :
    chainPads c' = true ∧ headParens c' = headParens c := by
  induction h with
  | nil => exact ⟨rfl, rfl⟩
  | @cons w' w _ _ hs x tx he _ ih =>
    simp only [chainPads, Bool.and_eq_true] at hp
    obtain ⟨hk, hrest⟩ := hp
    obtain ⟨kb, kp⟩ := kind_ext hs he
    cases hkw : wrapKind w with
    | bare => simp [chainPads, headParens, kb hkw, hkw, ih hrest]
    | bad => simp [hkw] at hk
    | parens s e =>
      simp [hkw] at hk
      simp [chainPads, headParens, kp s e hkw, hkw, ih hrest, hk.1.1, hk.1.2, isSep_append, hk.2, tx.1]

/-- nothing in front of a ")" of the chain is hidden in a comment -/
def chainClosed : List Wrap → List GCh → Bool
  | [], _ => true
  | w :: ws, t => (w.ep.isNone || !cmtAfter false (wrapFmt ws t)) && chainClosed ws t

theorem chainClosed_cons {w : Wrap} {ws : List Wrap} {t : List GCh} :
    chainClosed (w :: ws) t = true ↔
      (w.ep = none ∨ cmtAfter false (wrapFmt ws t) = false) ∧ chainClosed ws t = true := by
  simp [chainClosed]

theorem chainOK_iff {c : List Wrap} {t : List GCh} :
    chainOK c t = true ↔ chainPads c = true ∧ chainClosed c t = true := by
  induction c with
  | nil => simp [chainOK, chainPads, chainClosed]
  | cons w ws ih =>
    rw [chainClosed_cons]
    cases hk : wrapKind w with
    | bare => simp [chainOK, chainPads, hk, ((kind_bare_iff w).1 hk).2, ih]
    | bad => simp [chainOK, chainPads, hk]
    | parens s e =>
      obtain ⟨si, ei, _, he, _, _⟩ := (kind_parens_iff w s e).1 hk
      simp only [chainOK, chainPads, hk, he, ih, Bool.and_eq_true, Bool.not_eq_true', reduceCtorEq, false_or]
      constructor
      · rintro ⟨⟨⟨⟨h1, h2⟩, h3⟩, h4⟩, h5, h6⟩; exact ⟨⟨⟨⟨h1, h2⟩, h4⟩, h5⟩, h3, h6⟩
      · rintro ⟨⟨⟨⟨h1, h2⟩, h4⟩, h5⟩, h3, h6⟩; exact ⟨⟨⟨⟨h1, h2⟩, h3⟩, h4⟩, h5, h6⟩

theorem chainPads_of_chainOK {c : List Wrap} {t : List GCh} (h : chainOK c t = true) : chainPads c = true :=
  (chainOK_iff.1 h).1

theorem chainOK_allBare {ws : List Wrap} (hb : allBare ws = true) (t : List GCh) : chainOK ws t = true := by
  induction ws with
  | nil => rfl
  | cons w ws ih =>
    obtain ⟨hk, hb⟩ := allBare_cons.1 hb
    simp [chainOK, hk, ih hb]

theorem chainPads_allBare {ws : List Wrap} (hb : allBare ws = true) : chainPads ws = true :=
  chainPads_of_chainOK (chainOK_allBare hb [])

theorem chainClosed_ext {c' c : List Wrap} (h : ChainExt c' c) {t' t : List GCh} (ht : Le t' t)
    (hc : chainClosed c t = true) : chainClosed c' t' = true := by
  induction h with
  | nil => rfl
  | @cons w' w _ _ hs x tx he hr ih =>
    rw [chainClosed_cons] at hc ⊢
    exact ⟨hc.1.imp (fun hn => by rw [he, hn]; rfl) (wrapFmt_le hr ht).closed, ih hc.2⟩

theorem chainOK_ext {c' c : List Wrap} (h : ChainExt c' c) {t' t : List GCh} (ht : Le t' t)
    (hc : chainOK c t = true) : chainOK c' t' = true := by
  obtain ⟨hp, hcl⟩ := chainOK_iff.1 hc
  exact chainOK_iff.2 ⟨(chainExt_pads h hp).1, chainClosed_ext h ht hcl⟩

theorem chainOK_le {c : List Wrap} {t' t : List GCh} (ht : Le t' t) (hc : chainOK c t = true) : chainOK c t' = true :=
  chainOK_ext (.refl c) ht hc

theorem Le.wrap (c : List Wrap) {t' t : List GCh} (ht : Le t' t) : Le (wrapFmt c t') (wrapFmt c t) :=
  wrapFmt_le (.refl c) ht

theorem headParens_eq_hasParens (ws : List Wrap) : headParens ws = hasParens ws := by
  cases ws with
  | nil => rfl
  | cons w ws =>
    simp only [headParens, hasParens]
    cases hk : wrapKind w with
    | parens s e =>
      obtain ⟨si, ei, h1, h2, _, _⟩ := (kind_parens_iff w s e).1 hk
      simp [Wrap.isParens, h1, h2]
    | bare =>
      obtain ⟨h1, h2⟩ := (kind_bare_iff w).1 hk
      simp [Wrap.isParens, h1, h2]
    | bad =>
      simp only
      unfold Wrap.isParens
      split
      · rename_i si ei h1 h2
        have := (kind_parens_iff w _ _).2 ⟨si, ei, h1, h2, rfl, rfl⟩
        rw [hk] at this; cases this
      · rfl

/-! ## `_end_trailing_comment` on a chain -/

theorem endChain_some {ws c : List Wrap} (h : endChain ws = some c) :
    ChainExt c ws ∧ ∀ t, wrapFmt c t = wrapFmt ws t ++ endTxt := by
  induction ws generalizing c with
  | nil => cases h
  | cons w ws ih =>
    simp only [endChain] at h
    cases hep : w.ep with
    | some p =>
      simp only [hep, Option.some.injEq] at h
      subst h
      refine ⟨.cons rfl [.str [.nl], .str (List.replicate Gen.blankSpaceContinue .sp)] ?_ ?_ (.refl ws), fun t => ?_⟩
      · exact (format_endComment []).symm ▸ Tail.endTxt
      · simp [hep, Pad.endComment]
      · simp [wrapFmt, optFmt, hep, format_endComment]
    | none =>
      simp only [hep, Option.map_eq_some_iff] at h
      obtain ⟨c', hh, rfl⟩ := h
      obtain ⟨e1, e2⟩ := ih hh
      exact ⟨e1.same w, fun t => by simp [wrapFmt, e2, hep, optFmt]⟩

theorem endChain_none {ws : List Wrap} (h : endChain ws = none) (t x : List GCh) :
    wrapFmt ws (t ++ x) = wrapFmt ws t ++ x := by
  induction ws with
  | nil => rfl
  | cons w ws ih =>
    simp only [endChain] at h
    cases hep : w.ep with
    | some p => simp [hep] at h
    | none =>
      simp only [hep, Option.map_eq_none_iff] at h
      simp [wrapFmt, ih h, hep, optFmt]

theorem endChain_allBare {ws : List Wrap} (h : allBare ws = true) : endChain ws = none := by
  induction ws with
  | nil => rfl
  | cons w ws ih =>
    obtain ⟨hk, hb⟩ := allBare_cons.1 h
    obtain ⟨_, h2⟩ := (kind_bare_iff w).1 hk
    simp [endChain, h2, ih hb]

theorem orderOK_setEp {g : GN} {base : List Key} {ep' : Option Pad} (h : orderOK g base = true)
    (he : ep'.isSome = g.ep.isSome) : orderOK { g with ep := ep' } base = true := by
  simp only [orderOK, ← Option.not_isSome] at h ⊢
  rw [he]; exact h

/-! ## what a step leaves as it is -/

/-- what no step of `_update_values` changes -/
structure Same (h' h : HS) : Prop where
  isU : isUnion h' = isUnion h
  cellU : isCellUnit h' = isCellUnit h
  ev : ∀ ρ, h'.eval ρ = h.eval ρ

theorem Same.refl (h : HS) : Same h h := ⟨rfl, rfl, fun _ => rfl⟩
theorem Same.trans {a b c : HS} (h1 : Same a b) (h2 : Same b c) : Same a c :=
  ⟨h1.isU.trans h2.isU, h1.cellU.trans h2.cellU, fun ρ => (h1.ev ρ).trans (h2.ev ρ)⟩

theorem Same.compl_congr {l' l : HS} (h : Same l' l) (x y : Option GN) : Same (.compl l' x) (.compl l y) :=
  ⟨rfl, rfl, fun ρ => congrArg (!·) (h.ev ρ)⟩

theorem Same.bin_congr {l' l r' r : HS} (o : BOp) (hl : Same l' l) (hr : Same r' r) (x y : Option GN) :
    Same (.bin o l' r' x) (.bin o l r y) :=
  ⟨by cases o <;> rfl, rfl, fun ρ => by
    cases o
    · show (_ && _) = (_ && _); rw [hl.ev ρ, hr.ev ρ]
    · show (_ || _) = (_ || _); rw [hl.ev ρ, hr.ev ρ]⟩

/-- every link ends in the node of the HalfSpace that is the child now (`_encloses` will say yes) -/
def fresh : HS → Bool
  | .unit .. => true
  | .compl l (some g) => fresh l && g.ltarget == l.nodeId.getD 0
  | .compl l none => fresh l
  | .bin _ l r (some g) => fresh l && fresh r && g.ltarget == l.nodeId.getD 0 && g.rtarget == r.nodeId.getD 0
  | .bin _ l r none => fresh l && fresh r

theorem fresh_compl {l : HS} {g : GN} :
    fresh (.compl l (some g)) = true ↔ fresh l = true ∧ g.ltarget = l.nodeId.getD 0 := by
  simp only [fresh, Bool.and_eq_true, beq_iff_eq]

theorem fresh_bin {o : BOp} {l r : HS} {g : GN} :
    fresh (.bin o l r (some g)) = true ↔
      fresh l = true ∧ fresh r = true ∧ g.ltarget = l.nodeId.getD 0 ∧ g.rtarget = r.nodeId.getD 0 := by
  simp only [fresh, Bool.and_eq_true, beq_iff_eq, and_assoc]

/-- what the comment-ending steps keep besides the meaning (`Same`) -/
structure Keep (h' h : HS) : Prop where
  ht : h'.height = h.height
  nid : h'.nodeId = h.nodeId
  fr : fresh h = true → fresh h' = true

theorem Keep.refl (h : HS) : Keep h h := ⟨rfl, rfl, id⟩
theorem Keep.trans {a b c : HS} (x : Keep a b) (y : Keep b c) : Keep a c :=
  ⟨x.ht.trans y.ht, x.nid.trans y.nid, fun h => x.fr (y.fr h)⟩

theorem Keep.compl {l' l : HS} {g' g : GN} (k : Keep l' l) (hid : g'.id = g.id) (ht : g'.ltarget = g.ltarget) :
    Keep (.compl l' (some g')) (.compl l (some g)) :=
  ⟨by simp only [HS.height, k.ht], by simp only [HS.nodeId, Option.map_some, hid], fun h => by
    obtain ⟨h1, h2⟩ := fresh_compl.1 h
    exact fresh_compl.2 ⟨k.fr h1, by rw [ht, k.nid]; exact h2⟩⟩

theorem Keep.bin {o : BOp} {l' l r' r : HS} {g' g : GN} (kl : Keep l' l) (kr : Keep r' r) (hid : g'.id = g.id)
    (hl : g'.ltarget = g.ltarget) (hr : g'.rtarget = g.rtarget) :
    Keep (.bin o l' r' (some g')) (.bin o l r (some g)) :=
  ⟨by simp only [HS.height, kl.ht, kr.ht], by simp only [HS.nodeId, Option.map_some, hid], fun h => by
    obtain ⟨h1, h2, h3, h4⟩ := fresh_bin.1 h
    exact fresh_bin.2 ⟨kl.fr h1, kr.fr h2, by rw [hl, kl.nid]; exact h3, by rw [hr, kr.nid]; exact h4⟩⟩

/-- what a transformation of a link (chain `c` around node `h`) guarantees -/
structure LinkOK (b : Bool) (c' : List Wrap) (h' : HS) (c : List Wrap) (h : HS) : Prop where
  ext : ChainExt c' c
  g : gen b h' = true
  le : Le h'.fmt h.fmt
  same : Same h' h
  keep : Keep h' h

theorem LinkOK.trans {b c2 h2 c1 h1 c0 h0} (x : LinkOK b c2 h2 c1 h1) (y : LinkOK b c1 h1 c0 h0) :
    LinkOK b c2 h2 c0 h0 :=
  ⟨x.ext.trans y.ext, x.g, x.le.trans y.le, x.same.trans y.same, x.keep.trans y.keep⟩

theorem LinkOK.refl {b c h} (hg : gen b h = true) : LinkOK b c h c h :=
  ⟨ChainExt.refl c, hg, Le.refl _, Same.refl h, Keep.refl h⟩

theorem LinkOK.cons {b c' h' c h} (w : Wrap) (k : LinkOK b c' h' c h) : LinkOK b (w :: c') h' (w :: c) h :=
  { k with ext := k.ext.same w }

theorem LinkOK.ok {b c' h' c h} (k : LinkOK b c' h' c h) (hc : chainOK c h.fmt = true) :
    chainOK c' h'.fmt = true := chainOK_ext k.ext k.le hc

theorem LinkOK.head {b c' h' c h} (k : LinkOK b c' h' c h) (hc : chainOK c h.fmt = true) :
    headParens c' = headParens c := (chainExt_pads k.ext (chainPads_of_chainOK hc)).2

/-! ## `_end_trailing_comment` on a node and on a link, `_end_comments_in_parentheses` -/

/-- `_end_trailing_comment` below a dict value that is a link: the first `end_pad` of the chain, else the child's
    own node -/
def endLast (c : List Wrap) (h : HS) : List Wrap × HS :=
  match endChain c with
  | some c' => (c', h)
  | none => (c, endNode h)

theorem endLink_eq (c : List Wrap) (h : HS) :
    endLink c h = if endsInComment (wrapFmt c h.fmt) then endLast c h else (c, h) := rfl

/-- the `end_pad` of a node is the last value of its dict: it takes the line end -/
theorem endNode_compl_ep {l : HS} {g : GN} (ho : g.order = [.operator, .left] ++ [.endPad]) :
    endNode (.compl l (some g)) = .compl l (some { g with ep := g.ep.map Pad.endComment }) := by
  obtain ⟨id, order, opr, ep, lc, lt, rc, rt⟩ := g
  cases ho; rfl

theorem endNode_bin_ep {o : BOp} {l r : HS} {g : GN} (ho : g.order = [.left, .operator, .right] ++ [.endPad]) :
    endNode (.bin o l r (some g)) = .bin o l r (some { g with ep := g.ep.map Pad.endComment }) := by
  obtain ⟨id, order, opr, ep, lc, lt, rc, rt⟩ := g
  cases ho; rfl

/-- without `end_pad` the last value is the link to the last child -/
theorem endNode_compl_link {l : HS} {g : GN} (ho : g.order = [.operator, .left]) :
    endNode (.compl l (some g)) =
      .compl (endLast g.lchain l).2 (some { g with lchain := (endLast g.lchain l).1 }) := by
  obtain ⟨id, order, opr, ep, lc, lt, rc, rt⟩ := g
  cases ho
  simp only [endNode, endLast]
  cases endChain lc <;> rfl

theorem endNode_bin_link {o : BOp} {l r : HS} {g : GN} (ho : g.order = [.left, .operator, .right]) :
    endNode (.bin o l r (some g)) =
      .bin o l (endLast g.rchain r).2 (some { g with rchain := (endLast g.rchain r).1 }) := by
  obtain ⟨id, order, opr, ep, lc, lt, rc, rt⟩ := g
  cases ho
  simp only [endNode, endLast]
  cases endChain rc <;> rfl

theorem optFmt_endComment_getD (p : Option Pad) : optFmt (some (p.getD []).endComment) = optFmt p ++ endTxt := by
  show Pad.format _ = _
  rw [format_endComment]; cases p <;> rfl

theorem endNode_unit_fmt (d : Nat) (s c : Bool) (v : VN) :
    (endNode (.unit d s c (some v))).fmt = (HS.unit d s c (some v)).fmt ++ endTxt := by
  simp only [endNode, HS.fmt, optFmt_endComment_getD, List.append_assoc]

/-- what `_end_trailing_comment` does to a node -/
structure Ended (b : Bool) (h' h : HS) : Prop where
  g : gen b h' = true
  fmt : h'.fmt = h.fmt ++ endTxt
  same : Same h' h
  keep : Keep h' h

theorem endLast_spec {b : Bool} {c : List Wrap} {h : HS} (hg : gen b h = true) (ih : Ended b (endNode h) h) :
    LinkOK b (endLast c h).1 (endLast c h).2 c h ∧
      wrapFmt (endLast c h).1 (endLast c h).2.fmt = wrapFmt c h.fmt ++ endTxt := by
  unfold endLast
  cases hec : endChain c with
  | some c' =>
    obtain ⟨hext, hfm⟩ := endChain_some hec
    exact ⟨⟨hext, hg, Le.refl _, Same.refl h, Keep.refl h⟩, hfm _⟩
  | none =>
    exact ⟨⟨ChainExt.refl c, ih.g, by rw [ih.fmt]; exact le_append_endTxt _, ih.same, ih.keep⟩,
      by rw [ih.fmt, endChain_none hec]⟩

theorem ended_ep {p : Option Pad} (hs : p.isSome = true) (hp : isSep false (optFmt p) = true) :
    isSep false (optFmt (p.map Pad.endComment)) = true := by
  rw [optFmt_map_endComment _ hs]; exact isSep_append_endTxt hp

theorem ended_compl {b : Bool} {l' l : HS} {g : GN} {c' : List Wrap} {ep' : Option Pad} (hcu : isCellUnit l = false)
    (hg : gen b (.compl l (some g)) = true) (k : LinkOK b c' l' g.lchain l) (he : ep'.isSome = g.ep.isSome)
    (hep' : isSep false (optFmt ep') = true)
    (hf : wrapFmt c' l'.fmt ++ optFmt ep' = wrapFmt g.lchain l.fmt ++ optFmt g.ep ++ endTxt) :
    Ended b (.compl l' (some { g with lchain := c', ep := ep' })) (.compl l (some g)) := by
  obtain ⟨_, hn, _, ho, hopr, hhp, hck, _⟩ := (gen_compl hcu).1 hg
  cases hn
  have ho' : orderOK { g with lchain := c', ep := ep' } [.operator, .left] = true := orderOK_setEp (g := g) ho he
  refine ⟨(gen_compl (k.same.cellU.trans hcu)).2 ⟨_, rfl, k.g, ho', hopr, (k.head hck).trans hhp, k.ok hck, hep'⟩,
    ?_, k.same.compl_congr _ _, k.keep.compl rfl rfl⟩
  rw [fmt_compl ho, fmt_compl ho', hf]
  simp only [List.append_assoc]

theorem ended_bin {b : Bool} {o : BOp} {l r' r : HS} {g : GN} {c' : List Wrap} {ep' : Option Pad}
    (hg : gen b (.bin o l r (some g)) = true) (k : LinkOK b c' r' g.rchain r) (he : ep'.isSome = g.ep.isSome)
    (hep' : isSep false (optFmt ep') = true)
    (hf : wrapFmt c' r'.fmt ++ optFmt ep' = wrapFmt g.rchain r.fmt ++ optFmt g.ep ++ endTxt) :
    Ended b (.bin o l r' (some { g with rchain := c', ep := ep' })) (.bin o l r (some g)) := by
  obtain ⟨_, hn, hl, _, ho, hckl, hckr, hLc, hcl, hopr, hsep, _⟩ := gen_bin.1 hg
  cases hn
  have ho' : orderOK { g with rchain := c', ep := ep' } [.left, .operator, .right] = true :=
    orderOK_setEp (g := g) ho he
  refine ⟨gen_bin.2 ⟨_, rfl, hl, k.g, ho', hckl, k.ok hckr, hLc, hcl, hopr, ?_, hep'⟩,
    ?_, Same.bin_congr o (Same.refl l) k.same _ _, (Keep.refl l).bin k.keep rfl rfl rfl⟩
  · simpa only [Apart, k.head hckr, k.same.isU] using hsep
  · rw [fmt_bin ho, fmt_bin ho', hf]
    simp only [List.append_assoc]

theorem endNode_spec (b : Bool) (h : HS) (hg : gen b h = true) : Ended b (endNode h) h := by
  induction h with
  | unit d s c n =>
    obtain ⟨rfl, v, rfl, htok, hpad⟩ := gen_unit.1 hg
    refine ⟨gen_unit.2 ⟨rfl, _, rfl, htok, ?_⟩, ?_, ⟨rfl, rfl, fun _ => rfl⟩, ⟨rfl, rfl, id⟩⟩
    · rw [optFmt_endComment_getD]; exact isSep_append_endTxt hpad
    · exact endNode_unit_fmt d s false v
  | compl l n ih =>
    rcases cell_or l with ⟨d, s, vn, rfl⟩ | hcu
    · -- `#n`: the link is bare, the line end goes behind the cell number
      obtain ⟨v, g, rfl, rfl, ho, hopr, hbare, hcv, hpad, hep⟩ := gen_cell.1 hg
      rcases orderOK_cases ho with ⟨hor, hepn⟩ | ⟨hor, heps⟩
      · rw [endNode_compl_link hor]
        simp only [endLast, endChain_allBare hbare]
        refine ⟨gen_cell.2 ⟨_, _, rfl, rfl, ho, hopr, hbare, hcv, ?_, hep⟩, ?_, ⟨rfl, rfl, fun _ => rfl⟩,
          ⟨rfl, rfl, id⟩⟩
        · rw [optFmt_endComment_getD]; exact isSep_append_endTxt hpad
        · rw [fmt_compl ho, fmt_compl (g := g) ho, wrapFmt_allBare hbare, wrapFmt_allBare hbare, endNode_unit_fmt,
            hepn]
          simp only [optFmt, List.append_assoc, List.append_nil]
      · have ho' := orderOK_setEp (ep' := g.ep.map Pad.endComment) ho Option.isSome_map
        rw [endNode_compl_ep hor]
        refine ⟨gen_cell.2 ⟨_, _, rfl, rfl, ho', hopr, hbare, hcv, hpad, ended_ep heps hep⟩, ?_,
          (Same.refl _).compl_congr _ _, ⟨rfl, rfl, id⟩⟩
        rw [fmt_compl ho, fmt_compl ho', optFmt_map_endComment _ heps]
        simp only [List.append_assoc]
    · obtain ⟨g, rfl, hl, ho, _, _, _, hep⟩ := (gen_compl hcu).1 hg
      rcases orderOK_cases ho with ⟨hor, hepn⟩ | ⟨hor, heps⟩
      · obtain ⟨k, kf⟩ := endLast_spec (c := g.lchain) hl (ih hl)
        rw [endNode_compl_link hor]
        exact ended_compl hcu hg k rfl hep (by rw [kf, hepn]; simp only [optFmt, List.append_nil])
      · rw [endNode_compl_ep hor]
        exact ended_compl hcu hg (LinkOK.refl hl) Option.isSome_map (ended_ep heps hep)
          (by rw [optFmt_map_endComment _ heps, List.append_assoc])
  | bin o l r n _ ihr =>
    obtain ⟨g, rfl, _, hr, ho, _, _, _, _, _, _, hep⟩ := gen_bin.1 hg
    rcases orderOK_cases ho with ⟨hor, hepn⟩ | ⟨hor, heps⟩
    · obtain ⟨k, kf⟩ := endLast_spec (c := g.rchain) hr (ihr hr)
      rw [endNode_bin_link hor]
      exact ended_bin hg k rfl hep (by rw [kf, hepn]; simp only [optFmt, List.append_nil])
    · rw [endNode_bin_ep hor]
      exact ended_bin hg (LinkOK.refl hr) Option.isSome_map (ended_ep heps hep)
        (by rw [optFmt_map_endComment _ heps, List.append_assoc])

theorem endLink_spec (b : Bool) (c : List Wrap) (h : HS) (hg : gen b h = true) :
    LinkOK b (endLink c h).1 (endLink c h).2 c h ∧
      cmtAfter false (wrapFmt (endLink c h).1 (endLink c h).2.fmt) = false := by
  rw [endLink_eq]
  cases he : endsInComment (wrapFmt c h.fmt) with
  | false => exact ⟨LinkOK.refl hg, he⟩
  | true =>
    obtain ⟨k, kf⟩ := endLast_spec (c := c) hg (endNode_spec b h hg)
    exact ⟨k, by rw [if_pos rfl, kf]; exact cmtAfter_append_endTxt _ _⟩

theorem closeParensAux_spec (b : Bool) (n : Nat) (c : List Wrap) (h : HS) (hg : gen b h = true) (hn : c.length ≤ n) :
    LinkOK b (closeParensAux n c h).1 (closeParensAux n c h).2 c h ∧
      chainClosed (closeParensAux n c h).1 (closeParensAux n c h).2.fmt = true := by
  induction n generalizing c h with
  | zero =>
    obtain rfl := List.eq_nil_of_length_eq_zero (Nat.le_zero.1 hn)
    exact ⟨LinkOK.refl hg, rfl⟩
  | succ n ih =>
    cases c with
    | nil => exact ⟨LinkOK.refl hg, rfl⟩
    | cons w ws =>
      have hn : ws.length ≤ n := Nat.le_of_succ_le_succ hn
      simp only [closeParensAux, chainClosed_cons]
      cases hep : w.ep with
      | none =>
        obtain ⟨i1, i2⟩ := ih ws h hg hn
        exact ⟨i1.cons w, Or.inl rfl, i2⟩
      | some p =>
        obtain ⟨e1, eclosed⟩ := endLink_spec b ws h hg
        obtain ⟨i1, i2⟩ := ih (endLink ws h).1 (endLink ws h).2 e1.g (by rw [endLink_length]; exact hn)
        exact ⟨(i1.trans e1).cons w, Or.inr ((wrapFmt_le i1.ext i1.le).closed eclosed), i2⟩

theorem closeParens_spec (b : Bool) (c : List Wrap) (h : HS) (hg : gen b h = true) (hp : chainPads c = true) :
    LinkOK b (closeParens c h).1 (closeParens c h).2 c h ∧
      chainOK (closeParens c h).1 (closeParens c h).2.fmt = true := by
  obtain ⟨k, kc⟩ := closeParensAux_spec b c.length c h hg (Nat.le_refl _)
  exact ⟨k, chainOK_iff.2 ⟨(chainExt_pads k.ext hp).1, kc⟩⟩

/-! ## `_link_child` -/

theorem newParen_kind (ctr : Nat) :
    wrapKind ⟨ctr, some [.str (textOfCodes Gen.newParenOpenCodes)], some [.str (textOfCodes Gen.newParenCloseCodes)]⟩
      = .parens [] [] := rfl

/-- `_link_child` in three stages (`linkChild_eq`); it starts from the old link while that still ends in the child's
    node (`_encloses`) -/
def keptLink (chain : List Wrap) (target : Nat) (child : HS) : List Wrap :=
  if target = child.nodeId.getD 0 then chain else []

def parenLink (ctr : Nat) (parent : Option BOp) (child : HS) (link : List Wrap) : List Wrap :=
  if needsParens parent child && !hasParens link then
    ⟨ctr, some [.str (textOfCodes Gen.newParenOpenCodes)], some [.str (textOfCodes Gen.newParenCloseCodes)]⟩ :: link
  else link

def closeLink (follow : Bool) (link : List Wrap) (child : HS) : List Wrap × HS :=
  let lc := closeParens link child
  if follow then endLink lc.1 lc.2 else lc

theorem linkChild_eq (ctr : Nat) (parent : Option BOp) (follow : Bool) (chain : List Wrap) (target : Nat) (child : HS) :
    linkChild ctr parent follow chain target child =
      ((closeLink follow (parenLink ctr parent child (keptLink chain target child)) child).1, child.nodeId.getD 0,
        (closeLink follow (parenLink ctr parent child (keptLink chain target child)) child).2,
        if needsParens parent child && !hasParens (keptLink chain target child) then ctr + 1 else ctr) := rfl

theorem keptLink_pads {chain : List Wrap} (hp : chainPads chain = true) (target : Nat) (child : HS) :
    chainPads (keptLink chain target child) = true := by
  unfold keptLink; split
  · exact hp
  · rfl

theorem parenLink_pads {link : List Wrap} (hp : chainPads link = true) (ctr : Nat) (parent : Option BOp) (child : HS) :
    chainPads (parenLink ctr parent child link) = true := by
  unfold parenLink; split
  · simp [chainPads, newParen_kind, hp, isSep, cmtAfter]
  · exact hp

theorem parenLink_head {parent : Option BOp} {child : HS} (hn : needsParens parent child = true) (ctr : Nat)
    (link : List Wrap) : headParens (parenLink ctr parent child link) = true := by
  unfold parenLink
  cases hh : hasParens link with
  | false => simp [hn, headParens, newParen_kind]
  | true => simpa [headParens_eq_hasParens] using hh

theorem closeLink_spec (b follow : Bool) (link : List Wrap) (child : HS) (hg : gen b child = true)
    (hp : chainPads link = true) :
    LinkOK b (closeLink follow link child).1 (closeLink follow link child).2 link child ∧
      chainOK (closeLink follow link child).1 (closeLink follow link child).2.fmt = true ∧
      (follow = true →
        cmtAfter false (wrapFmt (closeLink follow link child).1 (closeLink follow link child).2.fmt) = false) := by
  obtain ⟨c1, c2⟩ := closeParens_spec b link child hg hp
  unfold closeLink
  cases follow with
  | false => exact ⟨c1, c2, nofun⟩
  | true =>
    obtain ⟨e1, eclosed⟩ := endLink_spec b _ _ c1.g
    rw [if_pos rfl]
    exact ⟨e1.trans c1, e1.ok c2, fun _ => eclosed⟩

/-- what `_link_child` returns (`k`) -/
structure ChildLink (b : Bool) (parent : Option BOp) (follow : Bool) (child : HS) (k : List Wrap × Nat × HS × Nat) :
    Prop where
  g : gen b k.2.2.1 = true
  same : Same k.2.2.1 child
  keep : Keep k.2.2.1 child
  tgt : k.2.1 = k.2.2.1.nodeId.getD 0
  ok : chainOK k.1 k.2.2.1.fmt = true
  closed : follow = true → cmtAfter false (wrapFmt k.1 k.2.2.1.fmt) = false
  head : needsParens parent child = true → headParens k.1 = true

theorem linkChild_spec (b : Bool) (ctr : Nat) (parent : Option BOp) (follow : Bool) (chain : List Wrap)
    (target : Nat) (child : HS) (hg : gen b child = true) (hp : chainPads chain = true) :
    ChildLink b parent follow child (linkChild ctr parent follow chain target child) := by
  have hp1 := parenLink_pads (keptLink_pads hp target child) ctr parent child
  obtain ⟨k, kc, kf⟩ := closeLink_spec b follow _ child hg hp1
  rw [linkChild_eq]
  exact ⟨k.g, k.same, k.keep, by rw [k.keep.nid], kc, kf,
    fun hn => (chainExt_pads k.ext hp1).2.trans (parenLink_head hn _ _)⟩

/-! ## the token of a new leaf -/

/-- `g q`: the value read so far, `q`, after the digits of `n` -/
theorem digitsAux_spec (f n : Nat) (acc : List GCh) (h : n < f) :
    ∃ x cs, digitsAux f n acc = .digit x :: cs ∧
      ∃ g : Nat → Nat, g 0 = n ∧ ∀ q, digVal q (digitsAux f n acc) = digVal (g q) acc := by
  induction f generalizing n acc with
  | zero => cases h
  | succ f ih =>
    rw [digitsAux]
    split
    · exact ⟨n, acc, rfl, fun q => 10 * q + n, Nat.zero_add n, fun _ => rfl⟩
    · obtain ⟨x, cs, h1, g, h2, h3⟩ := ih (n / 10) (.digit (n % 10) :: acc) (Nat.div_lt_of_lt_mul (by omega))
      exact ⟨x, cs, h1, fun q => 10 * g q + n % 10, (congrArg (10 * · + n % 10) h2).trans (Nat.div_add_mod n 10),
        fun q => by rw [h3]; rfl⟩

theorem natDigits_spec (d : Nat) : ∃ x cs, natDigits d = .digit x :: cs ∧ digVal x cs = some d := by
  obtain ⟨x, cs, h1, g, h2, h3⟩ := digitsAux_spec (d + 1) d [] (by omega)
  refine ⟨x, cs, h1, ?_⟩
  have h0 := h3 0
  rw [h1, h2] at h0
  simpa [digVal] using h0

theorem new_surface_tok (d : Nat) (s : Bool) :
    tokVal ((if s || false then [] else [GCh.minus]) ++ natDigits d) = some (!s, d) := by
  obtain ⟨x, cs, h, hv⟩ := natDigits_spec d
  cases s <;> simp [h, tokVal, hv]

theorem new_cell_tok (d : Nat) (s : Bool) :
    cellVal ((if s || true then [] else [GCh.minus]) ++ natDigits d) = some d := by
  obtain ⟨x, cs, h, hv⟩ := natDigits_spec d
  simp [h, cellVal, hv]

/-! ## the operator text of new nodes (generated constants) -/

theorem new_compl_opr : complOpr (Pad.format [.str (textOfCodes Gen.newOprComplCodes)]) = true := by decide
theorem new_inter_opr : cleanPad [.str (textOfCodes Gen.newOprInterCodes)] = true ∧
    oprPre [.str (textOfCodes Gen.newOprInterCodes)] = true := by decide
theorem new_union_opr : cleanPad [.str (textOfCodes Gen.newOprUnionCodes)] = true ∧
    oprPre [.str (textOfCodes Gen.newOprUnionCodes)] = true := by decide

/-! ## where the parent's operator needs parentheses -/

theorem needsParens_bin (o : BOp) (h : HS) : needsParens (some o) h = (o == .inter && isUnion h) := by
  cases o <;> cases h with
  | bin o' _ _ _ => cases o' <;> rfl
  | _ => rfl

theorem needs_head_iff {o : BOp} {h : HS} {c : List Wrap} :
    (needsParens (some o) h = true → headParens c = true) ↔
      (o = .inter → isUnion h = false ∨ headParens c = true) := by
  rw [needsParens_bin]
  cases o <;> cases isUnion h <;> simp

theorem ChildLink.union {b : Bool} {o : BOp} {follow : Bool} {child : HS} {k : List Wrap × Nat × HS × Nat}
    (a : ChildLink b (some o) follow child k) (ho : o = .inter) :
    isUnion k.2.2.1 = false ∨ headParens k.1 = true := by
  rw [a.same.isU]; exact needs_head_iff.1 a.head ho

theorem needsParens_compl (h : HS) : needsParens none h = !isCellUnit h := by
  cases h with
  | unit _ _ c _ => cases c <;> rfl
  | compl _ _ => rfl
  | bin _ _ _ _ => rfl

theorem hasParens_allBare {ws : List Wrap} (hb : allBare ws = true) : hasParens ws = false := by
  rw [← headParens_eq_hasParens]
  cases ws with
  | nil => rfl
  | cons w ws =>
    simp [headParens, (allBare_cons.1 hb).1]

/-! ## links `_link_child` leaves alone -/

theorem endLink_idem {c : List Wrap} {h : HS} (hc : cmtAfter false (wrapFmt c h.fmt) = false) :
    endLink c h = (c, h) := by
  simp [endLink, endsInComment, hc]

theorem closeParensAux_idem (n : Nat) {c : List Wrap} {h : HS} (hc : chainClosed c h.fmt = true) :
    closeParensAux n c h = (c, h) := by
  induction n generalizing c with
  | zero => rfl
  | succ n ih =>
    cases c with
    | nil => rfl
    | cons w ws =>
      rw [chainClosed_cons] at hc
      cases hep : w.ep with
      | none => simp [closeParensAux, hep, ih hc.2]
      | some p => simp [closeParensAux, hep, endLink_idem (hc.1.resolve_left (by simp [hep])), ih hc.2]

theorem linkChild_fix (ctr : Nat) (parent : Option BOp) (follow : Bool) (chain : List Wrap) (target : Nat) (child : HS)
    {link : List Wrap} (hk : keptLink chain target child = link) (hc : chainOK link child.fmt = true)
    (hp : needsParens parent child = true → headParens link = true)
    (hf : follow = true → cmtAfter false (wrapFmt link child.fmt) = false) :
    linkChild ctr parent follow chain target child = (link, child.nodeId.getD 0, child, ctr) := by
  have hnp : (needsParens parent child && !hasParens link) = false := by
    cases hn : needsParens parent child with
    | false => rfl
    | true => rw [← headParens_eq_hasParens, hp hn]; rfl
  rw [linkChild_eq, hk]
  simp only [parenLink, closeLink, hnp, Bool.false_eq_true, if_false, closeParens,
    closeParensAux_idem _ (chainOK_iff.1 hc).2]
  cases follow with
  | false => rfl
  | true => simp only [if_true, endLink_idem (hf rfl)]

theorem linkChild_idem (ctr : Nat) (parent : Option BOp) (follow : Bool) (chain : List Wrap) (target : Nat) (child : HS)
    (ht : target = child.nodeId.getD 0) (hc : chainOK chain child.fmt = true)
    (hp : needsParens parent child = true → headParens chain = true)
    (hf : follow = true → cmtAfter false (wrapFmt chain child.fmt) = false) :
    linkChild ctr parent follow chain target child = (chain, target, child, ctr) := by
  rw [linkChild_fix ctr parent follow chain target child (if_pos ht) hc hp hf, ← ht]

/-! ## `_ensure_has_nodes` -/

/- `ensure_linked` applies the statements below by `exact` to the unfolded `ensureHasNodes`.  Where two terms
   `linkChild …` do not agree at first sight, the unifier would unfold `linkChild` (and below it `closeParens`,
   `endLink`, `endNode`) before it compares the arguments, which is slow to check. -/
attribute [local irreducible] linkChild

/-- what `_ensure_has_nodes` makes of the tree `h` -/
structure Linked (e h : HS) : Prop where
  linked : linked e = true
  same : Same e h
  ht : e.height = h.height
  fr : fresh e = true

/-- the nodes `_ensure_has_nodes` makes -/
def newCompl (c lt : Nat) : GN := ⟨c, [.operator, .left], [.str (textOfCodes Gen.newOprComplCodes)], none, [], lt, [], 0⟩
def newBin (o : BOp) (c lt rt : Nat) : GN :=
  ⟨c, [.left, .operator, .right],
    (match o with
      | .inter => [.str (textOfCodes Gen.newOprInterCodes)]
      | .union => [.str (textOfCodes Gen.newOprUnionCodes)]), none, [], lt, [], rt⟩

theorem newBin_wf (o : BOp) (c lt rt : Nat) : BinNodeWF (newBin o c lt rt) := by
  cases o
  · exact ⟨rfl, rfl, rfl, new_inter_opr.1, new_inter_opr.2, rfl⟩
  · exact ⟨rfl, rfl, rfl, new_union_opr.1, new_union_opr.2, rfl⟩

theorem bin_step {o : BOp} {L R l r : HS} (g0 : GN) {c1 c2 : Nat} {n : Option GN} (hL : Linked L l) (hR : Linked R r)
    (hg : BinNodeWF g0) :
    let lk1 := linkChild c1 (some o) true g0.lchain g0.ltarget L
    let lk2 := linkChild c2 (some o) false g0.rchain g0.rtarget R
    Linked (.bin o lk1.2.2.1 lk2.2.2.1
      (some { g0 with lchain := lk1.1, ltarget := lk1.2.1, rchain := lk2.1, rtarget := lk2.2.1 })) (.bin o l r n) := by
  intro lk1 lk2
  obtain ⟨ho, hpl, hpr, hcl, hopr, hep⟩ := hg
  have a := linkChild_spec false c1 (some o) true g0.lchain g0.ltarget L hL.linked hpl
  have b := linkChild_spec false c2 (some o) false g0.rchain g0.rtarget R hR.linked hpr
  refine ⟨gen_bin.2 ⟨_, rfl, a.g, b.g, ho, a.ok, b.ok, a.closed rfl, hcl, hopr,
      fun ho' => ⟨nofun, a.union ho', b.union ho'⟩, hep⟩,
    Same.bin_congr o (a.same.trans hL.same) (b.same.trans hR.same) _ _, ?_, ?_⟩
  · show max _ _ + 1 = max _ _ + 1
    rw [a.keep.ht, b.keep.ht, hL.ht, hR.ht]
  · exact fresh_bin.2 ⟨a.keep.fr hL.fr, b.keep.fr hR.fr, a.tgt, b.tgt⟩

theorem compl_step {L l : HS} (g0 : GN) {c1 : Nat} {n : Option GN} (hL : Linked L l) (hcu : isCellUnit l = false)
    (hg : ComplNodeWF g0) :
    let lk := linkChild c1 none false g0.lchain g0.ltarget L
    Linked (.compl lk.2.2.1 (some { g0 with lchain := lk.1, ltarget := lk.2.1 })) (.compl l n) := by
  intro lk
  obtain ⟨ho, hopr, hpl, hep⟩ := hg
  have a := linkChild_spec false c1 none false g0.lchain g0.ltarget L hL.linked hpl
  have hcL : isCellUnit L = false := hL.same.cellU.trans hcu
  refine ⟨(gen_compl (a.same.cellU.trans hcL)).2
      ⟨_, rfl, a.g, ho, hopr, a.head (by rw [needsParens_compl, hcL]; rfl), a.ok, hep⟩,
    (a.same.trans hL.same).compl_congr _ _, ?_, ?_⟩
  · exact congrArg (· + 1) (a.keep.ht.trans hL.ht)
  · exact fresh_compl.2 ⟨a.keep.fr hL.fr, a.tgt⟩

/-- `#n`: the link stays bare -/
theorem cell_step {d : Nat} {s : Bool} {v : VN} (g0 : GN) {c1 : Nat} {vn : Option VN} {n : Option GN}
    (hcv : cellVal v.tok = some d) (hpad : isSep false (optFmt v.pad) = true)
    (hg : orderOK g0 [.operator, .left] = true ∧ complOpr g0.opr.format = true ∧ allBare g0.lchain = true ∧
      isSep false (optFmt g0.ep) = true) :
    let lk := linkChild c1 none false g0.lchain g0.ltarget (.unit d s true (some v))
    Linked (.compl lk.2.2.1 (some { g0 with lchain := lk.1, ltarget := lk.2.1 })) (.compl (.unit d s true vn) n) := by
  intro lk
  obtain ⟨ho, hopr, hbare, hep⟩ := hg
  have hb0 : allBare (keptLink g0.lchain g0.ltarget (.unit d s true (some v))) = true := by
    unfold keptLink; split
    · exact hbare
    · rfl
  have hlk := linkChild_fix c1 none false g0.lchain g0.ltarget _ rfl (chainOK_allBare hb0 _) nofun nofun
  simp only [lk, hlk]
  exact ⟨gen_cell.2 ⟨_, _, rfl, rfl, ho, hopr, hb0, hcv, hpad, hep⟩, ⟨rfl, rfl, fun _ => rfl⟩, rfl,
    fresh_compl.2 ⟨rfl, rfl⟩⟩

/-- **`_ensure_has_nodes` establishes `linked`** from any well-formed tree, changes no meaning, and leaves every link
    ending in its child's node. -/
theorem ensure_linked (c : Nat) (h : HS) (hw : wf h = true) : Linked (ensureHasNodes c h).1 h := by
  induction h generalizing c with
  | unit d s ic n =>
    obtain ⟨rfl, hv⟩ := wf_unit.1 hw
    cases n with
    | none => exact ⟨gen_unit.2 ⟨rfl, _, rfl, new_surface_tok d s, rfl⟩, ⟨rfl, rfl, fun _ => rfl⟩, rfl, rfl⟩
    | some v => exact ⟨gen_unit.2 ⟨rfl, v, rfl, hv v rfl⟩, Same.refl _, rfl, rfl⟩
  | compl l n ih =>
    rcases cell_or l with ⟨d, s, vn, rfl⟩ | hcu
    · obtain ⟨hv, hgn⟩ := wf_cell.1 hw
      cases vn with
      | none =>
        cases n with
        | none => exact cell_step (newCompl _ _) (new_cell_tok d s) rfl ⟨rfl, new_compl_opr, rfl, rfl⟩
        | some g => exact cell_step g (new_cell_tok d s) rfl (hgn g rfl)
      | some v =>
        obtain ⟨hcv, hpad⟩ := hv v rfl
        cases n with
        | none => exact cell_step (newCompl _ _) hcv hpad ⟨rfl, new_compl_opr, rfl, rfl⟩
        | some g => exact cell_step g hcv hpad (hgn g rfl)
    · obtain ⟨hwl, hgn⟩ := (wf_compl hcu).1 hw
      cases n with
      | none => exact compl_step (newCompl _ _) (ih c hwl) hcu ⟨rfl, new_compl_opr, rfl, rfl⟩
      | some g => exact compl_step g (ih c hwl) hcu (hgn g rfl)
  | bin o l r n ihl ihr =>
    obtain ⟨hwl, hwr, hgn⟩ := wf_bin.1 hw
    cases n with
    | none => exact bin_step (newBin o _ _ _) (ihl c hwl) (ihr _ hwr) (newBin_wf o _ _ _)
    | some g => exact bin_step g (ihl c hwl) (ihr _ hwr) (hgn g rfl)

end MontePyVerif.C02
