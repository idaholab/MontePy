import MontePyVerif.Lemmas.LinksStep
/-!
Lemmas about `load` for C16, one per function on its path.  `Cell.update_pointers` appends to the containers of the cell
it works on exactly the dividers of the geometry (`Exact`) and leaves the geometry and containers of every other cell
alone; the other stages (`Push`) leave those of every cell alone.  Each stage is an `Edit` provided the members are
linked: a material or universe looked up by number among the members is linked then.  Together: the cells of a file
are exact after `load` (`load_exact`), and `load` into a problem whose members are linked is a `Step` (`load_step`).
-/
namespace MontePyVerif.Links

theorem firstWith_some (num : ObjId → Int) (n : Int) : ∀ (l : List ObjId) (o : ObjId),
    firstWith num n l = some o → o ∈ l ∧ num o = n := by
  intro l
  induction l with
  | nil => intro o h; simp [firstWith] at h
  | cons a t ih =>
    intro o h
    simp only [firstWith] at h
    split at h
    · cases h; exact ⟨by simp, by assumption⟩
    · have := ih o h; exact ⟨List.mem_cons_of_mem _ this.1, this.2⟩

theorem eq_of_nodup_num (num : ObjId → Int) : ∀ (l : List ObjId), (l.map num).Nodup →
    ∀ a b, a ∈ l → b ∈ l → num a = num b → a = b := by
  intro l
  induction l with
  | nil => intro _ a b ha; cases ha
  | cons x t ih =>
    intro hnd a b ha hb hab
    simp only [List.map_cons, List.nodup_cons, List.mem_map, not_exists, not_and] at hnd
    rcases List.mem_cons.mp ha with rfl | ha' <;> rcases List.mem_cons.mp hb with rfl | hb'
    · rfl
    · exact absurd hab.symm (hnd.1 b hb')
    · exact absurd hab (hnd.1 a ha')
    · exact ih hnd.2 a b ha' hb' hab

theorem updatePointersP_spec (c : ObjId) : ∀ (t : PHS) (st res : St) (e : Option Err) (og : Option HS),
    updatePointersP c t st = ((res, e), og) →
    Ext st res ∧ LoadExt c st res ∧
    (e = none → ∃ g, og = some g ∧ g.allCell c = true ∧
      (∀ s, s ∈ (res.cellOf c).surfs ↔ s ∈ (st.cellOf c).surfs ∨ s ∈ g.surfs) ∧
      (∀ d, d ∈ (res.cellOf c).comps ↔ d ∈ (st.cellOf c).comps ∨ d ∈ g.comps)) := by
  intro t
  induction t with
  | leaf ic n side =>
    intro st res e og h
    simp only [updatePointersP] at h
    cases ic with
    | true =>
      simp only [if_true] at h
      split at h
      · cases h; exact ⟨Ext.refl st, LoadExt.refl c st, fun h => nomatch h⟩
      · obtain ⟨hr, hg⟩ := Prod.mk.inj h
        have hs := registerDivider_exact st c true _ side res e hr
        exact ⟨hs.1, hs.2.1, fun he => ⟨_, hg.symm, beq_self_eq_true _, hs.2.2 he⟩⟩
    | false =>
      simp only [Bool.false_eq_true, if_false] at h
      split at h
      · cases h; exact ⟨Ext.refl st, LoadExt.refl c st, fun h => nomatch h⟩
      · obtain ⟨hr, hg⟩ := Prod.mk.inj h
        have hs := registerDivider_exact st c false _ side res e hr
        exact ⟨hs.1, hs.2.1, fun he => ⟨_, hg.symm, beq_self_eq_true _, hs.2.2 he⟩⟩
  | compl l ih =>
    intro st res e og h
    simp only [updatePointersP] at h
    generalize hl : updatePointersP c l st = r at h
    obtain ⟨⟨st1, e1⟩, og1⟩ := r
    have h1 := ih st st1 e1 og1 hl
    cases e1 with
    | some err => cases og1 <;> cases h <;> exact ⟨h1.1, h1.2.1, fun h => nomatch h⟩
    | none =>
      obtain ⟨g, hg, ha, hs, hc⟩ := h1.2.2 rfl
      cases hg
      cases h
      exact ⟨h1.1, h1.2.1, fun _ => ⟨_, rfl, allCell_compl ha, hs, hc⟩⟩
  | bin u l r ihl ihr =>
    intro st res e og h
    simp only [updatePointersP] at h
    generalize hl : updatePointersP c l st = r1 at h
    obtain ⟨⟨st1, e1⟩, og1⟩ := r1
    have h1 := ihl st st1 e1 og1 hl
    cases e1 with
    | some err => cases og1 <;> cases h <;> exact ⟨h1.1, h1.2.1, fun h => nomatch h⟩
    | none =>
      obtain ⟨l', hg, ha, hs, hc⟩ := h1.2.2 rfl
      cases hg
      dsimp only at h
      generalize hr : updatePointersP c r st1 = r2 at h
      obtain ⟨⟨st2, e2⟩, og2⟩ := r2
      have h2 := ihr st1 st2 e2 og2 hr
      cases e2 with
      | some err => cases og2 <;> cases h <;> exact ⟨h1.1.trans h2.1, h1.2.1.trans h2.2.1, fun h => nomatch h⟩
      | none =>
        obtain ⟨r', hg2, ha2, hs2, hc2⟩ := h2.2.2 rfl
        cases hg2
        cases h
        refine ⟨h1.1.trans h2.1, h1.2.1.trans h2.2.1,
          fun _ => ⟨_, rfl, allCell_bin ha ha2, fun s => ?_, fun d => ?_⟩⟩
        · rw [hs2, hs, or_assoc]; exact or_congr_right List.mem_append.symm
        · rw [hc2, hc, or_assoc]; exact or_congr_right List.mem_append.symm

/-- cell `c` directly after reading: its containers hold exactly the dividers of its geometry -/
def Exact (st : St) (c : ObjId) : Prop :=
  ∃ g, (st.cellOf c).geom = some g ∧ g.allCell c = true ∧
    (∀ s, s ∈ (st.cellOf c).surfs ↔ s ∈ g.surfs) ∧ (∀ d, d ∈ (st.cellOf c).comps ↔ d ∈ g.comps)

theorem Exact.of_eq {st st' : St} {c : ObjId} (h : Exact st c) (e : SameRec (st.cellOf c) (st'.cellOf c)) :
    Exact st' c := by
  obtain ⟨g, hg, ha, hs, hc⟩ := h
  exact ⟨g, by rw [e.1]; exact hg, ha, by rw [e.2.1]; exact hs, by rw [e.2.2]; exact hc⟩

theorem Exact.contain {st : St} {c : ObjId} (h : Exact st c) : Contain st c := by
  obtain ⟨g, hg, ha, hs, hcm⟩ := h
  intro g' hg'
  cases hg.symm.trans hg'
  exact ⟨ha, fun s hs' => (hs s).mpr hs', fun d hd => (hcm d).mpr hd⟩

theorem linked_of_firstWith {st : St} (h : InvLinked st) (k : Kind) {n : Int} {o : ObjId}
    (hf : firstWith (st.num k) n (st.members k) = some o) : st.linked k o = true :=
  h k o (firstWith_some _ _ _ _ hf).1

/-- a stage of `load` other than `Cell.update_pointers`: no geometry or container is touched, and it is an `Edit`
    provided the members are linked -/
def Push (st st' : St) : Prop := SameCells st st' ∧ (InvLinked st → Edit st st')

theorem Push.refl (st : St) : Push st st := ⟨SameCells.refl st, fun _ => Edit.refl st⟩

theorem Push.trans {a b c : St} (h1 : Push a b) (h2 : Push b c) : Push a c :=
  ⟨h1.1.trans h2.1, fun h => (h1.2 h).trans (h2.2 (h.edit (h1.2 h)))⟩

theorem push_updCell (st : St) (c : ObjId) (f : CellSt → CellSt) (hf : SameRec (st.cellOf c) (f (st.cellOf c)))
    (he : InvLinked st → Edit st (st.updCell c f)) : Push st (st.updCell c f) :=
  ⟨sameCells_updCell st c f hf, he⟩

theorem resolveMaterial_push (st : St) (c : ObjId) (n : Int) : Push st (resolveMaterial st c n).1 := by
  unfold resolveMaterial
  dsimp only
  have p0 : Push st (st.updCell c (fun cs => { cs with oldMat := n })) :=
    push_updCell st c _ ⟨rfl, rfl, rfl⟩ fun _ => edit_updCell st c _
  split
  · split
    · rename_i m hm
      exact p0.trans (push_updCell _ c (fun cs => { cs with mat := some m }) ⟨rfl, rfl, rfl⟩ fun h =>
        edit_updCell _ c _
          (hm := fun _ hm' => Or.inr fun _ => Option.some.inj hm' ▸ linked_of_firstWith h .material hm))
    · exact p0
  · exact p0.trans (push_updCell _ c (fun cs => { cs with mat := none }) ⟨rfl, rfl, rfl⟩ fun _ =>
      edit_updCell _ c _ (hm := fun _ hm' => nomatch hm'))

theorem pushFills_push : ∀ (l : List (ObjId × PCell)) (st : St), Push st (pushFills l st).1 := by
  intro l
  induction l with
  | nil => intro st; exact Push.refl st
  | cons a t ih =>
    intro st
    obtain ⟨c, pc⟩ := a
    simp only [pushFills]
    split
    · exact ih st
    · split
      · rename_i u _
        exact (push_updCell st c (fun cs => { cs with fill := some u }) ⟨rfl, rfl, rfl⟩
          fun _ => edit_updCell st c _).trans (ih _)
      · exact Push.refl st

theorem pushUniverses_push : ∀ (l : List (ObjId × PCell)) (st : St) (nextU : ObjId),
    Push st (pushUniverses l st nextU).1 := by
  intro l
  induction l with
  | nil => intro st n; exact Push.refl st
  | cons a t ih =>
    intro st n
    obtain ⟨c, pc⟩ := a
    simp only [pushUniverses]
    split
    · rename_i u hu
      exact (push_updCell st c (fun cs => { cs with univ := some u }) ⟨rfl, rfl, rfl⟩ fun h => edit_updCell st c _
        (hu := fun _ hu' => Or.inr fun _ => Option.some.inj hu' ▸ linked_of_firstWith h .universe hu)).trans (ih _ _)
    · -- a new universe: made, linked, appended
      have p1 : Push st { st with unum := upd st.unum n (pc.univ.getD 0), ulink := upd st.ulink n true,
                                  universes := st.universes ++ [n] } :=
        ⟨fun _ => ⟨rfl, rfl, rfl⟩, fun _ => Edit.setMembers (k := .universe) (l := st.universes ++ [n])
          (edit_links (hu := fun _ => ite_true_of))
          fun x hx => (List.mem_append.mp hx).imp_right fun hx => by
            cases List.mem_singleton.mp hx
            exact ⟨upd_self _ _ _, nofun⟩⟩
      exact (p1.trans (push_updCell _ c (fun cs => { cs with univ := some n }) ⟨rfl, rfl, rfl⟩ fun _ =>
        edit_updCell _ c _ (hu := fun _ hu' => Or.inr fun _ => Option.some.inj hu' ▸ upd_self _ _ _))).trans (ih _ _)

/-- `Cell.update_pointers` on cell `c`: every other cell keeps geometry and containers, `c` holds exactly the dividers
    of its new geometry, and it is an `Edit` provided the members are linked -/
theorem cellUpdatePointers_spec (st res : St) (c : ObjId) (pc : PCell)
    (h : cellUpdatePointers st c pc = (res, none)) :
    (∀ x, x ≠ c → SameRec (st.cellOf x) (res.cellOf x)) ∧ Exact res c ∧ (InvLinked st → Edit st res) := by
  unfold cellUpdatePointers at h
  have p1 := resolveMaterial_push st c pc.mat
  generalize resolveMaterial st c pc.mat = r at h p1
  obtain ⟨st1, e⟩ := r
  cases e with
  | some err => cases h
  | none =>
    dsimp only at h p1
    -- new containers, linked like the cell
    have e2 := loadExt_updCell st1 c (fun cs => { cs with surfs := [], comps := [], contLinked := cs.link })
    have l2 := edit_updCell st1 c (fun cs => { cs with surfs := [], comps := [], contLinked := cs.link })
      (hcl := fun hl _ => hl) (hs := fun _ (hs : _ ∈ []) => nomatch hs)
    generalize hup : updatePointersP c pc.geom _ = up at h
    obtain ⟨⟨st2, e2'⟩, og⟩ := up
    have hsp := updatePointersP_spec c pc.geom _ st2 e2' og hup
    cases e2' with
    | some err => cases og <;> cases h
    | none =>
      obtain ⟨g, hg, ha, hs, hc⟩ := hsp.2.2 rfl
      cases hg
      cases h
      refine ⟨fun x hx => (p1.1 x).trans (((e2.trans hsp.2.1).trans (loadExt_updCell st2 c _)).other x hx),
        ⟨g, by rw [updCell_cellOf, if_pos rfl], ha, fun s => ?_, fun d => ?_⟩,
        fun h0 => (((p1.2 h0).trans l2).trans hsp.1.pExt.edit).trans (edit_updCell st2 c _)⟩
      · have := hs s
        rw [updCell_cellOf, if_pos rfl] at this ⊢
        exact this.trans (or_iff_right List.not_mem_nil)
      · have := hc d
        rw [updCell_cellOf, if_pos rfl] at this ⊢
        exact this.trans (or_iff_right List.not_mem_nil)

def UniqS (st : St) : Prop := (st.surfaces.map st.snum).Nodup

theorem collAppend_uniq (st : St) (k : Kind) (o : ObjId) (hu : UniqS st) : UniqS (collAppend st k o).1 := by
  unfold collAppend
  split
  · exact hu
  · rename_i hno
    cases k
    case surface =>
      show ((st.surfaces ++ [o]).map st.snum).Nodup
      rw [List.map_append]
      refine List.nodup_append.mpr ⟨hu, List.pairwise_singleton _ _, fun a ha b hb hab => hno ?_⟩
      obtain ⟨x, hx, hxa⟩ := List.mem_map.mp ha
      exact List.any_eq_true.mpr ⟨x, hx, beq_iff_eq.mpr (hxa.trans (hab.trans (List.mem_singleton.mp hb)))⟩
    all_goals exact hu

theorem appendAll_induct {P : St → Prop} (k : Kind) (hstep : ∀ st o, P st → P (collAppend st k o).1) :
    ∀ (l : List ObjId) (st : St), P st → P (appendAll k l st).1 := by
  intro l
  induction l with
  | nil => intro st h; exact h
  | cons a t ih =>
    intro st h
    simp only [appendAll]
    have h1 := hstep st a h
    generalize collAppend st k a = r at h1 ⊢
    obtain ⟨st1, e⟩ := r
    cases e with
    | some err => exact h1
    | none => exact ih st1 h1

theorem updateAllCells_spec : ∀ (l : List (ObjId × PCell)) (st res : St),
    updateAllCells l st = (res, none) → (l.map Prod.fst).Nodup →
    (∀ x, x ∉ l.map Prod.fst → SameRec (st.cellOf x) (res.cellOf x)) ∧ (∀ p ∈ l, Exact res p.1) ∧
    (InvLinked st → Edit st res) := by
  intro l
  induction l with
  | nil =>
    intro st res h _
    cases h
    exact ⟨fun _ _ => ⟨rfl, rfl, rfl⟩, (fun _ hp => nomatch hp), fun _ => Edit.refl st⟩
  | cons a t ih =>
    intro st res h hnd
    obtain ⟨c, pc⟩ := a
    simp only [updateAllCells] at h
    generalize hcu : cellUpdatePointers st c pc = r at h
    obtain ⟨st1, e⟩ := r
    cases e with
    | some err => cases h
    | none =>
      obtain ⟨hoc, hexc, hed⟩ := cellUpdatePointers_spec st st1 c pc hcu
      obtain ⟨hnc, hnt⟩ := List.nodup_cons.mp hnd
      obtain ⟨hother, hex, hedt⟩ := ih st1 res h hnt
      refine ⟨fun x hx => ?_, fun p hp => ?_, fun h0 => (hed h0).trans (hedt (h0.edit (hed h0)))⟩
      · exact SameRec.trans (hoc x fun hxc => hx (hxc ▸ List.mem_cons_self))
          (hother x fun hxt => hx (List.mem_cons_of_mem _ hxt))
      · rcases List.mem_cons.mp hp with rfl | ht
        · exact hexc.of_eq (hother _ hnc)
        · exact hex p ht

/-- a `load` that does not raise went through all its stages -/
theorem load_ok {st : St} {pcs : List PCell} {nS nM nT : Nat} {nextU : ObjId}
    (h : (load st pcs nS nM nT nextU).1.2 = none) :
    ∃ st1 st2 st3 st4 st6, appendAll .cell (List.range pcs.length) st = (st1, none) ∧
      appendAll .surface (List.range nS) st1 = (st2, none) ∧ appendAll .material (List.range nM) st2 = (st3, none) ∧
      appendAll .transform (List.range nT) st3 = (st4, none) ∧
      updateAllCells ((List.range pcs.length).zip pcs) { st4 with dataM := List.range nM, dataT := List.range nT } =
        (st6, none) ∧
      (load st pcs nS nM nT nextU).1.1 = (pushFills ((List.range pcs.length).zip pcs)
        (pushUniverses ((List.range pcs.length).zip pcs) st6 nextU).1).1 := by
  unfold load at h
  dsimp only at h
  generalize h1 : appendAll .cell (List.range pcs.length) st = r1 at h
  obtain ⟨st1, e⟩ := r1
  cases e
  case some => cases h
  dsimp only at h
  generalize h2 : appendAll .surface (List.range nS) st1 = r2 at h
  obtain ⟨st2, e⟩ := r2
  cases e
  case some => cases h
  dsimp only at h
  generalize h3 : appendAll .material (List.range nM) st2 = r3 at h
  obtain ⟨st3, e⟩ := r3
  cases e
  case some => cases h
  dsimp only at h
  generalize h4 : appendAll .transform (List.range nT) st3 = r4 at h
  obtain ⟨st4, e⟩ := r4
  cases e
  case some => cases h
  dsimp only at h
  generalize h5 : updateAllCells _ _ = r5 at h
  obtain ⟨st6, e⟩ := r5
  cases e
  case some => cases h
  refine ⟨st1, st2, st3, st4, st6, rfl, h2, h3, h4, h5, ?_⟩
  unfold load
  simp only [h1, h2, h3, h4, h5]

theorem of_fst_eq {P : St → Prop} {r : Res} {s : St} {e : Option Err} (he : r = (s, e)) (h : P r.1) : P s := by
  subst he; exact h

theorem zip_range_fst (pcs : List PCell) : ((List.range pcs.length).zip pcs).map Prod.fst = List.range pcs.length :=
  List.map_fst_zip (by simp)

/-- `load` as a whole: the cells of the file are exact, every other cell object keeps geometry and containers, and it is
    an `Edit` provided the members are linked -/
theorem load_spec (st : St) (pcs : List PCell) (nS nM nT : Nat) (nextU : ObjId)
    (h : (load st pcs nS nM nT nextU).1.2 = none) :
    (∀ c, c < pcs.length → Exact (load st pcs nS nM nT nextU).1.1 c) ∧
    (∀ c, ¬ c < pcs.length → SameRec (st.cellOf c) ((load st pcs nS nM nT nextU).1.1.cellOf c)) ∧
    (InvLinked st → Edit st (load st pcs nS nM nT nextU).1.1) := by
  obtain ⟨st1, st2, st3, st4, st6, h1, h2, h3, h4, h5, heq⟩ := load_ok h
  rw [heq]
  have stage : ∀ (k : Kind) (l : List ObjId) (s s' : St), appendAll k l s = (s', none) → Push s s' :=
    fun k l s s' he => of_fst_eq he (appendAll_induct k (P := Push s)
      (fun s1 o hp => hp.trans ⟨(collAppend_book s1 k o).same, fun _ => (collAppend_book s1 k o).toEdit⟩) l s
      (Push.refl s))
  have p4 : Push st st4 :=
    (((stage _ _ _ _ h1).trans (stage _ _ _ _ h2)).trans (stage _ _ _ _ h3)).trans (stage _ _ _ _ h4)
  obtain ⟨hother, hex, hed⟩ := updateAllCells_spec _ _ st6 h5 (by rw [zip_range_fst]; exact List.nodup_range)
  have p68 := (pushUniverses_push ((List.range pcs.length).zip pcs) st6 nextU).trans
    (pushFills_push ((List.range pcs.length).zip pcs) _)
  refine ⟨fun c hc => ?_, fun c hc => ?_, fun h0 => ?_⟩
  · have hcm : c ∈ ((List.range pcs.length).zip pcs).map Prod.fst := by
      rw [zip_range_fst]; exact List.mem_range.mpr hc
    obtain ⟨p, hp, hpc⟩ := List.mem_map.mp hcm
    exact hpc ▸ (hex p hp).of_eq (p68.1 p.1)
  · have hnot : c ∉ ((List.range pcs.length).zip pcs).map Prod.fst := by
      rw [zip_range_fst]; exact fun hm => hc (List.mem_range.mp hm)
    exact ((p4.1 c).trans (hother c hnot)).trans (p68.1 c)
  · have e4 := (p4.2 h0).trans (edit_links (st' := { st4 with dataM := List.range nM, dataT := List.range nT }))
    have e6 := e4.trans (hed (h0.edit e4))
    exact e6.trans (p68.2 (h0.edit e6))

theorem load_exact (st : St) (pcs : List PCell) (nS nM nT : Nat) (nextU : ObjId)
    (h : (load st pcs nS nM nT nextU).1.2 = none) (c : ObjId) (hc : c < pcs.length) :
    Exact (load st pcs nS nM nT nextU).1.1 c :=
  (load_spec st pcs nS nM nT nextU h).1 c hc

/-- reading a file into a problem whose members are linked is a `Step` -/
theorem load_step (st : St) (pcs : List PCell) (nS nM nT : Nat) (nextU : ObjId) (hi : InvLinked st)
    (h : (load st pcs nS nM nT nextU).1.2 = none) : Step st (load st pcs nS nM nT nextU).1.1 := by
  obtain ⟨hex, hother, he⟩ := load_spec st pcs nS nM nT nextU h
  refine ⟨he hi, fun hc c => ?_⟩
  by_cases hlt : c < pcs.length
  · exact (hex c hlt).contain
  · exact (hc c).same (hother c hlt)

theorem load_reach (st : St) (pcs : List PCell) (nS nM nT : Nat) (nextU : ObjId) (hr : Reach st)
    (h : (load st pcs nS nM nT nextU).1.2 = none) : Reach (load st pcs nS nM nT nextU).1.1 :=
  hr.step (load_step st pcs nS nM nT nextU hr.linked h)

end MontePyVerif.Links
