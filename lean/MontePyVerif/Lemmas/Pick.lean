import MontePyVerif.Lemmas.Dec

/-! # The candidate loop of `_format_float` (lemmas for C05)

`pickFirst` returns a candidate that passed the read-back check or the last one; `_float_styles` always ends with a
candidate of at least 17 significant digits; such a candidate denotes a value inside the tolerance. -/
namespace MontePyVerif.C05
open MontePyVerif.ValueFormat

theorem pickFirst_spec (x : Num) : ∀ (ts : List Text) (hne : ts ≠ []),
    pickFirst x ts ∈ ts ∧ (readsBack (pickFirst x ts) x = true ∨ pickFirst x ts = ts.getLast hne)
  | [t], _ => ⟨List.mem_singleton.mpr rfl, Or.inr rfl⟩
  | t :: t' :: r, _ => by
    unfold pickFirst
    split
    · exact ⟨List.mem_cons_self, Or.inl ‹_›⟩
    · have ih := pickFirst_spec x (t' :: r) (List.cons_ne_nil _ _)
      exact ⟨List.mem_cons_of_mem _ ih.1, ih.2⟩

/-- a candidate with at least 17 significant digits -/
def Enough (sp : FStyle × Nat) : Prop := (sp.1 = .g ∧ 17 ≤ sp.2) ∨ (sp.1 = .e ∧ 16 ≤ sp.2)

theorem getLast_map_pyRange {α : Type} (P : α → Prop) (f : Nat → α) (a b : Nat) (h : a < b) (hP : P (f (b - 1)))
    (pre : List α) : ∃ hne : pre ++ (pyRange a b).map f ≠ [], P ((pre ++ (pyRange a b).map f).getLast hne) := by
  have hr : pyRange a b ≠ [] := by
    unfold pyRange; exact fun h0 => absurd (List.range'_eq_nil_iff.mp h0) (by omega)
  have hne : (pyRange a b).map f ≠ [] := fun h0 => hr (List.map_eq_nil_iff.mp h0)
  refine ⟨List.append_ne_nil_of_right_ne_nil _ hne, ?_⟩
  rw [List.getLast_append_of_ne_nil _ hne, List.getLast_map]
  unfold pyRange
  rw [List.getLast_range', show a + (b - a) - 1 = b - 1 by omega]
  exact hP

theorem getLast_ite (c : Prop) [Decidable c] (a b : List (FStyle × Nat)) (ha : ∃ hne : a ≠ [], Enough (a.getLast hne))
    (hb : ∃ hne : b ≠ [], Enough (b.getLast hne)) :
    ∃ hne : (if c then a else b) ≠ [], Enough ((if c then a else b).getLast hne) := by
  split <;> assumption

/-- `ValueNode._MAX_PRECISION` reaches the 17 significant digits that identify a double -/
theorem C05_max_precision : 17 ≤ Gen.maxPrecision := by decide

/-- `_float_styles` always ends with a candidate of at least 17 significant digits (`Gen.maxPrecision`, i.e.
    `ValueNode._MAX_PRECISION`) -/
theorem floatStyles_last (n : Node) : ∃ hne : floatStyles n ≠ [], Enough ((floatStyles n).getLast hne) := by
  -- of `_MAX_PRECISION` only `17 ≤ most` is used
  have h := C05_max_precision
  unfold floatStyles
  generalize Gen.maxPrecision = most at h ⊢
  refine getLast_ite _ _ _ ?_ (getLast_ite _ _ _ ?_ (getLast_ite _ _ _ ?_ ?_))
  · exact getLast_map_pyRange Enough _ _ _ (by omega) (Or.inl ⟨rfl, by show 17 ≤ max n.fmt.precision most + 1 - 1; omega⟩) []
  · exact getLast_map_pyRange Enough _ _ _ (by omega)
      (Or.inr ⟨rfl, by show 16 ≤ max n.fmt.precision (most - 1) + 1 - 1; omega⟩) []
  · exact getLast_map_pyRange Enough (fun q => (FStyle.g, q)) 6 (most + 1) (by omega)
      (Or.inl ⟨rfl, by show 17 ≤ most + 1 - 1; omega⟩) []
  · exact getLast_map_pyRange Enough (fun q => (FStyle.g, q)) 1 (most + 1) (by omega)
      (Or.inl ⟨rfl, by show 17 ≤ most + 1 - 1; omega⟩) _

/-- the `Dec` a candidate style writes -/
def decOf (x : Num) (sp : FStyle × Nat) : Dec :=
  match sp.1 with
  | .e => decE x sp.2
  | .g => decG x sp.2
  | .f => decF x sp.2

theorem formatFloatAs_render (f : Formatter) (x : Num) (sp : FStyle × Nat) :
    formatFloatAs f x sp = (match sp.1 with
      | .e => renderSci f (decOf x sp)
      | _ => renderPy f.sign f.zeroPadding (decOf x sp)) := by
  unfold formatFloatAs decOf
  cases sp.1 <;> rfl

theorem enough_close (x : Num) (hx : 0 ≤ x.mag) (sp : FStyle × Nat) (h : Enough sp) :
    Spec.isClose (decOf x sp).value x.toRat := by
  rcases h with ⟨hs, hq⟩ | ⟨hs, hq⟩
  · unfold decOf; rw [hs]
    have h := C05_pyformat_error_g x hx sp.2
    have hp : (if sp.2 = 0 then 1 else sp.2) - 1 = sp.2 - 1 := by split <;> omega
    rw [hp] at h
    exact isClose_of_digits _ x hx (sp.2 - 1) (by omega) h
  · unfold decOf; rw [hs]
    exact isClose_of_digits _ x hx sp.2 hq (C05_pyformat_error_e x hx sp.2)

end MontePyVerif.C05
