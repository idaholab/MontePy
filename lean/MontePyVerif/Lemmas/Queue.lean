import MontePyVerif.Model.Reader
/-!
# The read-card queue served first-in first-out = generation-wise serving (lemmas for C20)

`queueLoop` pops the head, serves it (opens the file, reads it) and appends the read cards met to the tail, until
the first raise.  `served` lists the entries generation by generation: the queue, then what serving it enqueues, and
so on.  For every fuel that suffices the loop is the serving of that list, cut at the first raise
(`queueLoop_served`).  The paths opened, the chains of the queue entries and the errors of one file are read off
`FileEvent`.
-/
namespace MontePyVerif.Reader

/-- everything up to and including the first raise -/
def cut : List Event → List Event
  | [] => []
  | e :: t => if e.isRaise then [e] else e :: cut t

theorem hasRaise_nil : hasRaise [] = false := rfl

theorem hasRaise_cons (e : Event) (t : List Event) : hasRaise (e :: t) = (e.isRaise || hasRaise t) := by
  simp [hasRaise]

theorem hasRaise_append (a b : List Event) : hasRaise (a ++ b) = (hasRaise a || hasRaise b) := by
  simp [hasRaise]

theorem enqueued_append (a b : List Event) : enqueued (a ++ b) = enqueued a ++ enqueued b := by
  induction a with
  | nil => rfl
  | cons e t ih => cases e <;> simp [enqueued, ih]

theorem cut_append (a b : List Event) : cut (a ++ b) = if hasRaise a then cut a else a ++ cut b := by
  induction a with
  | nil => simp [hasRaise]
  | cons e t ih =>
    by_cases h : e.isRaise
    · simp [cut, h, hasRaise_cons]
    · simp only [List.cons_append, cut, h, hasRaise_cons, Bool.false_or, ih]
      simp only [Bool.false_eq_true, ↓reduceIte]
      split <;> rfl

theorem cut_of_noRaise {a : List Event} (h : hasRaise a = false) : cut a = a := by
  induction a with
  | nil => rfl
  | cons e t ih =>
    rw [hasRaise_cons, Bool.or_eq_false_iff] at h
    simp [cut, h.1, ih h.2]

theorem cut_idem (a : List Event) : cut (cut a) = cut a := by
  induction a with
  | nil => rfl
  | cons e t ih => by_cases h : e.isRaise <;> simp [cut, h, ih]

theorem cut_append_cut (a b : List Event) : cut (a ++ cut b) = cut (a ++ b) := by
  rw [cut_append, cut_append, cut_idem]

theorem hasRaise_cut (a : List Event) : hasRaise (cut a) = hasRaise a := by
  induction a with
  | nil => rfl
  | cons e t ih => by_cases h : e.isRaise <;> simp [cut, h, hasRaise_cons, ih]

theorem mem_cut (evs : List Event) : ∀ x ∈ cut evs, x ∈ evs := by
  induction evs with
  | nil => simp [cut]
  | cons e t ih =>
    intro x hx
    unfold cut at hx
    split at hx
    · rw [List.mem_singleton.mp hx]; exact List.mem_cons_self
    · rcases List.mem_cons.mp hx with rfl | h
      · exact List.mem_cons_self
      · exact List.mem_cons_of_mem _ (ih x h)

theorem cut_then {a b : List Event} (ha : cut a = a) (hb : cut b = b) :
    cut (if hasRaise a then a else a ++ b) = if hasRaise a then a else a ++ b := by
  split
  · exact ha
  · rename_i h
    rw [cut_append, hb]
    simp [h]

theorem cut_ite {c : Prop} [Decidable c] {a b : List Event} (ha : cut a = a) (hb : cut b = b) :
    cut (if c then a else b) = if c then a else b := by
  split <;> assumption

theorem forall_mem_ite {α} {P : α → Prop} {c : Prop} [Decidable c] {a b : List α} (ha : ∀ x ∈ a, P x)
    (hb : ∀ x ∈ b, P x) : ∀ x ∈ (if c then a else b), P x := by
  split <;> assumption

/-! ## the events of one loop iteration of `read_data` -/

theorem flushBlock_events (cfg : Cfg) (st : LState) :
    (flushBlock cfg st).1 = if st.raw.isEmpty then [] else flushInput cfg st.blockType st.raw := rfl

theorem stepData_events (cfg : Cfg) (st : LState) (line : Str) (c : Bool) (evs1 : List Event) (raw1 : List Str) :
    (stepData cfg st line c evs1 raw1).1 =
      if hasRaise evs1 then evs1
      else evs1 ++ if startsWith (lstrip (line.take Gen.blankSpaceContinue)) ['#'] && !c then [.raise .unsupported]
        else if (line.take cfg.lineLength).length != line.length then [.warn] else [] := by
  rw [stepData, apply_ite Prod.fst, apply_ite Prod.fst, apply_ite (evs1 ++ ·)]

theorem stepLine_events (cfg : Cfg) (st : LState) (l : Str) :
    (stepLine cfg st l).1 =
      if (strip (expandtabs Gen.tabSize l)).isEmpty then (flushBlock cfg st).1
      else if startsNew st (expandtabs Gen.tabSize l) (isComment (expandtabs Gen.tabSize l)) then
        (stepData cfg st (expandtabs Gen.tabSize l) (isComment (expandtabs Gen.tabSize l))
          (flushInput cfg st.blockType st.raw) []).1
      else (stepData cfg st (expandtabs Gen.tabSize l) (isComment (expandtabs Gen.tabSize l)) [] st.raw).1 := by
  rw [stepLine, apply_ite Prod.fst, apply_ite Prod.fst]

theorem goLines_step (cfg : Cfg) (st : LState) (l : Str) (ls : List Str) :
    goLines cfg st (l :: ls) =
      if hasRaise (stepLine cfg st l).1 then (stepLine cfg st l).1
      else (stepLine cfg st l).1 ++
        if stopsAfter cfg l (stepLine cfg st l).2 then (flushBlock cfg (stepLine cfg st l).2).1
        else goLines cfg (stepLine cfg st l).2 ls := by
  rw [goLines, apply_ite ((stepLine cfg st l).1 ++ ·)]

/-- induction along the loop of `read_data`, the events emitted in hand: no line left; or one line, after which the
    step has raised, or the loop stops (`break`), or goes on with the rest from the state `stepLine` leaves -/
theorem goLines_induct (cfg : Cfg) {motive : LState → List Str → List Event → Prop}
    (nil : ∀ st, motive st [] (flushBlock cfg st).1)
    (raise : ∀ st l ls, hasRaise (stepLine cfg st l).1 = true → motive st (l :: ls) (stepLine cfg st l).1)
    (stop : ∀ st l ls, ¬hasRaise (stepLine cfg st l).1 = true → stopsAfter cfg l (stepLine cfg st l).2 = true →
      motive st (l :: ls) ((stepLine cfg st l).1 ++ (flushBlock cfg (stepLine cfg st l).2).1))
    (go : ∀ st l ls, ¬hasRaise (stepLine cfg st l).1 = true → ¬stopsAfter cfg l (stepLine cfg st l).2 = true →
      motive (stepLine cfg st l).2 ls (goLines cfg (stepLine cfg st l).2 ls) →
      motive st (l :: ls) ((stepLine cfg st l).1 ++ goLines cfg (stepLine cfg st l).2 ls))
    (st : LState) (ls : List Str) : motive st ls (goLines cfg st ls) :=
  goLines.induct_unfolding cfg motive nil
    (fun st l ls _ _ h => by simpa only [h] using raise st l ls)
    (fun st l ls _ _ h => by simpa only [h] using stop st l ls)
    (fun st l ls _ _ h => by simpa only [h] using go st l ls) st ls

/-! ## the per-file reader never goes on after a raise -/

theorem cut_flushInput (cfg : Cfg) (bt : BlockType) (raw : List Str) :
    cut (flushInput cfg bt raw) = flushInput cfg bt raw := by
  unfold flushInput
  split
  · split
    · rfl
    · split <;> rfl
  · rfl

theorem cut_flushBlock (cfg : Cfg) (st : LState) : cut (flushBlock cfg st).1 = (flushBlock cfg st).1 :=
  cut_ite rfl (cut_flushInput _ _ _)

theorem cut_stepData (cfg : Cfg) (st : LState) (line : Str) (c : Bool) (evs1 : List Event) (raw1 : List Str)
    (h : cut evs1 = evs1) : cut (stepData cfg st line c evs1 raw1).1 = (stepData cfg st line c evs1 raw1).1 := by
  rw [stepData_events]
  exact cut_then h (cut_ite rfl (cut_ite rfl rfl))

theorem cut_stepLine (cfg : Cfg) (st : LState) (l : Str) : cut (stepLine cfg st l).1 = (stepLine cfg st l).1 := by
  rw [stepLine_events]
  exact cut_ite (cut_flushBlock _ _)
    (cut_ite (cut_stepData _ _ _ _ _ _ (cut_flushInput _ _ _)) (cut_stepData _ _ _ _ _ _ rfl))

theorem cut_goLines (cfg : Cfg) (st : LState) (ls : List Str) : cut (goLines cfg st ls) = goLines cfg st ls := by
  induction st, ls using goLines_induct cfg with
  | nil st => exact cut_flushBlock _ _
  | raise st l ls _ => exact cut_stepLine _ _ _
  | stop st l ls hr _ => rw [cut_append, if_neg hr, cut_flushBlock]
  | go st l ls hr _ ih => rw [cut_append, if_neg hr, ih]

theorem cut_readData (cfg : Cfg) (ls : List Str) : cut (readData cfg ls) = readData cfg ls := cut_goLines _ _ _

/-! ## what reading one file can emit -/

/-- what `read_data` can emit on one file; an entry it enqueues carries the chain of the file and names a file that
    is not on it (fix 8561374) -/
inductive FileEvent (cfg : Cfg) : Event → Prop
  | input (bt : BlockType) (raw : List Str) : FileEvent cfg (.input bt raw)
  | none : FileEvent cfg .none
  | warn : FileEvent cfg .warn
  | enqueue (bt : BlockType) (name : Str) (h : cfg.chain.contains (joinPath cfg.topDir name) = false) :
      FileEvent cfg (.enqueue ⟨bt, name, cfg.path, cfg.chain⟩)
  | parsing : FileEvent cfg (.raise .parsing)
  | malformed : FileEvent cfg (.raise .malformed)
  | unsupported : FileEvent cfg (.raise .unsupported)

theorem fileEvent_flushInput (cfg : Cfg) (bt : BlockType) (raw : List Str) :
    ∀ ev ∈ flushInput cfg bt raw, FileEvent cfg ev := by
  intro ev h
  unfold flushInput at h
  split at h
  · split at h
    · rw [List.mem_singleton.mp h]; exact .parsing
    · split at h
      · rw [List.mem_singleton.mp h]; exact .malformed
      · rename_i hc
        rcases List.mem_cons.mp h with rfl | h
        · exact .enqueue _ _ (by simpa using hc)
        · rw [List.mem_singleton.mp h]; exact .none
  · rw [List.mem_singleton.mp h]; exact .input _ _

theorem fileEvent_flushBlock (cfg : Cfg) (st : LState) : ∀ ev ∈ (flushBlock cfg st).1, FileEvent cfg ev :=
  forall_mem_ite (List.forall_mem_nil _) (fileEvent_flushInput _ _ _)

theorem fileEvent_stepData (cfg : Cfg) (st : LState) (line : Str) (c : Bool) (evs1 : List Event) (raw1 : List Str)
    (h1 : ∀ ev ∈ evs1, FileEvent cfg ev) : ∀ ev ∈ (stepData cfg st line c evs1 raw1).1, FileEvent cfg ev := by
  rw [stepData_events]
  exact forall_mem_ite h1 (List.forall_mem_append.mpr ⟨h1,
    forall_mem_ite (List.forall_mem_singleton.mpr .unsupported)
      (forall_mem_ite (List.forall_mem_singleton.mpr .warn) (List.forall_mem_nil _))⟩)

theorem fileEvent_stepLine (cfg : Cfg) (st : LState) (l : Str) : ∀ ev ∈ (stepLine cfg st l).1, FileEvent cfg ev := by
  rw [stepLine_events]
  exact forall_mem_ite (fileEvent_flushBlock _ _)
    (forall_mem_ite (fileEvent_stepData _ _ _ _ _ _ (fileEvent_flushInput _ _ _)) (fileEvent_stepData _ _ _ _ _ _ (List.forall_mem_nil _)))

theorem fileEvent_goLines (cfg : Cfg) (st : LState) (ls : List Str) : ∀ ev ∈ goLines cfg st ls, FileEvent cfg ev := by
  induction st, ls using goLines_induct cfg with
  | nil st => exact fileEvent_flushBlock _ _
  | raise st l ls _ => exact fileEvent_stepLine _ _ _
  | stop st l ls _ _ => exact List.forall_mem_append.mpr ⟨fileEvent_stepLine _ _ _, fileEvent_flushBlock _ _⟩
  | go st l ls _ _ ih => exact List.forall_mem_append.mpr ⟨fileEvent_stepLine _ _ _, ih⟩

theorem mem_enqueued {e : QEntry} {evs : List Event} : e ∈ enqueued evs ↔ .enqueue e ∈ evs := by
  induction evs with
  | nil => simp [enqueued]
  | cons ev t ih => cases ev <;> simp [enqueued, ih]

theorem enqueued_goLines (cfg : Cfg) (st : LState) (ls : List Str) {e : QEntry} (h : e ∈ enqueued (goLines cfg st ls)) :
    e.chain = cfg.chain ∧ cfg.chain.contains (joinPath cfg.topDir e.name) = false := by
  cases fileEvent_goLines cfg st ls _ (mem_enqueued.mp h) with
  | enqueue bt name hc => exact ⟨rfl, hc⟩

/-! ## serving one queue entry -/

/-- what one turn of `while reading_queue:` does with the entry it pops -/
def serve (ll : Nat) (fs : FS) (dir : Str) (e : QEntry) : List Event :=
  .openFile (joinPath dir e.name) ::
    match fs (joinPath dir e.name) with
    | Option.none => [.raise .fileNotFound]
    | some bytes => readData ⟨ll, e.bt, joinPath dir e.name, e.chain ++ [joinPath dir e.name]⟩ (fileLines bytes)

theorem serve_missing (ll : Nat) (fs : FS) (dir : Str) (e : QEntry) (h : fs (joinPath dir e.name) = Option.none) :
    serve ll fs dir e = [.openFile (joinPath dir e.name), .raise .fileNotFound] := by
  unfold serve; rw [h]

theorem cut_serve (ll : Nat) (fs : FS) (dir : Str) (e : QEntry) : cut (serve ll fs dir e) = serve ll fs dir e := by
  unfold serve
  cases fs (joinPath dir e.name) with
  | none => rfl
  | some bytes => simp [cut, Event.isRaise, cut_readData]

theorem queueLoop_cons (ll : Nat) (fs : FS) (dir : Str) (fuel : Nat) (e : QEntry) (rest : List QEntry) :
    queueLoop ll fs dir (fuel + 1) (e :: rest) =
      if hasRaise (serve ll fs dir e) then serve ll fs dir e
      else serve ll fs dir e ++ queueLoop ll fs dir fuel (rest ++ enqueued (serve ll fs dir e)) := by
  unfold serve
  rw [queueLoop]
  cases fs (joinPath dir e.name) with
  | none => rfl
  | some bytes =>
    simp only [hasRaise_cons, Event.isRaise, Bool.false_or, enqueued]
    split <;> rfl

theorem cut_queueLoop (ll : Nat) (fs : FS) (dir : Str) (fuel : Nat) (q : List QEntry) :
    cut (queueLoop ll fs dir fuel q) = queueLoop ll fs dir fuel q := by
  induction fuel generalizing q with
  | zero => cases q <;> rfl
  | succ n ih =>
    cases q with
    | nil => rfl
    | cons e rest =>
      rw [queueLoop_cons]
      exact cut_then (cut_serve _ _ _ _) (ih _)

/-- serving a list of entries one after the other, as if nothing raised -/
def serveAll (ll : Nat) (fs : FS) (dir : Str) (q : List QEntry) : List Event := q.flatMap (serve ll fs dir)

theorem serveAll_cons (ll : Nat) (fs : FS) (dir : Str) (e : QEntry) (q : List QEntry) :
    serveAll ll fs dir (e :: q) = serve ll fs dir e ++ serveAll ll fs dir q := rfl

theorem serveAll_append (ll : Nat) (fs : FS) (dir : Str) (xs ys : List QEntry) :
    serveAll ll fs dir (xs ++ ys) = serveAll ll fs dir xs ++ serveAll ll fs dir ys := List.flatMap_append

theorem mem_enqueued_serveAll {ll : Nat} {fs : FS} {dir : Str} {e' : QEntry} {q : List QEntry} :
    e' ∈ enqueued (serveAll ll fs dir q) ↔ ∃ e ∈ q, e' ∈ enqueued (serve ll fs dir e) := by
  simp only [mem_enqueued, serveAll, List.mem_flatMap]

theorem queueLoop_append (ll : Nat) (fs : FS) (dir : Str) (xs ys : List QEntry) (fuel : Nat) :
    queueLoop ll fs dir (fuel + xs.length) (xs ++ ys) =
      cut (serveAll ll fs dir xs ++ queueLoop ll fs dir fuel (ys ++ enqueued (serveAll ll fs dir xs))) := by
  induction xs generalizing ys with
  | nil => simp [serveAll, enqueued, cut_queueLoop]
  | cons x xs ih =>
    have hlen : fuel + (x :: xs).length = (fuel + xs.length) + 1 := by simp; omega
    rw [hlen, List.cons_append, queueLoop_cons, serveAll_cons, List.append_assoc (serve ll fs dir x), cut_append]
    split
    · rw [cut_serve]
    · rw [List.append_assoc xs, ih, enqueued_append, List.append_assoc]

/-- the entries served, in the order of serving, `d` generations deep: the queue, then what serving it enqueues, … -/
def served (ll : Nat) (fs : FS) (dir : Str) : Nat → List QEntry → List QEntry
  | 0, _ => []
  | _ + 1, [] => []
  | d + 1, e :: q => (e :: q) ++ served ll fs dir d (enqueued (serveAll ll fs dir (e :: q)))

/-- the generation `d` levels down is empty: nesting of read cards is at most `d` deep -/
def DiesOut (ll : Nat) (fs : FS) (dir : Str) : Nat → List QEntry → Prop
  | _, [] => True
  | 0, _ :: _ => False
  | d + 1, e :: q => DiesOut ll fs dir d (enqueued (serveAll ll fs dir (e :: q)))

instance decDiesOut (ll : Nat) (fs : FS) (dir : Str) : (d : Nat) → (q : List QEntry) → Decidable (DiesOut ll fs dir d q)
  | 0, [] => isTrue (by simp [DiesOut])
  | _ + 1, [] => isTrue (by simp [DiesOut])
  | 0, _ :: _ => isFalse (by simp [DiesOut])
  | d + 1, e :: q => by
    simp only [DiesOut]
    exact decDiesOut ll fs dir d (enqueued (serveAll ll fs dir (e :: q)))

theorem queueLoop_nil (ll : Nat) (fs : FS) (dir : Str) (fuel : Nat) : queueLoop ll fs dir fuel [] = [] := by
  cases fuel <;> rfl

theorem queueLoop_served (ll : Nat) (fs : FS) (dir : Str) (d : Nat) (q : List QEntry) (extra : Nat)
    (h : DiesOut ll fs dir d q) :
    queueLoop ll fs dir (extra + (served ll fs dir d q).length) q = cut (serveAll ll fs dir (served ll fs dir d q)) := by
  induction d generalizing q extra with
  | zero =>
    cases q with
    | nil => rw [queueLoop_nil]; rfl
    | cons e q => exact absurd h (by simp [DiesOut])
  | succ d ih =>
    cases q with
    | nil => rw [queueLoop_nil]; rfl
    | cons e q =>
      simp only [DiesOut] at h
      have hf : extra + (served ll fs dir (d + 1) (e :: q)).length =
          (extra + (served ll fs dir d (enqueued (serveAll ll fs dir (e :: q)))).length) + (e :: q).length := by
        simp [served]; omega
      have := queueLoop_append ll fs dir (e :: q) [] (extra + (served ll fs dir d (enqueued (serveAll ll fs dir (e :: q)))).length)
      rw [List.append_nil, List.nil_append] at this
      rw [hf, this, ih _ _ h, cut_append_cut, ← serveAll_append]
      rfl

/-- every read card met is served exactly once -/
theorem served_eq_enqueued (ll : Nat) (fs : FS) (dir : Str) (d : Nat) (q : List QEntry)
    (h : DiesOut ll fs dir d q) :
    served ll fs dir d q = q ++ enqueued (serveAll ll fs dir (served ll fs dir d q)) := by
  induction d generalizing q with
  | zero =>
    cases q with
    | nil => rfl
    | cons e q => exact absurd h (by simp [DiesOut])
  | succ d ih =>
    cases q with
    | nil => rfl
    | cons e q =>
      simp only [DiesOut] at h
      simp only [served, serveAll_append, enqueued_append]
      rw [← ih _ h]

/-! ## files opened -/

/-- the paths handed to `open`, in order -/
def opened : List Event → List Str
  | [] => []
  | .openFile p :: t => p :: opened t
  | _ :: t => opened t

theorem opened_append (a b : List Event) : opened (a ++ b) = opened a ++ opened b := by
  induction a with
  | nil => rfl
  | cons e t ih => cases e <;> simp [opened, ih]

theorem mem_opened {p : Str} {evs : List Event} : p ∈ opened evs ↔ .openFile p ∈ evs := by
  induction evs with
  | nil => simp [opened]
  | cons ev t ih => cases ev <;> simp [opened, ih]

theorem opened_readData (cfg : Cfg) (ls : List Str) : opened (readData cfg ls) = [] :=
  List.eq_nil_iff_forall_not_mem.mpr fun _ hp => nomatch fileEvent_goLines cfg _ ls _ (mem_opened.mp hp)

theorem opened_serve (ll : Nat) (fs : FS) (dir : Str) (e : QEntry) :
    opened (serve ll fs dir e) = [joinPath dir e.name] := by
  unfold serve
  cases fs (joinPath dir e.name) with
  | none => rfl
  | some bytes => simp [opened, opened_readData]

theorem opened_serveAll (ll : Nat) (fs : FS) (dir : Str) (q : List QEntry) :
    opened (serveAll ll fs dir q) = q.map (fun e => joinPath dir e.name) := by
  induction q with
  | nil => rfl
  | cons e q ih =>
    simp only [serveAll, List.flatMap_cons, opened_append, opened_serve, List.map_cons] at *
    rw [ih]; rfl

theorem opened_cut_prefix (a : List Event) : opened (cut a) <+: opened a := by
  induction a with
  | nil => exact List.prefix_refl _
  | cons e t ih =>
    by_cases h : e.isRaise
    · cases e <;> simp_all [cut, opened, Event.isRaise]
    · cases e <;> simp_all [cut, opened, Event.isRaise]

/-! ## the first raise -/

def firstRaise : List Event → Option Err
  | [] => Option.none
  | .raise e :: _ => some e
  | _ :: t => firstRaise t

theorem firstRaise_cut (a : List Event) : firstRaise (cut a) = firstRaise a := by
  induction a with
  | nil => rfl
  | cons e t ih => cases e <;> simp_all [cut, firstRaise, Event.isRaise]

theorem firstRaise_append (a b : List Event) :
    firstRaise (a ++ b) = match firstRaise a with | some e => some e | Option.none => firstRaise b := by
  induction a with
  | nil => rfl
  | cons e t ih => cases e <;> simp_all [firstRaise]

theorem firstRaise_none_iff (a : List Event) : firstRaise a = Option.none ↔ hasRaise a = false := by
  induction a with
  | nil => simp [firstRaise, hasRaise]
  | cons e t ih => cases e <;> simp_all [firstRaise, hasRaise_cons, Event.isRaise]

end MontePyVerif.Reader
