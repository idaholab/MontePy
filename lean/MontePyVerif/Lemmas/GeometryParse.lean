import MontePyVerif.Spec.Geometry
/-! Token-level lemmas about the Spec's stack evaluator: how the token sequences a printer can emit
    (factor, juxtaposition, `:`, `( … )`, `#( … )`) move the evaluator's state, and what they denote.
    `sem : Env → Bool` is the Boolean function the tokens are supposed to denote. -/
namespace MontePyVerif.Spec.Geometry

theorem run_append (xs ys : List Tok) (s : Option St) : run (xs ++ ys) s = run ys (run xs s) := by
  simp [run, List.foldl_append]

def evalO (ρ : Env) (d : Bool) : Option E → Bool
  | none => d
  | some e => e.eval ρ

theorem andO_eval (ρ : Env) (i : Option E) (v : E) : (andO i v).eval ρ = (evalO ρ true i && v.eval ρ) := by
  cases i <;> rfl
theorem orO_eval (ρ : Env) (u : Option E) (v : E) : (orO u v).eval ρ = (evalO ρ false u || v.eval ρ) := by
  cases u <;> rfl

/-- `ts` adds one factor sequence with meaning `sem` to the current term (usable inside an intersection). -/
def L1 (ts : List Tok) (sem : Env → Bool) : Prop :=
  ∀ u i c rest, ∃ i', run ts (some ⟨⟨u, i, c⟩, rest⟩) = some ⟨⟨u, some i', c⟩, rest⟩ ∧
    ∀ ρ, i'.eval ρ = (evalO ρ true i && sem ρ)

/-- from the start of a term, `ts` leaves the group with value `u ∨ sem` (usable where a union may stand). -/
def L0 (ts : List Tok) (sem : Env → Bool) : Prop :=
  ∀ u c rest, ∃ u' i', run ts (some ⟨⟨u, none, c⟩, rest⟩) = some ⟨⟨u', some i', c⟩, rest⟩ ∧
    ∀ ρ, (orO u' i').eval ρ = (evalO ρ false u || sem ρ)

theorem L1.toL0 {ts sem} (h : L1 ts sem) : L0 ts sem := by
  intro u c rest
  obtain ⟨i', hr, hv⟩ := h u none c rest
  exact ⟨u, i', hr, fun ρ => by rw [orO_eval, hv ρ]; rfl⟩

theorem L1.congr {ts sem sem'} (h : L1 ts sem) (e : ∀ ρ, sem ρ = sem' ρ) : L1 ts sem' := by
  intro u i c rest
  obtain ⟨i', hr, hv⟩ := h u i c rest
  exact ⟨i', hr, fun ρ => by rw [hv ρ, e ρ]⟩

theorem L0.congr {ts sem sem'} (h : L0 ts sem) (e : ∀ ρ, sem ρ = sem' ρ) : L0 ts sem' := by
  intro u c rest
  obtain ⟨u', i', hr, hv⟩ := h u c rest
  exact ⟨u', i', hr, fun ρ => by rw [hv ρ, e ρ]⟩

theorem L1_atom {t : Tok} {e : E}
    (ht : ∀ s, step (some s) t = some { s with top := { s.top with i := some (andO s.top.i e) } }) :
    L1 [t] (fun ρ => e.eval ρ) := by
  intro u i c rest
  exact ⟨andO i e, ht _, fun ρ => andO_eval ρ i e⟩

theorem L1_num (n : Nat) (neg : Bool) : L1 [.num n neg] (fun ρ => ρ false n != neg) :=
  L1_atom (e := .leaf n neg) fun _ => rfl

theorem L1_cell (n : Nat) : L1 [.cell n] (fun ρ => !(ρ true n)) :=
  L1_atom (e := .cell n) fun _ => rfl

theorem L1_inter {a b sa sb} (ha : L1 a sa) (hb : L1 b sb) : L1 (a ++ b) (fun ρ => sa ρ && sb ρ) := by
  intro u i c rest
  obtain ⟨i1, h1, hv1⟩ := ha u i c rest
  obtain ⟨i2, h2, hv2⟩ := hb u (some i1) c rest
  refine ⟨i2, by rw [run_append, h1, h2], fun ρ => ?_⟩
  rw [hv2 ρ, ← Bool.and_assoc, ← hv1 ρ]; rfl

theorem L0_union {a b sa sb} (ha : L0 a sa) (hb : L0 b sb) : L0 (a ++ .colon :: b) (fun ρ => sa ρ || sb ρ) := by
  intro u c rest
  obtain ⟨u1, i1, h1, hv1⟩ := ha u c rest
  obtain ⟨u2, i2, h2, hv2⟩ := hb (some (orO u1 i1)) c rest
  refine ⟨u2, i2, ?_, fun ρ => ?_⟩
  · rw [run_append, h1]; exact h2
  · rw [hv2 ρ, ← Bool.or_assoc, ← hv1 ρ]; rfl

/-- `t` is `(` or `#(` -/
theorem L1_group {t : Tok} {c0 : Bool}
    (ht : ∀ s, step (some s) t = some ⟨⟨none, none, c0⟩, s.top :: s.rest⟩) {ts sem} (h : L0 ts sem) :
    L1 (t :: (ts ++ [.rp])) (fun ρ => cond c0 (!(sem ρ)) (sem ρ)) := by
  intro u i c rest
  obtain ⟨u', i', hr, hv⟩ := h none c0 (⟨u, i, c⟩ :: rest)
  refine ⟨andO i (if c0 then .compl (orO u' i') else orO u' i'), ?_, fun ρ => ?_⟩
  · show run (ts ++ [.rp]) (step _ t) = _
    rw [ht, run_append, hr]; rfl
  · have hv' : (orO u' i').eval ρ = sem ρ := hv ρ
    rw [andO_eval]
    cases c0
    · exact congrArg (evalO ρ true i && ·) hv'
    · exact congrArg (fun b => evalO ρ true i && !b) hv'

theorem L1_paren {ts sem} (h : L0 ts sem) : L1 (.lp :: (ts ++ [.rp])) sem :=
  L1_group (c0 := false) (fun _ => rfl) h

theorem L1_cparen {ts sem} (h : L0 ts sem) : L1 (.clp :: (ts ++ [.rp])) (fun ρ => !(sem ρ)) :=
  L1_group (c0 := true) (fun _ => rfl) h

theorem parse_of_L0 {ts sem} (h : L0 ts sem) : ∃ e, parse ts = some e ∧ ∀ ρ, e.eval ρ = sem ρ := by
  obtain ⟨u', i', hr, hv⟩ := h none false []
  exact ⟨orO u' i', by rw [parse, hr], fun ρ => by rw [hv ρ]; rfl⟩

end MontePyVerif.Spec.Geometry
