import MontePyVerif.Spec.TextLayout
import MontePyVerif.Lemmas.ListBasics
/-!
# The Spec's word splitter: a blank is a word boundary (Spec only; used by the layout and the reader lemmas)

`wordsAux_append_blank` is the one law; with it the open word `cur` of `Spec.wordsAux` stays out of what follows.
-/
namespace MontePyVerif.SpecWords
open MontePyVerif MontePyVerif.Spec MontePyVerif.ListBasics

theorem wordsAux_append_blank : ∀ (a b cur : Line),
    wordsAux (a ++ ' ' :: b) cur = wordsAux a cur ++ wordsAux b []
  | [], b, cur => by cases cur <;> simp [wordsAux]
  | c :: a, b, cur => by
    simp only [List.cons_append, wordsAux]
    split
    · rw [wordsAux_append_blank a b []]; split <;> rfl
    · exact wordsAux_append_blank a b (c :: cur)

theorem splitWords_append_blank (a b : Line) : splitWords (a ++ ' ' :: b) = splitWords a ++ splitWords b :=
  wordsAux_append_blank a b []

theorem splitWords_blank (b : Line) : splitWords (' ' :: b) = splitWords b :=
  splitWords_append_blank [] b

theorem splitWords_blanks (k : Nat) (b : Line) : splitWords (List.replicate k ' ' ++ b) = splitWords b := by
  induction k with
  | zero => rfl
  | succ k ih => rw [List.replicate_succ, List.cons_append, splitWords_blank, ih]

theorem splitWords_replicate (k : Nat) : splitWords (List.replicate k ' ') = [] := by
  have := splitWords_blanks k []
  rwa [List.append_nil] at this

theorem splitWords_append_blanks (y : Line) (k : Nat) : splitWords (y ++ List.replicate k ' ') = splitWords y := by
  cases k with
  | zero => rw [List.replicate_zero, List.append_nil]
  | succ k => rw [List.replicate_succ, splitWords_append_blank, splitWords_replicate, List.append_nil]

/-- behind a blank the words of what follows stand for themselves -/
theorem splitWords_boundary (d rest : Line) (h : d.getLast? = some ' ') :
    splitWords (d ++ rest) = splitWords d ++ splitWords rest := by
  obtain ⟨d', rfl⟩ : ∃ d', d = d' ++ [' '] := by
    rcases List.eq_nil_or_concat d with rfl | ⟨d', a, rfl⟩
    · simp at h
    · simp at h; exact ⟨d', by rw [h, List.concat_eq_append]⟩
  rw [List.append_assoc, List.singleton_append, splitWords_append_blank, splitWords_append_blank]
  simp [splitWords, wordsAux]

/-- a run of non-blanks behind the open word `cur` is one word -/
theorem wordsAux_word (w cur : Line) (h : ∀ c ∈ w, c ≠ ' ') (hne : w ≠ [] ∨ cur ≠ []) :
    wordsAux w cur = [cur.reverse ++ w] := by
  induction w generalizing cur with
  | nil =>
    have : cur ≠ [] := hne.resolve_left (fun h => h rfl)
    simp [wordsAux, this]
  | cons c w ih =>
    have e : wordsAux (c :: w) cur = wordsAux w (c :: cur) := by rw [wordsAux, if_neg (h c List.mem_cons_self)]
    rw [e, ih _ (fun d hd => h d (List.mem_cons_of_mem _ hd)) (.inr (List.cons_ne_nil _ _))]
    simp

theorem splitWords_word (w : Line) (hne : w ≠ []) (h : ∀ c ∈ w, c ≠ ' ') : splitWords w = [w] :=
  wordsAux_word w [] h (.inl hne)

theorem splitWords_word_blank (w T : Line) (hne : w ≠ []) (h : ∀ c ∈ w, c ≠ ' ') :
    splitWords (w ++ ' ' :: T) = w :: splitWords T := by
  rw [splitWords_append_blank, splitWords_word w hne h]; rfl

/-- data that end in a continuation mark have `&` as their last word -/
theorem endsAmp_last (d : Line) (h : endsAmp d = true) : ∃ pre, splitWords d = pre ++ [['&']] := by
  obtain ⟨k, hk⟩ := dropWhile_reverse_decomp ' ' d
  unfold endsAmp at h
  split at h
  · rename_i r' hr
    rw [hr] at hk
    refine ⟨splitWords r'.reverse, ?_⟩
    rw [hk, splitWords_append_blanks]
    simp only [List.reverse_cons, List.append_assoc, List.singleton_append]
    rw [splitWords_append_blank]
    rfl
  · exact absurd h (by decide)

end MontePyVerif.SpecWords
