import MontePyVerif.Lemmas.Layout
import MontePyVerif.Lemmas.LineFacts
import MontePyVerif.Lemmas.Queue
/-!
# The model of `read_data` refines the Spec reader (simulation, lemmas for C11 / C20)

For lines on which the code's rules and MCNP's coincide (`GoodLine`: the named places where the code is
knowingly wider or narrower than MCNP are excluded) the events of `Reader.readData`, projected to what the
Spec talks about (`proj`), are the Spec's stream of the same lines.
-/
namespace MontePyVerif.Refine
open MontePyVerif MontePyVerif.Reader MontePyVerif.LineFacts MontePyVerif.ListBasics

/-- a physical line without its terminator on which the code's rules and MCNP's rules coincide; it holds no tab
    (`onlyBlanks`), so that `expandtabs` leaves it as it is -/
structure GoodLine (limit : Nat) (x : List Char) : Prop where
  /-- no white space other than the blank (`str.strip`/`split` know more: VT, FF, FS…US) -/
  onlyBlanks : OnlyBlanks x
  /-- within the column limit with room for the line end (a line of exactly `limit` columns gets a
      `LineOverRunWarning` and its `\n` cut off) -/
  fits : x.length < limit
  /-- the line does not begin, within columns 1-5, with a `#` (the code raises `UnsupportedFeature`: vertical
      format, which is outside the Spec; since fix 453a5e4 a `#` elsewhere in columns 1-5 is plain data) -/
  noVertical : hashFirst x = false
  /-- in a data line: no `&` directly in front of a `$` comment (MCNP: continuation; the code: none) -/
  noAmpDollar : Spec.isCommentLine x = false → NoAmpBeforeDollar x
  /-- a line that is neither blank nor a comment line carries a word (no line holding only `$ …` or only `&`) -/
  hasWords : Spec.isBlankLine x = false → Spec.isCommentLine x = false → Spec.lineWords x ≠ []
  /-- in a data line the first `$` stands at the line start or behind a blank (`is_read_input` splits the whole
      line, `$` comment included) -/
  dollarSpaced : Spec.isCommentLine x = false → ∀ pre post, x = pre ++ '$' :: post → pre.contains '$' = false →
    pre = [] ∨ pre.getLast? = some ' '

/-! ## what the Spec sees in the model's events -/

def wordsOf (raw : List Str) : List Spec.Word :=
  (raw.filter (fun r => !Spec.isCommentLine r)).flatMap Spec.lineWords

def hasData (raw : List Str) : Bool := raw.any (fun r => !Spec.isCommentLine r)

def projEv : Event → List Spec.SOut
  | .input bt raw => if hasData raw then [.inp ⟨bt.value, wordsOf raw⟩] else []
  | .enqueue e => [.card ⟨e.bt.value, e.name, e.chain⟩]
  | .raise .parsing => [.err .badRead]
  | .raise .malformed => [.err .cycle]
  | .raise .fileNotFound => [.err .missing]
  /- vertical input format and fuel are outside the Spec: they are mapped to an error so that nothing behind
     them counts; under the hypotheses of the refinement theorems they do not occur -/
  | .raise .unsupported => [.err .badRead]
  | .raise .outOfFuel => [.err .missing]
  | _ => []

def proj (evs : List Event) : List Spec.SOut := evs.flatMap projEv

theorem proj_append (a b : List Event) : proj (a ++ b) = proj a ++ proj b := by simp [proj]
theorem proj_nil : proj [] = [] := rfl

theorem wordsOf_append (a b : List Str) : wordsOf (a ++ b) = wordsOf a ++ wordsOf b := by
  simp [wordsOf, List.filter_append, List.flatMap_append]

theorem wordsOf_single (r : Str) : wordsOf [r] = if Spec.isCommentLine r then [] else Spec.lineWords r := by
  unfold wordsOf
  cases h : Spec.isCommentLine r <;> simp [List.filter, h]

theorem wordsOf_comments (raw : List Str) (h : ∀ r ∈ raw, Spec.isCommentLine r = true) : wordsOf raw = [] := by
  unfold wordsOf
  have : raw.filter (fun r => !Spec.isCommentLine r) = [] := by
    rw [List.filter_eq_nil_iff]; intro r hr; simp [h r hr]
  rw [this]; rfl

theorem hasData_comments (raw : List Str) (h : ∀ r ∈ raw, Spec.isCommentLine r = true) : hasData raw = false := by
  unfold hasData
  rw [List.any_eq_false]; intro r hr; simp [h r hr]

theorem hasData_append (a b : List Str) : hasData (a ++ b) = (hasData a || hasData b) := by
  simp [hasData]

/-! ## a raise is an error of the Spec; `cutS` -/

def isErr : Spec.SOut → Bool
  | .err _ => true
  | _ => false

theorem projEv_raise (e : Event) (h : e.isRaise = true) : ∃ x, projEv e = [.err x] := by
  cases e with
  | raise err => cases err <;> exact ⟨_, rfl⟩
  | _ => simp [Event.isRaise] at h

theorem projEv_noRaise (e : Event) (h : e.isRaise = false) : (projEv e).any isErr = false := by
  cases e with
  | raise err => simp [Event.isRaise] at h
  | input bt raw => by_cases hd : hasData raw = true <;> simp [projEv, hd, isErr]
  | _ => simp [projEv, isErr]

theorem proj_cons (e : Event) (t : List Event) : proj (e :: t) = projEv e ++ proj t := rfl

theorem hasRaise_eq_any_proj (evs : List Event) : hasRaise evs = (proj evs).any isErr := by
  induction evs with
  | nil => rfl
  | cons e t ih =>
    rw [hasRaise_cons, proj_cons, List.any_append, ih]
    cases h : e.isRaise
    · rw [projEv_noRaise e h]
    · obtain ⟨x, hx⟩ := projEv_raise e h
      rw [hx]; rfl

theorem cutS_cons (o : Spec.SOut) (t : List Spec.SOut) :
    Spec.cutS (o :: t) = if isErr o then [o] else o :: Spec.cutS t := by
  cases o <;> simp [Spec.cutS, isErr]

theorem cutS_append_noErr (a b : List Spec.SOut) (h : a.any isErr = false) : Spec.cutS (a ++ b) = a ++ Spec.cutS b := by
  induction a with
  | nil => rfl
  | cons o a ih =>
    simp only [List.any_cons, Bool.or_eq_false_iff] at h
    simp only [List.cons_append, cutS_cons, h.1, Bool.false_eq_true, ↓reduceIte, ih h.2]

theorem cutS_of_noErr (a : List Spec.SOut) (h : a.any isErr = false) : Spec.cutS a = a := by
  simpa [Spec.cutS] using cutS_append_noErr a [] h

theorem cutS_append_err (a b : List Spec.SOut) (h : a.any isErr = true) : Spec.cutS (a ++ b) = Spec.cutS a := by
  induction a with
  | nil => simp at h
  | cons o t ih =>
    simp only [List.cons_append, cutS_cons]
    split
    · rfl
    · rename_i ho
      simp only [List.any_cons, ho, Bool.false_or] at h
      rw [ih h]

theorem any_isErr_cutS (a : List Spec.SOut) : (Spec.cutS a).any isErr = a.any isErr := by
  induction a with
  | nil => rfl
  | cons o t ih => rw [cutS_cons]; split <;> simp_all

theorem eq_of_cutS_eq {a b : List Spec.SOut} (h : Spec.cutS a = Spec.cutS b) (hb : b.any isErr = false) : a = b := by
  have ha : a.any isErr = false := by rw [← any_isErr_cutS, h, any_isErr_cutS]; exact hb
  rw [← cutS_of_noErr a ha, h, cutS_of_noErr b hb]

theorem cutS_idem (a : List Spec.SOut) : Spec.cutS (Spec.cutS a) = Spec.cutS a := by
  induction a with
  | nil => rfl
  | cons o t ih =>
    rw [cutS_cons]; split
    · rename_i h; rw [cutS_cons, h]; rfl
    · rename_i h; rw [cutS_cons]; simp [h, ih]

/-- streams that agree up to the first error still do with streams behind them that agree unless the first holds an
    error: the model stops at a raise, the Spec's streams run on and are cut once at the end -/
theorem cutS_append_congr {a a' b b' : List Spec.SOut} (ha : Spec.cutS a = Spec.cutS a')
    (hb : a'.any isErr = false → Spec.cutS b = Spec.cutS b') : Spec.cutS (a ++ b) = Spec.cutS (a' ++ b') := by
  cases h : a'.any isErr
  · rw [eq_of_cutS_eq ha h, cutS_append_noErr _ _ h, cutS_append_noErr _ _ h, hb h]
  · rw [cutS_append_err _ _ (by rw [← any_isErr_cutS, ha, any_isErr_cutS, h]), cutS_append_err _ _ h, ha]

theorem proj_cut (evs : List Event) : proj (cut evs) = Spec.cutS (proj evs) := by
  induction evs with
  | nil => rfl
  | cons e t ih =>
    by_cases h : e.isRaise = true
    · obtain ⟨x, hx⟩ := projEv_raise e h
      simp only [cut, h, ↓reduceIte, proj_cons, proj_nil, List.append_nil, hx, List.cons_append, List.nil_append,
        cutS_cons, isErr]
    · have h' : e.isRaise = false := by simpa using h
      simp only [cut, h', Bool.false_eq_true, ↓reduceIte, proj_cons, ih]
      rw [cutS_append_noErr _ _ (projEv_noRaise e h')]

/-- what stands behind a raise does not count -/
theorem cutS_proj_then (a b : List Event) :
    Spec.cutS (proj (if hasRaise a then a else a ++ b)) = Spec.cutS (proj a ++ proj b) := by
  split
  · rename_i h; rw [cutS_append_err _ _ (by rw [← hasRaise_eq_any_proj]; exact h)]
  · rw [proj_append]

/-! ## a good line: its kind, and what one loop iteration does with it -/

theorem kind_good {limit : Nat} {x : List Char} (g : GoodLine limit x) :
    Spec.classifyPhysical x =
      if Spec.isBlankLine x then .blank
      else if Spec.isCommentLine x then .comment
      else .data (Spec.startsInput x) (Spec.lineWords x) (Spec.endsAmp (Spec.dataPart x)) := by
  unfold Spec.classifyPhysical
  cases hb : Spec.isBlankLine x
  · cases hc : Spec.isCommentLine x
    · have hw := g.hasWords hb hc
      have : (Spec.splitWords (Spec.dataPart x)).isEmpty = false := by
        cases hs : Spec.splitWords (Spec.dataPart x) with
        | nil => exfalso; apply hw; unfold Spec.lineWords; simp [hs]
        | cons => rfl
      simp [this]
    · simp
  · simp

theorem stepData_good (cfg : Cfg) (st : LState) (x t : List Char) (g : GoodLine cfg.lineLength x) (ht : IsTerm t)
    (evs1 : List Event) (raw1 : List Str) :
    stepData cfg st (x ++ t) (Spec.isCommentLine x) evs1 raw1 =
      if hasRaise evs1 then (evs1, st)
      else (evs1, { st with continueInput := if Spec.isCommentLine x then st.continueInput else Spec.endsAmp (Spec.dataPart x),
                            hasNonComments := st.hasNonComments || !Spec.isCommentLine x,
                            raw := raw1 ++ [rstripB x] }) := by
  have hno : (hashFirst x && !Spec.isCommentLine x) = false := by rw [g.noVertical]; rfl
  rw [stepData, hash_agree x t g.onlyBlanks ht, hno, take_limit x t ht cfg.lineLength g.fits]
  simp only [rstrip_agree x t g.onlyBlanks ht, bne_self_eq_false, Bool.false_eq_true, ↓reduceIte, List.append_nil]
  cases hcm : Spec.isCommentLine x
  · simp only [continues_agree x t g.onlyBlanks ht (g.noAmpDollar hcm), Bool.false_eq_true, ↓reduceIte]
  · simp only [↓reduceIte]

theorem stepLine_good (cfg : Cfg) (st : LState) (x t : List Char) (g : GoodLine cfg.lineLength x) (ht : IsTerm t) :
    stepLine cfg st (x ++ t) =
      if Spec.isBlankLine x then
        ((flushBlock cfg st).1, { (flushBlock cfg st).2 with hasNonComments := false })
      else
        let c := Spec.isCommentLine x
        let new := Spec.startsInput x && !st.continueInput && !c && st.hasNonComments && !st.raw.isEmpty
        let evs1 := if new then flushInput cfg st.blockType st.raw else []
        let raw1 := if new then [] else st.raw
        if hasRaise evs1 then (evs1, st)
        else (evs1, { st with continueInput := if c then st.continueInput else Spec.endsAmp (Spec.dataPart x),
                              hasNonComments := st.hasNonComments || !c,
                              raw := raw1 ++ [rstripB x] }) := by
  rw [stepLine, expandtabs_good x t g.onlyBlanks ht, blank_agree x t g.onlyBlanks ht]
  cases hb : Spec.isBlankLine x
  · simp only [Bool.false_eq_true, ↓reduceIte]
    rw [startsNew, starts_agree x t g.onlyBlanks ht, comment_agree x t g.onlyBlanks ht]
    cases hnew : (Spec.startsInput x && !st.continueInput && !Spec.isCommentLine x && st.hasNonComments && !st.raw.isEmpty)
    · simp only [Bool.false_eq_true, ↓reduceIte, stepData_good cfg st x t g ht]
    · simp only [↓reduceIte, stepData_good cfg st x t g ht]
  · rfl

/-! ## stored lines and the read-card test (`flush_input`) -/

/-- a line as the model stores it in `input_raw_lines`: a good non-blank line without its trailing blanks -/
def Stored (limit : Nat) (r : Str) : Prop :=
  ∃ x, GoodLine limit x ∧ Spec.isBlankLine x = false ∧ r = rstripB x

theorem stored_of_good {limit : Nat} {x : List Char} (g : GoodLine limit x) (hb : Spec.isBlankLine x = false) :
    Stored limit (rstripB x) := ⟨x, g, hb, rfl⟩

theorem Stored.onlyBlanks {limit : Nat} {r : Str} (h : Stored limit r) : OnlyBlanks r := by
  obtain ⟨x, g, _, rfl⟩ := h; exact g.onlyBlanks.rstripB

theorem Stored.comment_eq {limit : Nat} {r : Str} (h : Stored limit r) : Reader.isComment r = Spec.isCommentLine r := by
  have := comment_agree r [] h.onlyBlanks (Or.inl rfl)
  simpa using this

theorem Stored.words_ne {limit : Nat} {r : Str} (h : Stored limit r) (hc : Spec.isCommentLine r = false) :
    Spec.lineWords r ≠ [] := by
  obtain ⟨x, g, hb, rfl⟩ := h
  rw [lineWords_rstripB]
  rw [isCommentLine_rstripB] at hc
  exact g.hasWords hb hc

theorem Stored.dollarSpaced {limit : Nat} {r : Str} (h : Stored limit r) (hc : Spec.isCommentLine r = false) :
    ∀ pre post, r = pre ++ '$' :: post → pre.contains '$' = false → pre = [] ∨ pre.getLast? = some ' ' := by
  obtain ⟨x, g, _, rfl⟩ := h
  intro pre post e hpre
  obtain ⟨k, hk⟩ := rstripB_decomp x
  rw [isCommentLine_rstripB] at hc
  apply g.dollarSpaced hc pre (post ++ List.replicate k ' ') _ hpre
  rw [hk, e]; simp

theorem Stored.head_word {limit : Nat} {r : Str} (h : Stored limit r) (hc : Spec.isCommentLine r = false) :
    (Reader.pySplit r).head? = (Spec.lineWords r).head? := by
  have hne := h.words_ne hc
  rw [splitWords_agree h.onlyBlanks]
  have hsplit := @List.takeWhile_append_dropWhile _ (fun c => decide (c ≠ '$')) r
  have hlw : (Spec.lineWords r).head? = (Spec.splitWords (Spec.dataPart r)).head? := by
    unfold Spec.lineWords at hne ⊢
    simp only at hne ⊢
    split
    · rename_i ha; simp only [ha, ↓reduceIte] at hne; exact head?_dropLast _ hne
    · rfl
  have hdne : Spec.splitWords (Spec.dataPart r) ≠ [] := by
    intro e; apply hne; unfold Spec.lineWords; simp [e]
  rw [hlw]
  cases hrest : r.dropWhile (fun c => decide (c ≠ '$')) with
  | nil =>
    have : Spec.dataPart r = r := by
      unfold Spec.dataPart; rw [hrest, List.append_nil] at hsplit; exact hsplit
    rw [this]
  | cons a post =>
    have ha : a = '$' := by
      have := head_dropWhile _ _ _ _ hrest; simpa using this
    subst ha
    have hr : r = Spec.dataPart r ++ '$' :: post := by
      unfold Spec.dataPart; rw [hrest] at hsplit; exact hsplit.symm
    have hnod : (Spec.dataPart r).contains '$' = false := by
      unfold Spec.dataPart
      rw [List.contains_eq_mem, decide_eq_false_iff_not]
      intro hm
      have := mem_takeWhile _ _ _ hm
      simp at this
    rcases h.dollarSpaced hc _ _ hr hnod with hnil | hlast
    · exfalso; apply hdne; rw [hnil]; rfl
    · conv => lhs; rw [hr]
      rw [SpecWords.splitWords_boundary _ _ hlast]
      cases hh : Spec.splitWords (Spec.dataPart r) with
      | nil => exact absurd hh hdne
      | cons => rfl

/-- what `flush_input` is called with when an input is complete: stored lines, one of them data -/
structure GoodGroup (limit : Nat) (raw : List Str) : Prop where
  stored : ∀ r ∈ raw, Stored limit r
  data : hasData raw = true

theorem raw_nonempty {limit : Nat} {raw : List Str} (gg : GoodGroup limit raw) : raw.isEmpty = false := by
  cases hr : raw with
  | nil => have := gg.data; rw [hr] at this; simp [hasData] at this
  | cons => rfl

theorem GoodGroup.snoc {limit : Nat} {raw : List Str} {r : Str} (hs : ∀ q ∈ raw, Stored limit q) (hr : Stored limit r)
    (hd : hasData raw = true ∨ Spec.isCommentLine r = false) : GoodGroup limit (raw ++ [r]) where
  stored := by
    intro q hq
    rcases List.mem_append.mp hq with h | h
    · exact hs q h
    · rw [List.mem_singleton.mp h]; exact hr
  data := by
    rw [hasData_append]
    rcases hd with h | h
    · rw [h]; rfl
    · simp [hasData, h]

theorem inputWordsM_eq {limit : Nat} {raw : List Str} (h : ∀ r ∈ raw, Stored limit r) :
    Reader.inputWordsM raw = wordsOf raw := by
  unfold Reader.inputWordsM wordsOf
  have hf : raw.filter (fun l => !Reader.isComment l) = raw.filter (fun r => !Spec.isCommentLine r) := by
    apply List.filter_congr
    intro r hr; rw [(h r hr).comment_eq]
  rw [hf]
  apply flatMap_congr'
  intro r hr
  exact lineWordsM_eq (h r (List.mem_filter.mp hr).1).onlyBlanks

theorem isReadInput_eq {limit : Nat} {raw : List Str} (h : ∀ r ∈ raw, Stored limit r) :
    Reader.isReadInput raw =
      match wordsOf raw with
      | [] => false
      | w :: _ => Spec.lowerEq w ['r', 'e', 'a', 'd'] := by
  unfold Reader.isReadInput wordsOf
  induction raw with
  | nil => rfl
  | cons r raw ih =>
    have hr := h r (by simp)
    have ht : ∀ r' ∈ raw, Stored limit r' := fun r' hr' => h r' (List.mem_cons_of_mem _ hr')
    simp only [List.find?_cons, List.filter_cons, hr.comment_eq]
    cases hc : Spec.isCommentLine r
    · simp only [Bool.not_false, ↓reduceIte, List.flatMap_cons]
      have hhead := hr.head_word hc
      have hne := hr.words_ne hc
      cases hw : Spec.lineWords r with
      | nil => exact absurd hw hne
      | cons w ws =>
        rw [hw] at hhead
        cases hp : Reader.pySplit r with
        | nil => rw [hp] at hhead; simp at hhead
        | cons w' ws' =>
          rw [hp] at hhead; simp at hhead; subst hhead
          simp [lower_beq]
    · simp only [Bool.not_true, Bool.false_eq_true, ↓reduceIte]
      exact ih ht

theorem mem_wordsOf {limit : Nat} {raw : List Str} (h : ∀ r ∈ raw, Stored limit r) :
    ∀ w ∈ wordsOf raw, OnlyBlanks w := by
  intro w hw
  unfold wordsOf at hw
  obtain ⟨r, hr, hwr⟩ := List.mem_flatMap.mp hw
  have hs := (h r (List.mem_filter.mp hr).1).onlyBlanks
  exact fun c hc => hs c (mem_lineWords r w hwr c hc)

theorem flushInput_good {limit : Nat} (cfg : Cfg) (bt : BlockType) (raw : List Str) (g : GoodGroup limit raw) :
    proj (flushInput cfg bt raw) = [Spec.outOf (joinPath cfg.topDir) cfg.chain ⟨bt.value, wordsOf raw⟩] := by
  unfold flushInput Spec.outOf
  rw [isReadInput_eq g.stored]
  unfold Reader.parseRead
  rw [inputWordsM_eq g.stored]
  unfold Spec.cardOf
  have hwords := mem_wordsOf g.stored
  cases hw : wordsOf raw with
  | nil => simp [proj, projEv, g.data, hw]
  | cons w rest =>
    simp only
    cases hread : Spec.lowerEq w ['r', 'e', 'a', 'd']
    · simp [proj, projEv, g.data, hw]
    · simp only [↓reduceIte]
      have hrest : rest.flatMap Reader.splitEqM = rest.flatMap Spec.splitEq := by
        apply flatMap_congr'
        intro v hv
        exact splitEqM_eq (hwords v (by rw [hw]; exact List.mem_cons_of_mem _ hv))
      rw [hrest]
      generalize rest.flatMap Spec.splitEq = L
      rcases L with _ | ⟨f, _ | ⟨n, _ | ⟨_, _⟩⟩⟩
      · rfl
      · rfl
      · simp only [lower_beq]
        cases hf : Spec.lowerEq f ['f', 'i', 'l', 'e']
        · rfl
        · simp only [↓reduceIte]
          cases hcy : cfg.chain.contains (joinPath cfg.topDir n) <;> rfl
      · rfl

theorem flushInput_comments {limit : Nat} (cfg : Cfg) (bt : BlockType) (raw : List Str)
    (h : ∀ r ∈ raw, Stored limit r ∧ Spec.isCommentLine r = true) : proj (flushInput cfg bt raw) = [] := by
  unfold flushInput
  rw [isReadInput_eq (fun r hr => (h r hr).1), wordsOf_comments raw (fun r hr => (h r hr).2)]
  simp [proj, projEv, hasData_comments raw (fun r hr => (h r hr).2)]

/-! ## the simulation -/

theorem value_ofValue (n : Nat) (h : n < 3) : (BlockType.ofValue n).value = n := by
  match n, h with
  | 0, _ => rfl
  | 1, _ => rfl
  | 2, _ => rfl

theorem value_lt (b : BlockType) : b.value < 3 := by cases b <;> decide

/-- model state `st` and Spec state `s` describe the same point of the same file -/
structure Rel (limit : Nat) (cfg : Cfg) (st : LState) (s : Spec.St) : Prop where
  blockLt : s.block < 3 → s.block = cfg.firstBlock.value + st.blockCounter ∧ st.blockType.value = s.block
  blockGe : s.block ≥ 3 → cfg.firstBlock.value + st.blockCounter ≥ 3 ∧ s.cur = none
  curNone : s.cur = none → st.hasNonComments = false ∧ ∀ r ∈ st.raw, Stored limit r ∧ Spec.isCommentLine r = true
  curSome : ∀ ws, s.cur = some ws → s.block < 3 ∧ st.hasNonComments = true ∧ wordsOf st.raw = ws ∧
    st.continueInput = s.amp ∧ GoodGroup limit st.raw

theorem Rel.idle {limit : Nat} {cfg : Cfg} {st : LState} {s : Spec.St} (hcur : s.cur = none)
    (hnc : st.hasNonComments = false) (hraw : st.raw = [])
    (hlt : s.block < 3 → s.block = cfg.firstBlock.value + st.blockCounter ∧ st.blockType.value = s.block)
    (hge : s.block ≥ 3 → cfg.firstBlock.value + st.blockCounter ≥ 3) : Rel limit cfg st s where
  blockLt := hlt
  blockGe := fun h => ⟨hge h, hcur⟩
  curNone := fun _ => ⟨hnc, fun r hr => by rw [hraw] at hr; nomatch hr⟩
  curSome := fun ws h => by rw [hcur] at h; nomatch h

theorem Rel.data {limit : Nat} {cfg : Cfg} {st : LState} {s : Spec.St} (R : Rel limit cfg st s) (hlt : s.block < 3)
    (raw : List Str) (ws : List Spec.Word) (a : Bool) (hw : wordsOf raw = ws) (gg : GoodGroup limit raw) :
    Rel limit cfg { st with continueInput := a, hasNonComments := true, raw := raw } { s with cur := some ws, amp := a } where
  blockLt := fun _ => R.blockLt hlt
  blockGe := fun h => absurd hlt (Nat.not_lt.mpr h)
  curNone := nofun
  curSome := fun _ h => Option.some.inj h ▸ ⟨hlt, rfl, hw, rfl, gg⟩

abbrev O (cfg : Cfg) : Spec.Inp → Spec.SOut := Spec.outOf (joinPath cfg.topDir) cfg.chain

theorem close_idle {s : Spec.St} (h : s.cur = none) : Spec.close s = [] := by
  unfold Spec.close; rw [h]

theorem flush_rel {limit : Nat} (cfg : Cfg) (st : LState) (s : Spec.St) (R : Rel limit cfg st s) :
    proj (flushBlock cfg st).1 = (Spec.close s).map (O cfg) := by
  unfold flushBlock Spec.close
  simp only
  cases hc : s.cur with
  | none =>
    split
    · rfl
    · exact flushInput_comments cfg st.blockType st.raw (R.curNone hc).2
  | some ws =>
    obtain ⟨hlt, _, hw, _, gg⟩ := R.curSome ws hc
    simp only [raw_nonempty gg, Bool.false_eq_true, ↓reduceIte, hlt, List.map_cons, List.map_nil]
    rw [flushInput_good cfg st.blockType st.raw gg, (R.blockLt hlt).2, hw]

/-- what is shown of one line, for the results `m` of the model step and `p` of the Spec step -/
def StepOK (limit : Nat) (cfg : Cfg) (m : List Event × LState) (p : List Spec.Inp × Spec.St) : Prop :=
  proj m.1 = p.1.map (O cfg) ∧ (hasRaise m.1 = false → Rel limit cfg m.2 p.2)

theorem stepOK_silent {limit : Nat} (cfg : Cfg) (st' : LState) (s' : Spec.St) (R' : Rel limit cfg st' s') :
    StepOK limit cfg ([], st') ([], s') := ⟨rfl, fun _ => R'⟩

theorem step_data (cfg : Cfg) (st : LState) (s : Spec.St)
    (R : Rel cfg.lineLength cfg st s) (x t : List Char) (g : GoodLine cfg.lineLength x) (ht : IsTerm t)
    (hb : Spec.isBlankLine x = false) (hc : Spec.isCommentLine x = false) (hlt : s.block < 3) :
    StepOK cfg.lineLength cfg (stepLine cfg st (x ++ t))
      (Spec.step s (.data (Spec.startsInput x) (Spec.lineWords x) (Spec.endsAmp (Spec.dataPart x)))) := by
  have hstored := stored_of_good g hb
  have hnc : Spec.isCommentLine (rstripB x) = false := by rw [isCommentLine_rstripB]; exact hc
  have hwr : wordsOf [rstripB x] = Spec.lineWords x := by
    rw [wordsOf_single, hnc, lineWords_rstripB]; rfl
  rw [stepLine_good cfg st x t g ht, Layout.step_data s hlt]
  simp only [hb, hc, Bool.false_eq_true, ↓reduceIte, Bool.not_false, Bool.and_true, Bool.or_true, Layout.openWith]
  cases hcur : s.cur with
  | none =>
    obtain ⟨hhn, hraw⟩ := R.curNone hcur
    simp only [hhn, Bool.and_false, Bool.false_and, Bool.false_eq_true, ↓reduceIte, hasRaise_nil]
    refine stepOK_silent cfg _ _ (R.data hlt _ _ _ ?_ (.snoc (fun r hr => (hraw r hr).1) hstored (.inr hnc)))
    rw [wordsOf_append, wordsOf_comments _ (fun r hr => (hraw r hr).2), hwr]
  | some cw =>
    obtain ⟨_, hhn, hw, hci, gg⟩ := R.curSome cw hcur
    simp only [hhn, raw_nonempty gg, Bool.not_false, Bool.and_true, hci]
    cases hnew : (Spec.startsInput x && !s.amp)
    · -- a continuation line
      simp only [Bool.false_eq_true, ↓reduceIte, hasRaise_nil]
      refine stepOK_silent cfg _ _ (R.data hlt _ _ _ ?_ (.snoc gg.stored hstored (.inl gg.data)))
      rw [wordsOf_append, hw, hwr]
    · -- a new input begins: the open one is flushed
      have hf := flushInput_good cfg st.blockType st.raw gg
      rw [(R.blockLt hlt).2, hw] at hf
      simp only [↓reduceIte]
      cases hnr : hasRaise (flushInput cfg st.blockType st.raw)
      · simp only [Bool.false_eq_true, ↓reduceIte]
        exact ⟨hf, fun _ => R.data hlt _ _ _ hwr (.snoc (by simp) hstored (.inr hnc))⟩
      · simp only [↓reduceIte]
        exact ⟨hf, fun h => absurd (hnr ▸ h) (by decide)⟩

theorem step_comment (cfg : Cfg) (st : LState) (s : Spec.St)
    (R : Rel cfg.lineLength cfg st s) (x t : List Char) (g : GoodLine cfg.lineLength x) (ht : IsTerm t)
    (hb : Spec.isBlankLine x = false) (hc : Spec.isCommentLine x = true) :
    StepOK cfg.lineLength cfg (stepLine cfg st (x ++ t)) (Spec.step s .comment) := by
  have hstored := stored_of_good g hb
  have hcr : Spec.isCommentLine (rstripB x) = true := by rw [isCommentLine_rstripB]; exact hc
  rw [Layout.step_comment, stepLine_good cfg st x t g ht]
  simp only [hb, hc, Bool.false_eq_true, ↓reduceIte, Bool.not_true, Bool.and_false, Bool.false_and, hasRaise_nil,
    Bool.or_false]
  apply stepOK_silent
  constructor
  · exact R.blockLt
  · exact R.blockGe
  · intro hcur
    obtain ⟨hhn, hraw⟩ := R.curNone hcur
    refine ⟨hhn, ?_⟩
    intro r hr
    rcases List.mem_append.mp hr with h | h
    · exact hraw r h
    · rw [List.mem_singleton.mp h]; exact ⟨hstored, hcr⟩
  · intro ws hcur
    obtain ⟨hlt, hhn, hw, hci, gg⟩ := R.curSome ws hcur
    refine ⟨hlt, hhn, ?_, hci, .snoc gg.stored hstored (.inl gg.data)⟩
    show wordsOf (st.raw ++ [rstripB x]) = _
    rw [wordsOf_append, hw, wordsOf_single, hcr]; simp

theorem step_blank (cfg : Cfg) (st : LState) (s : Spec.St)
    (R : Rel cfg.lineLength cfg st s) (x t : List Char) (g : GoodLine cfg.lineLength x) (ht : IsTerm t)
    (hb : Spec.isBlankLine x = true) (hlt : s.block < 3) :
    StepOK cfg.lineLength cfg (stepLine cfg st (x ++ t)) (Spec.step s .blank) := by
  rw [stepLine_good cfg st x t g ht]
  simp only [hb, ↓reduceIte]
  have hfl := flush_rel cfg st s R
  have hbl := (R.blockLt hlt).1
  have hge : ¬ s.block ≥ 3 := Nat.not_le.mpr hlt
  have hS : Spec.step s .blank = (Spec.close s, { block := s.block + 1, cur := none, amp := false }) := by
    unfold Spec.step; simp only [hge, ↓reduceIte]
  rw [hS]
  refine ⟨hfl, fun _ => .idle rfl rfl rfl (fun h => ?_) fun h => ?_⟩
  · -- the next block begins: `flush_block` moves on to its type
    have h' : s.block + 1 < 3 := h
    have h3 : cfg.firstBlock.value + (st.blockCounter + 1) < 3 := by omega
    refine ⟨show s.block + 1 = cfg.firstBlock.value + (st.blockCounter + 1) by omega, ?_⟩
    show (if cfg.firstBlock.value + (st.blockCounter + 1) < 3 then BlockType.ofValue (cfg.firstBlock.value + (st.blockCounter + 1))
      else st.blockType).value = s.block + 1
    rw [if_pos h3, value_ofValue _ h3]; omega
  · have h' : s.block + 1 ≥ 3 := h
    show cfg.firstBlock.value + (st.blockCounter + 1) ≥ 3
    omega

theorem step_rel (cfg : Cfg) (st : LState) (s : Spec.St)
    (R : Rel cfg.lineLength cfg st s) (x t : List Char) (g : GoodLine cfg.lineLength x) (ht : IsTerm t)
    (hlt : s.block < 3) :
    StepOK cfg.lineLength cfg (stepLine cfg st (x ++ t)) (Spec.step s (Spec.classifyPhysical x)) := by
  rw [kind_good g]
  cases hb : Spec.isBlankLine x
  · cases hc : Spec.isCommentLine x
    · exact step_data cfg st s R x t g ht hb hc hlt
    · exact step_comment cfg st s R x t g ht hb hc
  · exact step_blank cfg st s R x t g ht hb hlt

theorem step_keeps_block (s : Spec.St) (k : Spec.Kind) (hk : k ≠ .blank) : (Spec.step s k).2.block = s.block := by
  unfold Spec.step
  by_cases hb : s.block ≥ 3
  · simp [hb]
  · simp only [hb, ↓reduceIte]
    cases k with
    | blank => exact absurd rfl hk
    | comment => rfl
    | data col ws amp =>
      cases s.cur with
      | none => rfl
      | some cw => simp only; split <;> rfl

theorem run_done (s : Spec.St) (hb : s.block ≥ 3) (hc : s.cur = none) (ks : List Spec.Kind) : Spec.run s ks = [] := by
  induction ks with
  | nil => simp [Spec.run, Spec.close, hc]
  | cons k ks ih =>
    have : Spec.step s k = ([], s) := by unfold Spec.step; simp [hb]
    simp only [Spec.run, this, List.nil_append]
    exact ih

theorem Rel.done_iff {limit : Nat} {cfg : Cfg} {st : LState} {s : Spec.St} (R : Rel limit cfg st s) :
    cfg.firstBlock.value + st.blockCounter ≥ 3 ↔ s.block ≥ 3 :=
  ⟨fun h => Nat.le_of_not_lt fun hlt => (by have := (R.blockLt hlt).1; omega), fun h => (R.blockGe h).1⟩

theorem stopsAfter_iff {limit : Nat} {cfg : Cfg} {st' : LState} {s : Spec.St} {x t : List Char}
    (g : GoodLine limit x) (ht : IsTerm t) (hlt : s.block < 3)
    (R' : Rel limit cfg st' (Spec.step s (Spec.classifyPhysical x)).2) :
    stopsAfter cfg (x ++ t) st' = true ↔ (Spec.step s (Spec.classifyPhysical x)).2.block ≥ 3 := by
  unfold stopsAfter
  rw [expandtabs_good x t g.onlyBlanks ht, blank_agree x t g.onlyBlanks ht, Bool.and_eq_true, decide_eq_true_eq,
    R'.done_iff]
  cases hb : Spec.isBlankLine x
  · have hk : Spec.classifyPhysical x ≠ .blank := by
      rw [kind_good g, hb]
      simp only [Bool.false_eq_true, ↓reduceIte]
      split <;> nofun
    rw [step_keeps_block s _ hk]
    exact ⟨fun h => Bool.noConfusion h.1, fun h => absurd hlt (Nat.not_lt.mpr h)⟩
  · exact ⟨fun h => h.2, fun h => ⟨rfl, h⟩⟩

/-- the simulation: from related states (`Rel`) in front of the end of the data block, what the model emits on good
    lines projects to the Spec's run over the kinds of those lines, up to the first error.  Lines may follow the blank
    line that ends the data block: the code stops reading there (fixes c74af97, fec410e) and the Spec ignores them -/
theorem sim (cfg : Cfg) (ms : List (List Char × List Char)) :
    ∀ (st : LState) (s : Spec.St), Rel cfg.lineLength cfg st s → s.block < 3 →
      (∀ p ∈ ms, GoodLine cfg.lineLength p.1 ∧ IsTerm p.2) →
      Spec.cutS (proj (goLines cfg st (ms.map (fun p => p.1 ++ p.2)))) =
        Spec.cutS ((Spec.run s (ms.map (fun p => Spec.classifyPhysical p.1))).map (O cfg)) := by
  induction ms with
  | nil => intro st s R _ _; rw [List.map_nil, goLines, flush_rel cfg st s R]; rfl
  | cons p ms ih =>
    intro st s R hlt hgood
    obtain ⟨g, ht⟩ := hgood p (by simp)
    obtain ⟨hproj, hrel⟩ := step_rel cfg st s R p.1 p.2 g ht hlt
    rw [List.map_cons, List.map_cons, goLines_step, Spec.run, List.map_append, cutS_proj_then, hproj]
    -- behind an error of this line nothing counts on either side
    refine cutS_append_congr rfl fun hne => ?_
    have R' := hrel (by rw [hasRaise_eq_any_proj, hproj]; exact hne)
    have hdone := stopsAfter_iff g ht hlt R'
    split
    · -- `break`: the blank line that ends the data block
      rename_i hstop
      have hcur := (R'.blockGe (hdone.mp hstop)).2
      rw [flush_rel cfg _ _ R', close_idle hcur, run_done _ (hdone.mp hstop) hcur]
    · -- the loop goes on: the Spec is still in front of the end of the data block
      rename_i hstop
      exact ih _ _ R' (Nat.lt_of_not_le fun hge => hstop (hdone.mpr hge))
        (fun q hq => hgood q (List.mem_cons_of_mem _ hq))

theorem rel_init {limit : Nat} (cfg : Cfg) : Rel limit cfg (initState cfg) ⟨cfg.firstBlock.value, none, false⟩ :=
  .idle rfl rfl rfl (fun _ => ⟨rfl, rfl⟩) fun h => absurd (value_lt cfg.firstBlock) (Nat.not_lt.mpr h)

theorem readData_refines (cfg : Cfg) (ms : List (List Char × List Char))
    (hgood : ∀ p ∈ ms, GoodLine cfg.lineLength p.1 ∧ IsTerm p.2) :
    proj (readData cfg (ms.map (fun p => p.1 ++ p.2))) =
      Spec.cutS ((Spec.run ⟨cfg.firstBlock.value, none, false⟩ (ms.map (fun p => Spec.classifyPhysical p.1))).map (O cfg)) := by
  -- the reader itself stops at its first raise
  rw [← cut_readData, proj_cut]
  exact sim cfg ms _ _ (rel_init cfg) (value_lt _) hgood

end MontePyVerif.Refine
