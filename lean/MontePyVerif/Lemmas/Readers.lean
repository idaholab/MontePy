import MontePyVerif.Lemmas.Dec
import MontePyVerif.Lemmas.Text

/-! # Both readers on every spelling of a real number (lemmas for C05)

A `Spelling` is the structured form of a decimal literal: sign, integer digits, point, fraction digits, exponent with
or without letter.  It covers the `Real` rule of DESIGN.md §5.2 (`IsGReal`) and every text the formatter lays out.
The Spec's reader is followed through a spelling in four legs: sign, significand (`MantDone`), head of the exponent
(letter, sign), exponent digits (`spec_run_spelling`).  The model's `fortranFloat` is Python's `float()` automaton, then
`re.sub` inserting the `E`.  `float()` is not followed a second time: under `toN` its step is the Spec reader's except on
a blank, on `d`/`D` and on a sign right behind the significand (`nstep_toN`), so on a spelling whose exponent has its
letter it reads what the Spec reads; a spelling without the letter it rejects, and `insertE` gives it the letter. -/
namespace MontePyVerif.C05
open MontePyVerif.ValueFormat MontePyVerif.Spec

structure ExpSp where
  letter : Text
  sign : Text
  digits : Text

structure Spelling where
  sign : Text
  ip : Text
  dot : Bool
  fp : Text
  ex : Option ExpSp

def IsSignText (s : Text) : Prop := s = [] ∨ s = ['+'] ∨ s = ['-']

structure ExpSp.WF (x : ExpSp) : Prop where
  letter : x.letter = [] ∨ x.letter = ['e'] ∨ x.letter = ['E']
  sign : IsSignText x.sign
  digits : AllDigits x.digits
  ne : x.digits ≠ []
  /-- an exponent without letter needs its sign (`1.5-3`) -/
  signed : x.letter = [] → x.sign ≠ []

structure Spelling.WF (sp : Spelling) : Prop where
  sign : IsSignText sp.sign
  ip : AllDigits sp.ip
  fp : AllDigits sp.fp
  some_digit : sp.ip ≠ [] ∨ sp.fp ≠ []
  nodot : sp.dot = false → sp.fp = []
  ex : ∀ x, sp.ex = some x → x.WF

/-- the `Real` rule of DESIGN.md §5.2: at most three exponent digits; an exponent without letter needs a point -/
structure Spelling.IsGReal (sp : Spelling) : Prop where
  wf : sp.WF
  exp : ∀ x, sp.ex = some x → x.digits.length ≤ 3 ∧ (x.letter = [] → sp.dot = true)

def ExpSp.text (x : ExpSp) : Text := x.letter ++ x.sign ++ x.digits
def Spelling.mantText (sp : Spelling) : Text := sp.sign ++ sp.ip ++ (if sp.dot then '.' :: sp.fp else [])
def Spelling.exText (sp : Spelling) : Text := match sp.ex with | none => [] | some x => x.text
def Spelling.text (sp : Spelling) : Text := sp.mantText ++ sp.exText

def negOf (s : Text) : Bool := decide (s = ['-'])
def ExpSp.value (x : ExpSp) : Int :=
  if negOf x.sign then -((Nat.ofDigitChars 10 x.digits 0 : Nat) : Int) else ((Nat.ofDigitChars 10 x.digits 0 : Nat) : Int)
def Spelling.expValue (sp : Spelling) : Int := match sp.ex with | none => 0 | some x => x.value
def Spelling.mant (sp : Spelling) : Nat := Nat.ofDigitChars 10 (sp.ip ++ sp.fp) 0
def Spelling.value (sp : Spelling) : ℚ :=
  sgnQ (negOf sp.sign) * ((sp.mant : ℚ) * (10 : ℚ) ^ (sp.expValue - (sp.fp.length : Int)))

theorem Spelling.WF.ip_ne_nil {sp : Spelling} (wf : sp.WF) (h : sp.dot = false) : sp.ip ≠ [] :=
  wf.some_digit.resolve_right (fun hfp => hfp (wf.nodot h))

theorem Spelling.WF.length_pos {sp : Spelling} (wf : sp.WF) : sp.ip.length + sp.fp.length ≠ 0 := by
  rcases wf.some_digit with h | h <;> have := List.length_pos_iff.mpr h <;> omega

theorem IsSignText.cases {s : Text} (h : IsSignText s) :
    s = [] ∨ ∃ c, s = [c] ∧ (c = '+' ∨ c = '-') ∧ negOf s = decide (c = '-') := by
  rcases h with rfl | rfl | rfl
  · exact Or.inl rfl
  · exact Or.inr ⟨'+', rfl, Or.inl rfl, rfl⟩
  · exact Or.inr ⟨'-', rfl, Or.inr rfl, rfl⟩

theorem ExpSp.WF.letter_cases {x : ExpSp} (wf : x.WF) : x.letter = [] ∨ ∃ c, x.letter = [c] ∧ (c = 'e' ∨ c = 'E') := by
  rcases wf.letter with h | h | h
  · exact Or.inl h
  · exact Or.inr ⟨'e', h, Or.inl rfl⟩
  · exact Or.inr ⟨'E', h, Or.inr rfl⟩

theorem ExpSp.WF.sign_of_noletter {x : ExpSp} (wf : x.WF) (hl : x.letter = []) :
    ∃ c, x.sign = [c] ∧ (c = '+' ∨ c = '-') :=
  wf.sign.cases.elim (fun h => absurd h (wf.signed hl)) (fun ⟨c, h, hc, _⟩ => ⟨c, h, hc⟩)

def Spelling.mantDigits (sp : Spelling) : Text := sp.ip ++ (if sp.dot then '.' :: sp.fp else [])

theorem Spelling.WF.mantDigits_ne_nil {sp : Spelling} (wf : sp.WF) : sp.mantDigits ≠ [] := by
  unfold Spelling.mantDigits
  cases hd : sp.dot
  · simpa using wf.ip_ne_nil hd
  · simp

theorem Spelling.mantText_eq (sp : Spelling) : sp.mantText = sp.sign ++ sp.mantDigits :=
  List.append_assoc _ _ _

/-! ## a spelling is one word -/

theorem wordChar_of_mem (c : Char) (h : c = '+' ∨ c = '-' ∨ c = '.' ∨ c = 'e' ∨ c = 'E') : WordChar c := by
  rcases h with rfl | rfl | rfl | rfl | rfl <;> exact ⟨by decide, by decide, by decide, by decide⟩

theorem IsSignText.wordChars {s : Text} (h : IsSignText s) : ∀ c ∈ s, WordChar c := by
  rcases h.cases with rfl | ⟨c, rfl, hc, _⟩
  · intro c hc; cases hc
  · exact List.forall_mem_singleton.mpr (wordChar_of_mem c (hc.elim Or.inl (fun h => Or.inr (Or.inl h))))

theorem ExpSp.WF.wordChars {x : ExpSp} (wf : x.WF) : ∀ c ∈ x.text, WordChar c := by
  refine List.forall_mem_append.mpr ⟨List.forall_mem_append.mpr ⟨?_, wf.sign.wordChars⟩, wf.digits.wordChars⟩
  rcases wf.letter_cases with h | ⟨c, h, hc⟩ <;> rw [h]
  · intro c hc; cases hc
  · exact List.forall_mem_singleton.mpr (wordChar_of_mem c (Or.inr (Or.inr (Or.inr hc))))

theorem spelling_wordChars (sp : Spelling) (wf : sp.WF) : ∀ c ∈ sp.text, WordChar c := by
  refine List.forall_mem_append.mpr ⟨List.forall_mem_append.mpr
    ⟨List.forall_mem_append.mpr ⟨wf.sign.wordChars, wf.ip.wordChars⟩, ?_⟩, ?_⟩
  · cases sp.dot
    · intro c hc; cases hc
    · exact List.forall_mem_cons.mpr ⟨wordChar_of_mem _ (Or.inr (Or.inr (Or.inl rfl))), wf.fp.wordChars⟩
  · unfold Spelling.exText
    cases hx : sp.ex with
    | none => intro c hc; cases hc
    | some x => exact (wf.ex x hx).wordChars

theorem spelling_ne_nil (sp : Spelling) (wf : sp.WF) : sp.text ≠ [] := by
  unfold Spelling.text
  rw [sp.mantText_eq]
  exact List.append_ne_nil_of_left_ne_nil (List.append_ne_nil_of_right_ne_nil _ wf.mantDigits_ne_nil) _

theorem firstWord_spelling (sp : Spelling) (wf : sp.WF) (i : Nat) (tail : Text) (ht : tail = [] ∨ StartsSep tail) :
    firstWord (List.replicate i ' ' ++ sp.text ++ tail) = sp.text :=
  firstWord_word i sp.text tail (spelling_wordChars sp wf) (spelling_ne_nil sp wf) ht

/-! ## the Spec reader -/

theorem tenPow_eq (k : Int) : tenPow k = (10 : ℚ) ^ k := by
  unfold tenPow
  split
  · rename_i h
    obtain ⟨n, rfl⟩ := Int.eq_ofNat_of_zero_le h
    simp
  · rename_i h
    obtain ⟨n, rfl⟩ : ∃ n : Nat, k = -(n : Int) := ⟨(-k).toNat, by omega⟩
    simp [zpow_neg]

theorem NSt.value_eq (s : NSt) (h : (s.ph = .int ∨ s.ph = .frac) ∧ s.digits ≠ 0 ∨ s.ph = .exp) :
    s.value = some (sgnQ s.neg *
      ((s.mant : ℚ) * (10 : ℚ) ^ ((if s.eneg then -(s.ex : Int) else (s.ex : Int)) - (s.scale : Int)))) := by
  rw [sgnQ_mul]
  unfold NSt.value
  simp only [tenPow_eq]
  rcases h with ⟨h | h, hd⟩ | h <;> simp [*]

theorem nstep_digit_int (s : NSt) (c : Char) (hc : c.isDigit = true)
    (hp : s.ph = .start ∨ s.ph = .signed ∨ s.ph = .int) :
    nstep s c = { s with ph := .int, mant := 10 * s.mant + (c.toNat - 48), digits := s.digits + 1 } := by
  unfold nstep
  rw [if_pos hc]
  rcases hp with h | h | h <;> simp only [h]

theorem run_digits_int : ∀ (ds : List Char) (s : NSt), AllDigits ds → (s.ph = .start ∨ s.ph = .signed ∨ s.ph = .int) →
    ds.foldl nstep s = { s with ph := if ds = [] then s.ph else .int, mant := Nat.ofDigitChars 10 ds s.mant,
                                digits := s.digits + ds.length }
  | [], _, _, _ => rfl
  | c :: r, s, hd, hp => by
    rw [List.foldl_cons, nstep_digit_int s c (hd c List.mem_cons_self) hp,
      run_digits_int r _ (fun x hx => hd x (List.mem_cons_of_mem _ hx)) (Or.inr (Or.inr rfl))]
    simp only [ite_self, Nat.ofDigitChars_cons, List.length_cons, Nat.add_assoc, Nat.add_comm 1, reduceCtorEq, if_false]
    rfl

theorem nstep_digit_frac (s : NSt) (c : Char) (hc : c.isDigit = true) (hp : s.ph = .frac) :
    nstep s c = { s with mant := 10 * s.mant + (c.toNat - 48), scale := s.scale + 1, digits := s.digits + 1 } := by
  unfold nstep
  rw [if_pos hc]
  simp only [hp]

theorem run_digits_frac : ∀ (ds : List Char) (s : NSt), AllDigits ds → s.ph = .frac →
    ds.foldl nstep s = { s with mant := Nat.ofDigitChars 10 ds s.mant, scale := s.scale + ds.length, digits := s.digits + ds.length }
  | [], _, _, _ => rfl
  | c :: r, s, hd, hp => by
    rw [List.foldl_cons, nstep_digit_frac s c (hd c List.mem_cons_self) hp,
      run_digits_frac r { s with mant := 10 * s.mant + (c.toNat - 48), scale := s.scale + 1, digits := s.digits + 1 }
        (fun x hx => hd x (List.mem_cons_of_mem _ hx)) hp]
    simp only [Nat.ofDigitChars_cons, List.length_cons, Nat.add_assoc, Nat.add_comm 1]
    rfl

theorem nstep_digit_exp (s : NSt) (c : Char) (hc : c.isDigit = true)
    (hp : s.ph = .expLetter ∨ s.ph = .expSigned ∨ s.ph = .exp) :
    nstep s c = { s with ph := .exp, ex := 10 * s.ex + (c.toNat - 48) } := by
  unfold nstep
  rw [if_pos hc]
  rcases hp with h | h | h <;> simp only [h]

theorem run_digits_exp (ds : List Char) : ∀ (s : NSt), AllDigits ds → ds ≠ [] →
    (s.ph = .expLetter ∨ s.ph = .expSigned ∨ s.ph = .exp) →
    ds.foldl nstep s = { s with ph := .exp, ex := Nat.ofDigitChars 10 ds s.ex } := by
  induction ds with
  | nil => intro _ _ hne; exact absurd rfl hne
  | cons c r ih =>
    intro s hd _ hp
    rw [List.foldl_cons, nstep_digit_exp s c (hd c List.mem_cons_self) hp]
    cases r with
    | nil => rfl
    | cons c' r =>
      rw [ih _ (fun x hx => hd x (List.mem_cons_of_mem _ hx)) (List.cons_ne_nil _ _) (Or.inr (Or.inr rfl))]
      rfl

theorem nstep_dot (s : NSt) (hp : s.ph = .start ∨ s.ph = .signed ∨ s.ph = .int) : nstep s '.' = { s with ph := .frac } := by
  cases s
  rcases hp with h | h | h <;> cases h <;> rfl

theorem nrun_sign (sg : Text) (hs : IsSignText sg) :
    sg.foldl nstep {} = { ph := if sg = [] then .start else .signed, neg := negOf sg } := by
  rcases hs with rfl | rfl | rfl <;> rfl

/-- the reader has consumed a complete significand `[sign] digits [. digits]` -/
structure MantDone (s : NSt) (neg : Bool) (m f : Nat) : Prop where
  ph : s.ph = .int ∨ s.ph = .frac
  neg : s.neg = neg
  mant : s.mant = m
  scale : s.scale = f
  digits : s.digits ≠ 0
  eneg : s.eneg = false
  ex : s.ex = 0

theorem spec_mant_done (sp : Spelling) (wf : sp.WF) :
    MantDone (List.foldl nstep {} sp.mantText) (negOf sp.sign) sp.mant sp.fp.length := by
  have hp1 : ∀ p : NPh, p = .start ∨ p = .signed →
      (if sp.ip = [] then p else .int) = .start ∨ (if sp.ip = [] then p else .int) = .signed ∨
        (if sp.ip = [] then p else NPh.int) = .int := by
    intro p hp; split
    · exact hp.elim Or.inl (fun h => Or.inr (Or.inl h))
    · exact Or.inr (Or.inr rfl)
  unfold Spelling.mantText Spelling.mant
  rw [List.foldl_append, List.foldl_append, nrun_sign _ wf.sign,
    run_digits_int sp.ip _ wf.ip (by split <;> simp)]
  cases hdot : sp.dot with
  | false =>
    rw [wf.nodot hdot, List.append_nil]
    exact ⟨Or.inl (if_neg (wf.ip_ne_nil hdot)), rfl, rfl, rfl,
      by simpa using wf.ip_ne_nil hdot, rfl, rfl⟩
  | true =>
    rw [if_pos rfl, List.foldl_cons, nstep_dot _ (hp1 _ (by split <;> simp)), run_digits_frac sp.fp _ wf.fp rfl]
    exact ⟨Or.inr rfl, rfl, (Nat.ofDigitChars_append _).symm, Nat.zero_add _,
      by simpa [Nat.add_assoc] using wf.length_pos, rfl, rfl⟩

theorem nstep_letter (s : NSt) (hp : s.ph = .int ∨ s.ph = .frac) (hd : s.digits ≠ 0) (c : Char) (hc : c = 'e' ∨ c = 'E') :
    nstep s c = { s with ph := .expLetter } := by
  cases s
  rcases hc with rfl | rfl <;> rcases hp with h | h <;> cases h <;> exact if_neg hd

theorem nstep_expSign (s : NSt) (hp : s.ph = .expLetter ∨ (s.ph = .int ∨ s.ph = .frac) ∧ s.digits ≠ 0)
    (c : Char) (hc : c = '+' ∨ c = '-') :
    nstep s c = { s with ph := .expSigned, eneg := decide (c = '-') } := by
  cases s
  rcases hc with rfl | rfl <;> rcases hp with h | ⟨h | h, hd⟩ <;> cases h <;> first | rfl | exact if_neg hd

theorem nrun_expHead (s : NSt) (hp : s.ph = .int ∨ s.ph = .frac) (hd : s.digits ≠ 0) (he : s.eneg = false)
    (x : ExpSp) (wf : x.WF) : ∃ p, (p = NPh.expLetter ∨ p = NPh.expSigned) ∧
      (x.letter ++ x.sign).foldl nstep s = { s with ph := p, eneg := negOf x.sign } := by
  have hL := nstep_letter s hp hd
  have hLS := nstep_expSign { s with ph := .expLetter } (Or.inl rfl)
  have he' : negOf [] = s.eneg := he.symm
  rcases wf.letter_cases with hl | ⟨l, hl, hlc⟩ <;> rcases wf.sign.cases with hs | ⟨c, hs, hc, hn⟩
  · exact absurd hs (wf.signed hl)
  · rw [hn, hl, hs]; exact ⟨_, Or.inr rfl, nstep_expSign s (Or.inr ⟨hp, hd⟩) c hc⟩
  · rw [hl, hs, he']; exact ⟨_, Or.inl rfl, hL l hlc⟩
  · rw [hn, hl, hs]; exact ⟨_, Or.inr rfl, (congrArg (nstep · c) (hL l hlc)).trans (hLS c hc)⟩

theorem spec_run_expSp (s : NSt) (neg : Bool) (m f : Nat) (h : MantDone s neg m f) (x : ExpSp) (wf : x.WF) :
    (List.foldl nstep s x.text).ph = .exp ∧ (List.foldl nstep s x.text).digits ≠ 0 ∧
      (List.foldl nstep s x.text).value = some (sgnQ neg * ((m : ℚ) * (10 : ℚ) ^ (x.value - (f : Int)))) := by
  obtain ⟨p, hp, hrun⟩ := nrun_expHead s h.ph h.digits h.eneg x wf
  unfold ExpSp.text
  rw [List.foldl_append, hrun, run_digits_exp _ _ wf.digits wf.ne (hp.elim Or.inl (fun h => Or.inr (Or.inl h)))]
  refine ⟨rfl, h.digits, ?_⟩
  rw [NSt.value_eq _ (Or.inr rfl)]
  simp only [h.neg, h.mant, h.scale, h.ex, ExpSp.value]

/-- behind a well-formed spelling the Spec reader is in the number, has seen a digit, and holds the number it denotes -/
theorem spec_run_spelling (sp : Spelling) (wf : sp.WF) :
    ((sp.text.foldl nstep {}).ph = .int ∨ (sp.text.foldl nstep {}).ph = .frac ∨ (sp.text.foldl nstep {}).ph = .exp) ∧
      (sp.text.foldl nstep {}).digits ≠ 0 ∧ (sp.text.foldl nstep {}).value = some sp.value := by
  have hm := spec_mant_done sp wf
  unfold Spelling.text Spelling.exText Spelling.value Spelling.expValue
  rw [List.foldl_append]
  cases hx : sp.ex with
  | none =>
    refine ⟨hm.ph.elim Or.inl (fun h => Or.inr (Or.inl h)), hm.digits, ?_⟩
    rw [List.foldl_nil, NSt.value_eq _ (Or.inl ⟨hm.ph, hm.digits⟩)]
    simp only [hm.neg, hm.mant, hm.scale, hm.ex, hm.eneg, Bool.false_eq_true, if_false, Int.ofNat_zero]
  | some x =>
    obtain ⟨h1, h2, h3⟩ := spec_run_expSp _ _ _ _ hm x (wf.ex x hx)
    exact ⟨Or.inr (Or.inr h1), h2, h3⟩

/-- the Spec reads every well-formed spelling as the number it denotes -/
theorem spec_reads_spelling (sp : Spelling) (wf : sp.WF) : parseChars sp.text = some sp.value :=
  (spec_run_spelling sp wf).2.2

/-! ## the model's reader: Python's `float()` automaton

What `fstep` does with a digit, the point, an exponent letter and a blank, in every state; then `toN`. -/

theorem fstep_digit (s : FSt) (c : Char) (hc : c.isDigit = true) : fstep s c = (match s.ph with
    | .lead | .signed | .int => { s with ph := .int, mant := 10 * s.mant + digitVal c, ndig := s.ndig + 1 }
    | .frac => { s with mant := 10 * s.mant + digitVal c, nfrac := s.nfrac + 1, ndig := s.ndig + 1 }
    | .expStart | .expSigned | .exp => { s with ph := .exp, ex := 10 * s.ex + digitVal c }
    | _ => { s with ph := .bad }) :=
  if_pos hc

theorem fstep_dot (s : FSt) : fstep s '.' = (match s.ph with
    | .lead | .signed | .int => { s with ph := .frac }
    | _ => { s with ph := .bad }) := rfl

theorem fstep_letter (s : FSt) (c : Char) (hc : c = 'e' ∨ c = 'E') : fstep s c = (match s.ph with
    | .int | .frac => if s.ndig = 0 then { s with ph := .bad } else { s with ph := .expStart }
    | _ => { s with ph := .bad }) := by
  rcases hc with rfl | rfl <;> rfl

theorem fstep_blank (s : FSt) : fstep s ' ' = (match s.ph with
    | .lead => s
    | .int | .frac => if s.ndig = 0 then { s with ph := .bad } else { s with ph := .trail }
    | .exp | .trail => { s with ph := .trail }
    | _ => { s with ph := .bad }) := rfl

def toNPh : FPh → NPh
  | .lead => .start
  | .signed => .signed
  | .int => .int
  | .frac => .frac
  | .expStart => .expLetter
  | .expSigned => .expSigned
  | .exp => .exp
  | .trail | .bad => .bad

/-- a state of `float()` as a state of the Spec reader; behind the number (`trail`) there is none -/
def toN (s : FSt) : NSt := ⟨toNPh s.ph, s.neg, s.mant, s.nfrac, s.ndig, s.eneg, s.ex⟩

/-- the characters both readers take alike in every state -/
def Plain (c : Char) : Prop := c.isDigit = true ∨ c = '.' ∨ c = 'e' ∨ c = 'E'

/-- `float()` takes a digit, a point, an `e`/`E`, and a sign that does not stand right behind the significand, as the
    Spec reader does.  (They differ on that sign, which the Spec takes for the exponent's, on `d`/`D` and on blanks.) -/
theorem nstep_toN (s : FSt) (c : Char) (h : Plain c ∨ (c = '+' ∨ c = '-') ∧ s.ph ≠ .int ∧ s.ph ≠ .frac) :
    nstep (toN s) c = toN (fstep s c) := by
  obtain ⟨ph, neg, mant, nfrac, ndig, eneg, ex⟩ := s
  rcases h with (hd | rfl | rfl | rfl) | ⟨rfl | rfl, h1, h2⟩
  · rw [fstep_digit _ c hd]
    unfold nstep
    rw [if_pos hd]
    cases ph <;> rfl
  · cases ph <;> rfl
  · cases ph <;> first | rfl | (cases ndig <;> rfl)
  · cases ph <;> first | rfl | (cases ndig <;> rfl)
  · cases ph <;> first | rfl | exact absurd rfl h1 | exact absurd rfl h2
  · cases ph <;> first | rfl | exact absurd rfl h1 | exact absurd rfl h2

theorem nrun_toN : ∀ (t : Text) (s : FSt), (∀ c ∈ t, Plain c) → t.foldl nstep (toN s) = toN (t.foldl fstep s)
  | [], _, _ => rfl
  | c :: t, s, h => by
    rw [List.foldl_cons, List.foldl_cons, nstep_toN s c (Or.inl (h c List.mem_cons_self)),
      nrun_toN t _ fun x hx => h x (List.mem_cons_of_mem _ hx)]

theorem nrun_toN_sign (sg : Text) (hs : IsSignText sg) (s : FSt) (hp : s.ph ≠ .int ∧ s.ph ≠ .frac) :
    sg.foldl nstep (toN s) = toN (sg.foldl fstep s) := by
  rcases hs with rfl | rfl | rfl
  · rfl
  · exact nstep_toN s '+' (Or.inr ⟨Or.inl rfl, hp⟩)
  · exact nstep_toN s '-' (Or.inr ⟨Or.inr rfl, hp⟩)

theorem fstep_letter_ph (s : FSt) (c : Char) (hc : c = 'e' ∨ c = 'E') :
    (fstep s c).ph ≠ .int ∧ (fstep s c).ph ≠ .frac := by
  rw [fstep_letter s c hc]
  repeat' split
  all_goals exact ⟨FPh.noConfusion, FPh.noConfusion⟩

theorem allDigits_plain {t : Text} (h : AllDigits t) : ∀ c ∈ t, Plain c := fun c hc => Or.inl (h c hc)

theorem mantDigits_plain (sp : Spelling) (wf : sp.WF) : ∀ c ∈ sp.mantDigits, Plain c := by
  refine List.forall_mem_append.mpr ⟨allDigits_plain wf.ip, ?_⟩
  cases sp.dot
  · intro c hc; cases hc
  · exact List.forall_mem_cons.mpr ⟨Or.inr (Or.inl rfl), allDigits_plain wf.fp⟩

theorem nrun_toN_mant (sp : Spelling) (wf : sp.WF) : sp.mantText.foldl nstep {} = toN (sp.mantText.foldl fstep {}) := by
  rw [sp.mantText_eq, List.foldl_append, List.foldl_append, show ({} : NSt) = toN {} from rfl,
    nrun_toN_sign _ wf.sign _ ⟨FPh.noConfusion, FPh.noConfusion⟩, nrun_toN _ _ (mantDigits_plain sp wf)]

/-- on a spelling whose exponent has its letter, `float()` is the Spec reader -/
theorem nrun_toN_spelling (sp : Spelling) (wf : sp.WF) (hl : ∀ x, sp.ex = some x → x.letter ≠ []) :
    sp.text.foldl nstep {} = toN (sp.text.foldl fstep {}) := by
  unfold Spelling.text Spelling.exText
  rw [List.foldl_append, List.foldl_append, nrun_toN_mant sp wf]
  cases hx : sp.ex with
  | none => rfl
  | some x =>
    have wx := wf.ex x hx
    obtain ⟨l, hl', hlc⟩ := wx.letter_cases.resolve_left (hl x hx)
    simp only [ExpSp.text, List.foldl_append, hl', List.foldl_cons, List.foldl_nil]
    rw [nstep_toN _ l (Or.inl (Or.inr (Or.inr hlc))), nrun_toN_sign _ wx.sign _ (fstep_letter_ph _ l hlc),
      nrun_toN _ _ (allDigits_plain wx.digits)]

theorem toNPh_inv (p : FPh) : (toNPh p = .int → p = .int) ∧ (toNPh p = .frac → p = .frac) ∧ (toNPh p = .exp → p = .exp) := by
  cases p <;> decide

theorem tenPow_eq_pow10Rat (k : Int) : tenPow k = pow10Rat k :=
  (tenPow_eq k).trans (pow10Rat_eq k).symm

theorem result_toN (s : FSt) (h : s.ph ≠ .trail) : (toN s).value = s.result := by
  obtain ⟨ph, neg, mant, nfrac, ndig, eneg, ex⟩ := s
  unfold NSt.value FSt.result
  simp only [tenPow_eq_pow10Rat]
  cases ph <;> first | rfl | exact absurd rfl h | (cases ndig <;> rfl)

theorem frun_lead (i : Nat) : List.foldl fstep {} (List.replicate i ' ') = {} := by
  induction i with
  | zero => rfl
  | succ i ih => exact ih

theorem frun_trail : ∀ (j : Nat) (s : FSt), (s.ph = .int ∨ s.ph = .frac ∨ s.ph = .exp ∨ s.ph = .trail) → s.ndig ≠ 0 →
    (List.foldl fstep s (List.replicate j ' ')).result = s.result
  | 0, _, _, _ => rfl
  | j + 1, s, hp, hd => by
    have h1 : fstep s ' ' = { s with ph := .trail } := by
      rw [fstep_blank]
      rcases hp with h | h | h | h <;> simp only [h, hd, if_false]
    rw [List.replicate_succ, List.foldl_cons, h1, frun_trail j { s with ph := .trail } (Or.inr (Or.inr (Or.inr rfl))) hd]
    unfold FSt.result
    rcases hp with h | h | h | h <;> simp only [h, hd, if_false]

theorem pyFloat_letter (sp : Spelling) (wf : sp.WF) (hl : ∀ x, sp.ex = some x → x.letter ≠ []) (i j : Nat) :
    pyFloat (List.replicate i ' ' ++ sp.text ++ List.replicate j ' ') = some sp.value := by
  have hsim := nrun_toN_spelling sp wf hl
  obtain ⟨hph, hdig, hval⟩ := spec_run_spelling sp wf
  rw [hsim] at hph hdig hval
  obtain ⟨h1, h2, h3⟩ := toNPh_inv (sp.text.foldl fstep {}).ph
  have hp : _ ∨ _ ∨ _ := hph.imp h1 (Or.imp h2 h3)
  unfold pyFloat
  rw [List.foldl_append, List.foldl_append, frun_lead, frun_trail j _ (hp.imp_right fun h => h.imp_right Or.inl) hdig,
    ← result_toN _ (by rcases hp with h | h | h <;> rw [h] <;> exact FPh.noConfusion)]
  exact hval

theorem fstep_bad (s : FSt) (c : Char) (h : s.ph = .bad) : (fstep s c).ph = .bad := by
  simp only [fstep, h, ite_self]

theorem frun_bad : ∀ (t : Text) (s : FSt), s.ph = .bad → (List.foldl fstep s t).ph = .bad
  | [], _, h => h
  | c :: r, s, h => frun_bad r _ (fstep_bad s c h)

theorem result_bad (s : FSt) (h : s.ph = .bad) : s.result = none := by
  unfold FSt.result; rw [h]

theorem fstep_sign_bad (s : FSt) (hp : s.ph = .int ∨ s.ph = .frac) (c : Char) (hc : c = '+' ∨ c = '-') :
    (fstep s c).ph = .bad := by
  cases s
  rcases hc with rfl | rfl <;> rcases hp with h | h <;> cases h <;> rfl

theorem pyFloat_noletter (sp : Spelling) (wf : sp.WF) (x : ExpSp) (hx : sp.ex = some x) (hl : x.letter = []) (i j : Nat) :
    pyFloat (List.replicate i ' ' ++ sp.text ++ List.replicate j ' ') = none := by
  have hm := (spec_mant_done sp wf).ph
  rw [nrun_toN_mant sp wf] at hm
  have wx := wf.ex x hx
  obtain ⟨c, hs, hc⟩ := wx.sign_of_noletter hl
  unfold pyFloat Spelling.text Spelling.exText
  rw [List.foldl_append, List.foldl_append, frun_lead, List.foldl_append, hx]
  simp only [ExpSp.text, hl, hs, List.nil_append, List.cons_append, List.foldl_cons]
  refine result_bad _ (frun_bad _ _ (frun_bad _ _ ?_))
  exact fstep_sign_bad _ (hm.imp (toNPh_inv _).1 (toNPh_inv _).2.1) c hc


/-! ## `re.sub(r"([\d.])([-+])", r"\1E\2", s)` on a spelling without exponent letter -/

def trig (c : Char) : Bool := c.isDigit || c = '.'

theorem insertE_cons (c : Char) (t : Text) (h : trig c = false ∨ ∀ c' r, t = c' :: r → isSignCh c' = false) :
    insertE (c :: t) = c :: insertE t := by
  cases t with
  | nil => rfl
  | cons c' r =>
    rw [insertE]
    refine if_neg (fun hc => ?_)
    have hc' : trig c = true ∧ isSignCh c' = true := Bool.and_eq_true_iff.mp hc
    rcases h with h | h
    · rw [h] at hc'; exact Bool.noConfusion hc'.1
    · rw [h c' r rfl] at hc'; exact Bool.noConfusion hc'.2

theorem insertE_notrig : ∀ (pre rest : Text), (∀ c ∈ pre, trig c = false) → insertE (pre ++ rest) = pre ++ insertE rest
  | [], _, _ => rfl
  | c :: p, rest, h => by
    rw [List.cons_append, insertE_cons c _ (Or.inl (h c List.mem_cons_self)),
      insertE_notrig p rest (fun x hx => h x (List.mem_cons_of_mem _ hx)), List.cons_append]

theorem insertE_nosign : ∀ (t : Text), (∀ c ∈ t, isSignCh c = false) → insertE t = t
  | [], _ => rfl
  | c :: t, h => by
    rw [insertE_cons c t (Or.inr (fun c' r e => h c' (e ▸ List.mem_cons_of_mem _ List.mem_cons_self))),
      insertE_nosign t (fun x hx => h x (List.mem_cons_of_mem _ hx))]

theorem insertE_mant (sc : Char) (R : Text) (hsc : isSignCh sc = true) : ∀ (M : Text), M ≠ [] →
    (∀ c ∈ M, trig c = true ∧ isSignCh c = false) → insertE (M ++ sc :: R) = M ++ 'E' :: sc :: insertE R
  | [c], _, h => by
    show insertE (c :: sc :: R) = c :: 'E' :: sc :: insertE R
    rw [insertE]
    exact if_pos (Bool.and_eq_true_iff.mpr ⟨(h c List.mem_cons_self).1, hsc⟩)
  | c :: c' :: m, _, h => by
    have hc' := (h c' (List.mem_cons_of_mem _ List.mem_cons_self)).2
    rw [List.cons_append, insertE_cons c _ (Or.inr (fun a r e => by cases e; exact hc')),
      insertE_mant sc R hsc (c' :: m) (List.cons_ne_nil _ _) (fun x hx => h x (List.mem_cons_of_mem _ hx))]
    rfl

theorem digit_not_sign (c : Char) (hc : c.isDigit = true) : isSignCh c = false := by
  refine Bool.eq_false_iff.mpr (fun h => ?_)
  rcases Bool.or_eq_true_iff.mp h with h | h <;> rw [of_decide_eq_true h] at hc <;> exact absurd hc (by decide)

theorem mant_chars (sp : Spelling) (wf : sp.WF) : ∀ c ∈ sp.mantDigits, trig c = true ∧ isSignCh c = false := by
  have hdig : ∀ t, AllDigits t → ∀ c ∈ t, trig c = true ∧ isSignCh c = false :=
    fun t ht c hc => ⟨Bool.or_eq_true_iff.mpr (Or.inl (ht c hc)), digit_not_sign c (ht c hc)⟩
  refine List.forall_mem_append.mpr ⟨hdig _ wf.ip, ?_⟩
  cases sp.dot
  · intro c hc; cases hc
  · exact List.forall_mem_cons.mpr ⟨⟨rfl, rfl⟩, hdig _ wf.fp⟩

def Spelling.withE (sp : Spelling) (x : ExpSp) : Spelling := { sp with ex := some { x with letter := ['E'] } }

theorem withE_wf (sp : Spelling) (wf : sp.WF) (x : ExpSp) (wx : x.WF) : (sp.withE x).WF :=
  ⟨wf.sign, wf.ip, wf.fp, wf.some_digit, wf.nodot, fun _ hy => Option.some.inj hy ▸
    ⟨Or.inr (Or.inr rfl), wx.sign, wx.digits, wx.ne, fun h => absurd h (List.cons_ne_nil _ _)⟩⟩

theorem withE_value (sp : Spelling) (x : ExpSp) (hx : sp.ex = some x) : (sp.withE x).value = sp.value := by
  unfold Spelling.value Spelling.expValue
  rw [hx]
  rfl

theorem insertE_spelling (sp : Spelling) (wf : sp.WF) (x : ExpSp) (hx : sp.ex = some x) (hl : x.letter = []) (i j : Nat) :
    insertE (List.replicate i ' ' ++ sp.text ++ List.replicate j ' ')
      = List.replicate i ' ' ++ (sp.withE x).text ++ List.replicate j ' ' := by
  have wx := wf.ex x hx
  obtain ⟨sc, hsc, hc⟩ := wx.sign_of_noletter hl
  have hscs : isSignCh sc = true := by rcases hc with rfl | rfl <;> rfl
  have hT : ∀ L : Text, List.replicate i ' ' ++ (sp.sign ++ sp.mantDigits ++ (L ++ [sc] ++ x.digits)) ++ List.replicate j ' '
      = (List.replicate i ' ' ++ sp.sign) ++ (sp.mantDigits ++ (L ++ sc :: (x.digits ++ List.replicate j ' '))) := by
    intro L; simp only [List.append_assoc, List.cons_append, List.nil_append]
  have hR : insertE (x.digits ++ List.replicate j ' ') = x.digits ++ List.replicate j ' ' :=
    insertE_nosign _ (List.forall_mem_append.mpr
      ⟨fun c hc => digit_not_sign c (wx.digits c hc), fun c hc => by rw [(List.mem_replicate.mp hc).2]; rfl⟩)
  have hpre : ∀ c ∈ List.replicate i ' ' ++ sp.sign, trig c = false :=
    List.forall_mem_append.mpr ⟨fun c hc => by rw [(List.mem_replicate.mp hc).2]; rfl,
      fun c hc => by rcases wf.sign with h | h | h <;> rw [h] at hc <;> cases hc <;> first | rfl | contradiction⟩
  unfold Spelling.text Spelling.exText
  rw [sp.mantText_eq, (sp.withE x).mantText_eq, hx]
  show insertE (_ ++ (_ ++ _ ++ (x.letter ++ x.sign ++ x.digits)) ++ _)
    = _ ++ (sp.sign ++ sp.mantDigits ++ (['E'] ++ x.sign ++ x.digits)) ++ _
  rw [hl, hsc, hT, hT, insertE_notrig _ _ hpre, List.nil_append,
    insertE_mant sc _ hscs _ wf.mantDigits_ne_nil (mant_chars sp wf), hR]
  rfl

/-- the model's `fortran_float` reads every well-formed spelling, also between blanks, as the number it denotes -/
theorem fortran_reads_spelling (sp : Spelling) (wf : sp.WF) (i j : Nat) :
    fortranFloat (List.replicate i ' ' ++ sp.text ++ List.replicate j ' ') = some sp.value := by
  unfold fortranFloat
  by_cases hl : ∀ x, sp.ex = some x → x.letter ≠ []
  · rw [pyFloat_letter sp wf hl i j]
  · obtain ⟨x, hl⟩ := not_forall.mp hl
    obtain ⟨hx, hl⟩ := Classical.not_imp.mp hl
    have hl : x.letter = [] := Classical.not_not.mp hl
    rw [pyFloat_noletter sp wf x hx hl i j, insertE_spelling sp wf x hx hl i j,
      pyFloat_letter _ (withE_wf sp wf x (wf.ex x hx)) (fun _ hy => Option.some.inj hy ▸ List.cons_ne_nil _ _) i j,
      withE_value sp x hx]

/-- both readers agree on every well-formed spelling (in particular on the `Real` rule of DESIGN.md §5.2) -/
theorem readers_agree (sp : Spelling) (wf : sp.WF) :
    fortranFloat sp.text = parseChars sp.text ∧ parseChars sp.text = some sp.value := by
  have h := fortran_reads_spelling sp wf 0 0
  rw [List.replicate_zero, List.nil_append, List.append_nil] at h
  exact ⟨h.trans (spec_reads_spelling sp wf).symm, spec_reads_spelling sp wf⟩

end MontePyVerif.C05
