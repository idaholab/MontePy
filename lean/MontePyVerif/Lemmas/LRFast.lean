import MontePyVerif.Lemmas.LR
import MontePyVerif.Model.LRTables
/-! # Lemmas.LRFast — `checkTables` of a dumped parser class, through a test the kernel evaluates four times faster

`Props/C12LR.lean` needs `checkTables (ofDump d) h = true` for the ten extracted tables (about 2,000 action cells
each) and gets it by evaluation in the kernel.  There every step of a recursive list function costs about 300 units of
work and an operation on `Nat` literals about 70; a closed term is evaluated once.  `checkTables` as it is written
spends its time in three places, and `fastCheck` avoids each of them:

* it fetches the hint of a state and the production of a reduce by `getD` / `Array` index, a walk from the head of
  the list (73 steps on average for 147 states, paid once for every state and production).  `fastCheck` reads both
  through `pieces`: the list cut into blocks of 8, so that the walk is `i / 8 + i % 8` steps (`nth_pieces`); accessing
  symbol and predecessors of a state are zipped, so that one walk finds both;
* it decodes every cell to an `Int` and asks for its sign, and `dedup`s the row (`∈` on `Int`) before it tests the
  reduces.  `fastCheck` stays on the dumped `Nat` (`c / cellBase` is the action code, `c % cellBase` the token); four
  of five cells are reduces, most of them by the production of the cell before, and such a cell is not tested again
  (`prev` in `cellR`);
* nothing else: `backR`, `edgeR`, `rowR` and `fastCheck` itself are `backOK`, `edgeOK`, `rowOK` and `checkTables` word
  for word with these two changes, which is what makes `fastCheck_sound` short.

Only `fastCheck d = true → checkTables …` is proved.  The converse fails in two corners the translator never writes:
hint lists of different lengths, and action code 1 ("shift to state 0", which `decAct` reads as accept).
-/
namespace MontePyVerif.LR
open MontePyVerif.Gen.LrTables

/-- `l` in blocks of 8 (the last one shorter) -/
def pieces {α : Type} : List α → List (List α)
  | a0 :: a1 :: a2 :: a3 :: a4 :: a5 :: a6 :: a7 :: l => [a0, a1, a2, a3, a4, a5, a6, a7] :: pieces l
  | l => [l]

/-- the `i`-th element of the list that `T` is the blocks of -/
def nth {α : Type} (T : List (List α)) (i : Nat) : Option α := (T.getD (i / 8) [])[i % 8]?

theorem nth_pieces {α : Type} (l : List α) : ∀ i, nth (pieces l) i = l[i]? := by
  induction l using pieces.induct with
  | case1 a0 a1 a2 a3 a4 a5 a6 a7 l ih =>
    intro i
    match i with
    | 0 | 1 | 2 | 3 | 4 | 5 | 6 | 7 => rfl
    | i + 8 =>
      rw [pieces, nth, Nat.add_div_right _ (by decide), Nat.add_mod_right, List.getD_cons_succ]
      exact ih i
  | case2 l hl =>
    intro i
    have hlen : l.length < 8 := by
      rcases l with _|⟨_,_|⟨_,_|⟨_,_|⟨_,_|⟨_,_|⟨_,_|⟨_,_|⟨_,l⟩⟩⟩⟩⟩⟩⟩⟩
      all_goals first | exact absurd rfl (hl _ _ _ _ _ _ _ _ _) | simp
    rw [pieces, nth]
    · by_cases hi : i < 8
      · rw [Nat.div_eq_of_lt hi, Nat.mod_eq_of_lt hi]; rfl
      · obtain ⟨k, hk⟩ : ∃ k, i / 8 = k + 1 := ⟨i / 8 - 1, by omega⟩
        rw [hk, List.getD_cons_succ, List.getD_nil, List.getElem?_nil, List.getElem?_eq_none (by omega)]
    · exact hl

/-! ## the test; `look s` is the hint of state `s` (accessing symbol, predecessors), `prod p` production `p` as dumped -/

def backR (look : Nat → Nat × List Nat) : Nat → List Nat → Bool
  | _, [] => true
  | s, x :: xs => s != 0 && (look s).1 == x && (look s).2.all (fun s' => backR look s' xs)

def edgeR (look : Nat → Nat × List Nat) (s' x s : Nat) : Bool := s != 0 && (look s).1 == x && (look s).2.contains s'

/-- one action cell `c` of state `s`; `prev` is the action code of the cell before it (0 at the start of a row, which
    is no reduce): a reduce by the same production was tested there -/
def cellR (nTerm start : Nat) (prod : Nat → Option (List Nat)) (look : Nat → Nat × List Nat) (s prev c : Nat) : Bool :=
  if c / cellBase % 2 = 1 then
    c % cellBase != 0 && decide (c % cellBase < nTerm) && edgeR look s (c % cellBase) (c / cellBase / 2)
  else if c / cellBase = 0 then c % cellBase == 0 && (s != 0 && (look s).1 == start && (look s).2.all (· == 0))
  else c / cellBase == prev ||
    match prod (c / cellBase / 2) with
    | none => false
    | some l => backR look s l.tail.reverse

def rowR (cell : Nat → Nat → Bool) : Nat → List Nat → Bool
  | _, [] => true
  | prev, c :: cs => cell prev c && rowR cell (c / cellBase) cs

def fastCheck (d : LrDump) : Bool :=
  let look := fun s => ((nth (pieces (d.hintAcc.zip d.hintPred))) s).getD (0, [])
  d.hintAcc.length == d.hintPred.length &&
  decide (d.nTerm ≤ d.start) && d.prods.all (fun l => decide (d.nTerm ≤ l.headD 0)) &&
  checkFrom (fun s r => rowR (cellR d.nTerm d.start (nth (pieces d.prods)) look s) 0 r) 0 d.action &&
  checkFrom (fun s r => r.all fun g => edgeR look s (g % cellBase) (g / cellBase)) 0 d.goto

/-! ## soundness -/

section
variable {h : Hints} {look : Nat → Nat × List Nat} (hl : ∀ s, look s = (h.accOf s, h.predOf s))
include hl

theorem backR_eq : ∀ (xs : List Nat) (s : Nat), backR look s xs = backOK h s xs
  | [], _ => by rw [backR, backOK]
  | x :: xs, s => by simp only [backR, backOK, hl, backR_eq xs]

theorem edgeR_eq (s' x s : Nat) : edgeR look s' x s = edgeOK h s' x s := by simp only [edgeR, edgeOK, hl]

theorem cellR_sound {d : LrDump} {s c : Nat}
    (hc : cellR d.nTerm d.start (fun p => d.prods[p]?) look s 0 c = true) :
    cellOK (ofDump d) h s (decActionCell c) = true := by
  unfold cellR at hc
  unfold cellOK decActionCell decAct
  simp only [Int.ofNat_eq_natCast]
  generalize c / cellBase = k at hc ⊢
  generalize c % cellBase = tok at hc ⊢
  simp only [edgeR_eq hl, hl] at hc
  split at hc
  · next hodd =>
    have hk : k / 2 ≠ 0 := by
      simp only [edgeOK, Bool.and_eq_true, bne_iff_ne] at hc
      exact hc.2.1.1
    have hpos : (0 : Int) < ((k / 2 : Nat) : Int) := by omega
    rw [if_pos hodd, if_pos hpos]
    exact hc
  · next hev =>
    split at hc
    · next h0 => subst h0; simpa [acceptOK, ofDump] using hc
    · next h0 =>
      have hneg : ¬ (0 : Int) < -((k / 2 : Nat) : Int) := by omega
      have hne : ¬ -((k / 2 : Nat) : Int) = 0 := by omega
      have hk : (k == 0) = false := by simpa using h0
      rw [if_neg hev, if_neg hneg, if_neg hne]
      rw [hk, Bool.false_or] at hc
      simp only [reduceOK, ofDump, Int.neg_neg, Int.toNat_natCast, List.getElem?_toArray, List.getElem?_map]
      cases hp : d.prods[k / 2]? with
      | none => simp [hp] at hc
      | some l => simpa [hp, decProd, backR_eq hl] using hc

omit hl in
/-- the hypothesis on `prev` is what a skipped cell relies on: if `prev` is a reduce, it passed -/
theorem rowR_sound {nTerm start : Nat} {prod : Nat → Option (List Nat)} {s : Nat} : ∀ (cs : List Nat) (prev : Nat),
    (prev % 2 = 0 → prev ≠ 0 →
      (match prod (prev / 2) with | none => false | some l => backR look s l.tail.reverse) = true) →
    rowR (cellR nTerm start prod look s) prev cs = true → ∀ c ∈ cs, cellR nTerm start prod look s 0 c = true
  | [], _, _, _, c, hm => by cases hm
  | c :: cs, prev, hprev, hr, c', hm => by
    rw [rowR, Bool.and_eq_true] at hr
    have hc : cellR nTerm start prod look s 0 c = true := by
      have := hr.1
      unfold cellR at this ⊢
      split
      · next ho => rwa [if_pos ho] at this
      · next ho =>
        rw [if_neg ho] at this
        split
        · next h0 => rwa [if_pos h0] at this
        · next h0 =>
          rw [if_neg h0, Bool.or_eq_true, beq_iff_eq] at this
          rw [Bool.or_eq_true]
          exact .inr (this.elim (fun e => e ▸ hprev (by omega) (e ▸ h0)) id)
    rcases List.mem_cons.1 hm with rfl | hm
    · exact hc
    · refine rowR_sound cs _ (fun he h0 => ?_) hr.2 c' hm
      unfold cellR at hc
      rw [if_neg (by omega), if_neg h0, Bool.or_eq_true, beq_iff_eq] at hc
      exact hc.elim (fun e => absurd e h0) id

end

theorem checkFrom_map {α β : Type} {f : Nat → α → Bool} {g : Nat → β → Bool} {m : α → β}
    (hfg : ∀ i a, f i a = true → g i (m a) = true) : ∀ (l : List α) (i : Nat),
    checkFrom f i l = true → checkFrom g i (l.map m) = true
  | [], _, _ => rfl
  | a :: l, i, h => by
    rw [checkFrom, Bool.and_eq_true] at h
    rw [List.map_cons, checkFrom, hfg i a h.1, checkFrom_map hfg l _ h.2]; rfl

theorem zip_getD {α β : Type} {da : α} {db : β} : ∀ {a : List α} {b : List β}, a.length = b.length → ∀ i,
    ((a.zip b)[i]?).getD (da, db) = (a.getD i da, b.getD i db)
  | [], [], _, i => by simp
  | x :: a, y :: b, h, 0 => by simp
  | x :: a, y :: b, h, i + 1 => by simpa using zip_getD (by simpa using h) i

/-- what `Props/C12LR.lean` evaluates is `fastCheck`; the test the soundness theorems are about follows, for the hint
    of the dump (`C12LR.hintsOf d`, written out) -/
theorem fastCheck_sound {d : LrDump} (hf : fastCheck d = true) :
    checkTables (ofDump d) ⟨d.hintAcc, d.hintPred⟩ = true := by
  simp only [fastCheck, Bool.and_eq_true, beq_iff_eq, nth_pieces, funext (nth_pieces d.prods)] at hf
  obtain ⟨⟨⟨⟨hlen, hst⟩, hpr⟩, hact⟩, hgo⟩ := hf
  have hl (s : Nat) : ((d.hintAcc.zip d.hintPred)[s]?).getD (0, []) =
      (Hints.accOf ⟨d.hintAcc, d.hintPred⟩ s, Hints.predOf ⟨d.hintAcc, d.hintPred⟩ s) := zip_getD hlen s
  simp only [checkTables, Bool.and_eq_true, ofDump, List.all_map]
  refine ⟨⟨⟨hst, hpr⟩, checkFrom_map (fun s r hr => rowOK_iff.2 fun c hc => ?_) _ _ hact⟩,
    checkFrom_map (fun s r hr => ?_) _ _ hgo⟩
  · obtain ⟨c', hc', rfl⟩ := List.mem_map.1 hc
    exact cellR_sound hl (rowR_sound r 0 (fun _ h0 => absurd rfl h0) hr c' hc')
  · simp only [gotoRowOK, List.all_map, List.all_eq_true] at hr ⊢
    exact fun g hg => (edgeR_eq hl _ _ _).symm.trans (hr g hg)

end MontePyVerif.LR
