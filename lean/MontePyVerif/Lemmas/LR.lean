import MontePyVerif.Model.LR
/-! # Lemmas.LR — accepted by the LR machine ⇒ derivable in the grammar of the tables, for ANY well-formed tables

`checkTables t h` is a boolean well-formedness test of the tables `t` against a *hint* `h` (for every state: its
accessing symbol and the states with a transition into it); the hint is not trusted, the test validates what the
proof needs of it:

* every shift `action[s'][x] = s` and every `goto[s'][x] = s` has `s ≠ 0`, `acc s = x`, `s' ∈ pred s`; a shift is on a
  terminal other than `$end`; the start symbol and every left-hand side of a production are nonterminals;
* every `reduce p` in the row of a state `s`: walking back from `s` through `pred` along ALL paths, the accessing
  symbols spell the right-hand side of `p` (so the `|rhs p|` popped states carry exactly `rhs p`);
* every `accept` is on `$end`, in a state whose accessing symbol is the start symbol and whose only predecessor is state 0.

Nothing is assumed about how the tables were built (LALR, conflict resolution …).

On tables that pass the test the machine is a shift-reduce parser on the symbols its state stack carries, so the
reductions of an accepting run are a right-most derivation of the input, read backwards.
-/
namespace MontePyVerif.LR

abbrev Prods := List (Nat × List Nat)

/-- `γ ⇒* w`; a symbol may also stand for itself, which is how terminals enter -/
inductive Yield (P : Prods) : List Nat → List Nat → Prop
  | nil : Yield P [] []
  | tok {s : Nat} {ss ws : List Nat} : Yield P ss ws → Yield P (s :: ss) (s :: ws)
  | nt {s : Nat} {rhs w ss ws : List Nat} : (s, rhs) ∈ P → Yield P rhs w → Yield P ss ws → Yield P (s :: ss) (w ++ ws)

variable {P : Prods}

theorem Yield.cast {γ w w' : List Nat} (h : Yield P γ w) (e : w = w') : Yield P γ w' := e ▸ h

theorem Yield.append {a b w1 w2 : List Nat} (h1 : Yield P a w1) (h2 : Yield P b w2) : Yield P (a ++ b) (w1 ++ w2) := by
  induction h1 with
  | nil => simpa using h2
  | tok _ ih => exact Yield.tok ih
  | nt hm hr _ _ ih => exact (Yield.nt hm hr ih).cast (List.append_assoc _ _ _).symm

theorem Yield.split : ∀ (a : List Nat) {b w : List Nat}, Yield P (a ++ b) w →
    ∃ w1 w2, w = w1 ++ w2 ∧ Yield P a w1 ∧ Yield P b w2
  | [], _, w, h => ⟨[], w, rfl, .nil, h⟩
  | x :: a, b, w, h => by
    cases h with
    | tok h' =>
      obtain ⟨w1, w2, e, h1, h2⟩ := Yield.split a h'
      exact ⟨x :: w1, w2, by simp [e], .tok h1, h2⟩
    | nt hm hr h' =>
      obtain ⟨w1, w2, e, h1, h2⟩ := Yield.split a h'
      exact ⟨_ ++ w1, w2, by simp [e], .nt hm hr h1, h2⟩

theorem Yield.refl : ∀ w : List Nat, Yield P w w
  | [] => .nil
  | _ :: w => .tok (Yield.refl w)

/-! ## the hint and the table test -/

/-- per state: accessing symbol, predecessor states -/
structure Hints where
  acc : List Nat
  pred : List (List Nat)

def Hints.accOf (h : Hints) (s : Nat) : Nat := h.acc.getD s 0
def Hints.predOf (h : Hints) (s : Nat) : List Nat := h.pred.getD s []

/-- from state `s`, every backward path through `pred` spells `xs` (top symbol first) and is long enough -/
def backOK (h : Hints) : Nat → List Nat → Bool
  | _, [] => true
  | s, x :: xs => s != 0 && h.accOf s == x && (h.predOf s).all (fun s' => backOK h s' xs)

/-- a transition `s' —x→ s` agrees with the hint -/
def edgeOK (h : Hints) (s' x s : Nat) : Bool := s != 0 && h.accOf s == x && (h.predOf s).contains s'

def reduceOK (t : Tables) (h : Hints) (s p : Nat) : Bool :=
  match t.prods[p]? with
  | none => false
  | some (_, rhs) => backOK h s rhs.reverse

def acceptOK (t : Tables) (h : Hints) (s : Nat) : Bool :=
  s != 0 && h.accOf s == t.start && (h.predOf s).all (· == 0)

def dedup : List Int → List Int
  | [] => []
  | a :: l => if a ∈ l then dedup l else a :: dedup l

theorem mem_dedup {a : Int} : ∀ {l : List Int}, a ∈ dedup l ↔ a ∈ l
  | [] => Iff.rfl
  | b :: l => by
    rw [dedup]
    split
    · next hb => rw [mem_dedup, List.mem_cons]; exact ⟨.inr, fun h => h.elim (· ▸ hb) id⟩
    · rw [List.mem_cons, List.mem_cons, mem_dedup]

def rowOK (t : Tables) (h : Hints) (s : Nat) (row : List (Nat × Int)) : Bool :=
  row.all (fun c => if 0 < c.2 then c.1 != 0 && decide (c.1 < t.nTerm) && edgeOK h s c.1 c.2.toNat
                    else if c.2 = 0 then c.1 == 0 && acceptOK t h s else true) &&
  (dedup (row.map (·.2))).all (fun a => if a < 0 then reduceOK t h s (-a).toNat else true)

def gotoRowOK (h : Hints) (s : Nat) (row : List (Nat × Nat)) : Bool :=
  row.all (fun c => edgeOK h s c.1 c.2)

def checkFrom {α : Type} (f : Nat → α → Bool) : Nat → List α → Bool
  | _, [] => true
  | i, r :: rs => f i r && checkFrom f (i + 1) rs

theorem checkFrom_get {α : Type} {f : Nat → α → Bool} : ∀ {l : List α} {i j : Nat} {r : α},
    checkFrom f i l = true → l[j]? = some r → f (i + j) r = true
  | [], _, _, _, _, h => by simp at h
  | x :: l, i, 0, r, hc, h => by
    rw [checkFrom, Bool.and_eq_true] at hc
    rw [List.getElem?_cons_zero, Option.some.injEq] at h
    exact h ▸ hc.1
  | x :: l, i, j + 1, r, hc, h => by
    rw [checkFrom, Bool.and_eq_true] at hc
    rw [List.getElem?_cons_succ] at h
    rw [Nat.add_comm j 1, ← Nat.add_assoc]
    exact checkFrom_get hc.2 h

def checkTables (t : Tables) (h : Hints) : Bool :=
  decide (t.nTerm ≤ t.start) && t.prods.toList.all (fun p => decide (t.nTerm ≤ p.1)) && checkFrom (rowOK t h) 0 t.action.toList && checkFrom (gotoRowOK h) 0 t.goto.toList

/-- the grammar of the tables: `Grammar.Productions` without the augmented production 0 (`S' → start`), which no
    reduce action refers to (a reduce is `t < 0`, production `-t ≥ 1`) -/
def Tables.grammar (t : Tables) : Prods := t.prods.toList.drop 1

/-- decidable once the hint is given: `Gen/LrTables.lean` carries one -/
def TablesOK (t : Tables) : Prop := ∃ h : Hints, checkTables t h = true

/-- what `rowOK` asks of one cell; its `dedup` only keeps a reduce from being tested once per lookahead -/
def cellOK (t : Tables) (h : Hints) (s : Nat) (c : Nat × Int) : Bool :=
  if 0 < c.2 then c.1 != 0 && decide (c.1 < t.nTerm) && edgeOK h s c.1 c.2.toNat
  else if c.2 = 0 then c.1 == 0 && acceptOK t h s else reduceOK t h s (-c.2).toNat

theorem rowOK_iff {t : Tables} {h : Hints} {s : Nat} {row : List (Nat × Int)} :
    rowOK t h s row = true ↔ ∀ c ∈ row, cellOK t h s c = true := by
  simp only [rowOK, Bool.and_eq_true, List.all_eq_true, mem_dedup, List.mem_map, forall_exists_index, and_imp,
    forall_apply_eq_imp_iff₂, ← forall_and]
  refine forall_congr' fun c => forall_congr' fun _ => ?_
  unfold cellOK
  by_cases hp : 0 < c.2
  · simp [hp, show ¬ c.2 < 0 by omega]
  · by_cases h0 : c.2 = 0
    · simp [h0]
    · simp [hp, h0, show c.2 < 0 by omega]

/-! ## what the test gives for an action the machine reads -/

theorem toList_getD {α : Type} {a : Array (List α)} {s : Nat} {x : α} (hx : x ∈ a.getD s []) :
    a.toList[s]? = some (a.getD s []) := by
  rw [Array.getD_eq_getD_getElem?] at hx ⊢
  rw [Array.getElem?_toList]
  cases hg : a[s]? with
  | none => rw [hg] at hx; simp at hx
  | some r => simp

/-- a defaulted state answers whatever the lookahead: the cell is on `la` only when it is not a reduce -/
theorem actionOf_cell {t : Tables} {s la : Nat} {a : Int} (h : actionOf t s la = some a) :
    ∃ tok, (tok, a) ∈ row t s ∧ (0 ≤ a → tok = la) := by
  unfold actionOf at h
  split at h
  · next a' hd =>
    cases h
    unfold defaulted at hd
    split at hd
    · next tok a'' hr =>
      split at hd
      · next hneg => cases hd; exact ⟨tok, by rw [hr]; exact List.mem_cons_self, fun h0 => absurd h0 (by omega)⟩
      · cases hd
    · cases hd
  · exact ⟨la, assoc_mem h, fun _ => rfl⟩

section checked
variable {t : Tables} {h : Hints} (hc : checkTables t h = true)
include hc

theorem start_nonterminal : t.nTerm ≤ t.start := by
  simp only [checkTables, Bool.and_eq_true, decide_eq_true_eq] at hc
  exact hc.1.1.1

theorem lhs_nonterminal {p lhs : Nat} {rhs : List Nat} (hp : t.prods[p]? = some (lhs, rhs)) : t.nTerm ≤ lhs := by
  simp only [checkTables, Bool.and_eq_true, List.all_eq_true, decide_eq_true_eq] at hc
  exact hc.1.1.2 _ (List.mem_of_getElem? (Array.getElem?_toList ▸ hp))

theorem row_cell {s : Nat} {c : Nat × Int} (hm : c ∈ row t s) : cellOK t h s c = true := by
  simp only [checkTables, Bool.and_eq_true] at hc
  have := checkFrom_get hc.1.2 (toList_getD hm)
  rw [Nat.zero_add, rowOK_iff] at this
  exact this c hm

theorem shift_cell {s la : Nat} {a : Int} (ha : actionOf t s la = some a) (hpos : 0 < a) :
    la ≠ 0 ∧ la < t.nTerm ∧ edgeOK h s la a.toNat = true := by
  obtain ⟨tok, hm, htok⟩ := actionOf_cell ha
  obtain rfl := htok (Int.le_of_lt hpos)
  simpa [cellOK, hpos, and_assoc] using row_cell hc hm

theorem accept_cell {s la : Nat} (ha : actionOf t s la = some 0) : la = 0 ∧ acceptOK t h s = true := by
  obtain ⟨tok, hm, htok⟩ := actionOf_cell ha
  obtain rfl := htok (Int.le_refl 0)
  simpa [cellOK] using row_cell hc hm

theorem reduce_cell {s la : Nat} {a : Int} (ha : actionOf t s la = some a) (hneg : a < 0) :
    reduceOK t h s (-a).toNat = true := by
  obtain ⟨tok, hm, _⟩ := actionOf_cell ha
  simpa [cellOK, show ¬ 0 < a by omega, show a ≠ 0 by omega] using row_cell hc hm

theorem goto_cell {s x g : Nat} (hg : assoc x (t.goto.getD s []) = some g) : edgeOK h s x g = true := by
  have hm := assoc_mem hg
  simp only [checkTables, Bool.and_eq_true] at hc
  have := checkFrom_get hc.2 (toList_getD hm)
  simp only [gotoRowOK, List.all_eq_true, Nat.zero_add] at this
  exact this _ hm

end checked

/-! ## what one iteration read on its way -/

/-- the results of `step` with what was looked up to get there; in `reduce`, `s'` is the state that popping `|rhs|`
    states uncovers and `g` its goto -/
inductive Step (t : Tables) (c : Config) : StepRes → Prop
  | shift {s : Nat} {rest : List Nat} {a : Int} : c.stack = s :: rest → actionOf t s (lookahead c.input) = some a →
      0 < a → Step t c (.shift ⟨a.toNat :: c.stack, c.input.tail⟩)
  | reduce {s : Nat} {rest : List Nat} {a : Int} {lhs : Nat} {rhs : List Nat} {s' : Nat} {below : List Nat} {g : Nat} :
      c.stack = s :: rest → actionOf t s (lookahead c.input) = some a → a < 0 →
      t.prods[(-a).toNat]? = some (lhs, rhs) → c.stack.drop rhs.length = s' :: below →
      assoc lhs (t.goto.getD s' []) = some g → Step t c (.reduce (-a).toNat ⟨g :: s' :: below, c.input⟩)
  | accept {s : Nat} {rest : List Nat} : c.stack = s :: rest → actionOf t s (lookahead c.input) = some 0 →
      Step t c .accept
  | error : Step t c .error
  | crash : Step t c .crash

theorem step_spec (t : Tables) (c : Config) : Step t c (step t c) := by
  unfold step
  split
  · exact .crash
  · next s rest hst =>
    split
    · exact .error
    · next a ha =>
      split
      · next hpos => exact .shift hst ha hpos
      · split
        · next hneg =>
          split
          · exact .crash
          · next lhs rhs hp =>
            split
            · exact .crash
            · next s' below hd =>
              split
              · exact .crash
              · next g hg => exact .reduce hst ha hneg hp hd hg
        · exact .accept hst (by rw [ha, show a = 0 by omega])

theorem Step.of_eq {t : Tables} {c : Config} {r : StepRes} (hs : step t c = r) : Step t c r := hs ▸ step_spec t c

/-! ## the stack invariant -/

/-- the state stack (top first) is a path of the automaton that starts in state 0 -/
def Chain (h : Hints) : List Nat → Prop
  | [] => False
  | [s] => s = 0
  | s :: s' :: r => s ≠ 0 ∧ s' ∈ h.predOf s ∧ Chain h (s' :: r)

/-- the accessing symbols of all states but the bottom one (top first): the TYPE column of SLY's `symstack`
    without its `$end` sentinel -/
def symsOf (h : Hints) : List Nat → List Nat
  | [] => []
  | [_] => []
  | s :: s' :: r => h.accOf s :: symsOf h (s' :: r)

theorem edgeOK_chain {h : Hints} {s' x s : Nat} {r : List Nat} (he : edgeOK h s' x s = true)
    (hch : Chain h (s' :: r)) : Chain h (s :: s' :: r) ∧ symsOf h (s :: s' :: r) = x :: symsOf h (s' :: r) := by
  simp only [edgeOK, Bool.and_eq_true, bne_iff_ne, ne_eq, beq_iff_eq, List.contains_iff_mem] at he
  exact ⟨⟨he.1.1, he.2, hch⟩, by simp [symsOf, he.1.2]⟩

theorem pop_ok (h : Hints) : ∀ (xs : List Nat) (s : Nat) (rest : List Nat), Chain h (s :: rest) →
    backOK h s xs = true →
    symsOf h (s :: rest) = xs ++ symsOf h ((s :: rest).drop xs.length) ∧ Chain h ((s :: rest).drop xs.length)
  | [], _, _, hch, _ => ⟨rfl, hch⟩
  | x :: xs, s, [], hch, hb => by
    simp only [backOK, Bool.and_eq_true, bne_iff_ne] at hb
    exact absurd hch hb.1.1
  | x :: xs, s, s' :: r, ⟨_, hp, hch⟩, hb => by
    simp only [backOK, Bool.and_eq_true, beq_iff_eq, List.all_eq_true] at hb
    obtain ⟨hsy, hch'⟩ := pop_ok h xs s' r hch (hb.2 _ hp)
    exact ⟨by rw [symsOf, hb.1.2, hsy]; rfl, hch'⟩

/-! ## the machine is a shift-reduce parser on the stacked symbols -/

section checked
variable {t : Tables} {h : Hints} (hc : checkTables t h = true)
include hc

theorem shift_sim {c c' : Config} (hs : step t c = .shift c') (hch : Chain h c.stack) :
    ∃ x, c.input = x :: c'.input ∧ x ≠ 0 ∧ x < t.nTerm ∧ Chain h c'.stack ∧
      symsOf h c'.stack = x :: symsOf h c.stack := by
  cases Step.of_eq hs with | @shift s rest a hst ha hpos => ?_
  obtain ⟨hne, hlt, he⟩ := shift_cell hc ha hpos
  rw [hst] at hch ⊢
  obtain ⟨hch', hsy⟩ := edgeOK_chain he hch
  cases hin : c.input with
  | nil => rw [hin] at hne; exact absurd rfl hne
  | cons x inp => rw [hin] at hne hlt hsy; exact ⟨x, rfl, hne, hlt, hch', hsy⟩

theorem reduce_sim {c c' : Config} {p : Nat} (hs : step t c = .reduce p c') (hch : Chain h c.stack) :
    ∃ lhs rhs below, p ≠ 0 ∧ t.prods[p]? = some (lhs, rhs) ∧ symsOf h c.stack = rhs.reverse ++ below ∧
      c'.input = c.input ∧ Chain h c'.stack ∧ symsOf h c'.stack = lhs :: below := by
  cases Step.of_eq hs with | @reduce s rest a lhs rhs s' below g hst ha hneg hp hd hg => ?_
  have hred := reduce_cell hc ha hneg
  simp only [reduceOK, hp] at hred
  rw [hst] at hch
  obtain ⟨hsy, hch'⟩ := pop_ok h rhs.reverse s rest hch hred
  rw [List.length_reverse, ← hst, hd] at hsy hch'
  obtain ⟨hch'', hsy'⟩ := edgeOK_chain (goto_cell hc hg) hch'
  exact ⟨lhs, rhs, _, by omega, hp, hsy, rfl, hch'', hsy'⟩

theorem accept_sim {c : Config} (hs : step t c = .accept) (hch : Chain h c.stack) (h0 : 0 ∉ c.input) :
    c.input = [] ∧ symsOf h c.stack = [t.start] := by
  cases Step.of_eq hs with | @accept s rest hst ha => ?_
  obtain ⟨hla, hacc⟩ := accept_cell hc ha
  simp only [acceptOK, Bool.and_eq_true, bne_iff_ne, ne_eq, beq_iff_eq, List.all_eq_true] at hacc
  constructor
  · cases hin : c.input with
    | nil => rfl
    | cons x inp => rw [hin] at hla h0; exact absurd (hla ▸ List.mem_cons_self) h0
  · rw [hst] at hch ⊢
    match rest, hch with
    | [], hch => exact absurd hch hacc.1.1
    | [s'], _ => rw [symsOf, hacc.1.2]; rfl
    | s' :: s'' :: r', ⟨_, hp, hne, _⟩ => exact absurd (hacc.2 _ hp) hne

end checked

/-! ## the reduction sequence is a right-most derivation, in reverse; soundness follows -/

/-- `α A u ⇒ α rhs u` by production `p` (`A → rhs`); `u` is terminals only, so `A` is the right-most nonterminal -/
inductive RmStep (t : Tables) (p : Nat) : List Nat → List Nat → Prop
  | mk {α u : List Nat} {lhs : Nat} {rhs : List Nat} : t.prods[p]? = some (lhs, rhs) → t.nTerm ≤ lhs →
      (∀ x ∈ u, x < t.nTerm) → RmStep t p (α ++ lhs :: u) (α ++ rhs ++ u)

/-- `β ⇒rm* w` by the productions `ps` read BACKWARDS: `ps` is in reduction order, its head is the first reduction
    of the parse, the last step of the derivation -/
inductive RmDeriv (t : Tables) : List Nat → List Nat → List Nat → Prop
  | nil {β : List Nat} : RmDeriv t [] β β
  | cons {p : Nat} {qs β β1 w : List Nat} : RmDeriv t qs β β1 → RmStep t p β1 w → RmDeriv t (p :: qs) β w

theorem RmStep.yield {t : Tables} {p : Nat} {β β' w : List Nat} (hp : p ≠ 0) (hs : RmStep t p β β')
    (hy : Yield t.grammar β' w) : Yield t.grammar β w := by
  obtain @⟨α, u, lhs, rhs, hprod, _, _⟩ := hs
  have hmem : (lhs, rhs) ∈ t.grammar := by
    obtain ⟨k, rfl⟩ : ∃ k, p = k + 1 := ⟨p - 1, by omega⟩
    exact List.mem_of_getElem? (l := t.prods.toList.drop 1) (i := k)
      (by rw [List.getElem?_drop, Nat.add_comm, Array.getElem?_toList]; exact hprod)
  rw [List.append_assoc] at hy
  obtain ⟨w1, w2, rfl, h1, h2⟩ := Yield.split α hy
  obtain ⟨w3, w4, rfl, h3, h4⟩ := Yield.split rhs h2
  exact Yield.append h1 (Yield.nt hmem h3 h4)

theorem RmDeriv.yield {t : Tables} {ps β β' w : List Nat} (hd : RmDeriv t ps β β') (h0 : 0 ∉ ps)
    (hy : Yield t.grammar β' w) : Yield t.grammar β w := by
  induction hd with
  | nil => exact hy
  | cons _ hs ih =>
    exact ih (fun hm => h0 (List.mem_cons_of_mem _ hm)) (hs.yield (fun e => h0 (e ▸ List.mem_cons_self)) hy)

/-- the invariant of an accepting run: the reductions still to come derive (right-most, read backwards) the stacked
    symbols followed by the unread input from the start symbol, and the unread input consists of terminals -/
theorem accepts_rightmost {t : Tables} {h : Hints} (hc : checkTables t h = true) {c : Config} {r : Res}
    (hr : Run t c r) : ∀ ps, r = .accept ps → Chain h c.stack → 0 ∉ c.input →
    (∀ x ∈ c.input, x < t.nTerm) ∧ 0 ∉ ps ∧ RmDeriv t ps [t.start] ((symsOf h c.stack).reverse ++ c.input) := by
  induction hr with
  | shift hs _ ih =>
    intro ps hps hch h0
    obtain ⟨x, hin, hx0, hxt, hch', hsy⟩ := shift_sim hc hs hch
    rw [hin] at h0 ⊢
    obtain ⟨ht, hp0, hd⟩ := ih ps hps hch' fun hm => h0 (List.mem_cons_of_mem _ hm)
    refine ⟨fun y hy => ?_, hp0, by simpa [hsy] using hd⟩
    rcases List.mem_cons.1 hy with rfl | hy
    · exact hxt
    · exact ht y hy
  | @reduce _ _ p r hs _ ih =>
    intro ps hps hch h0
    obtain ⟨lhs, rhs, below, hp, hprod, hsy, hin, hch', hsy'⟩ := reduce_sim hc hs hch
    obtain ⟨ps', rfl⟩ : ∃ ps', r = .accept ps' := by
      cases r <;> simp [Res.cons] at hps
      exact ⟨_, rfl⟩
    cases hps
    obtain ⟨ht, hp0, hd⟩ := ih ps' rfl hch' (hin ▸ h0)
    rw [hin] at ht hd
    have hstep := RmStep.mk (α := below.reverse) hprod (lhs_nonterminal hc hprod) ht
    exact ⟨ht, by simp [hp0, Ne.symm hp], .cons (by simpa [hsy'] using hd) (by simpa [hsy] using hstep)⟩
  | accept hs =>
    intro ps hps hch h0
    cases hps
    obtain ⟨hin, hsy⟩ := accept_sim hc hs hch h0
    rw [hin, hsy]
    exact ⟨by simp, by simp, .nil⟩
  | error _ | crash _ => intro ps hps; cases hps

theorem accepted_derivation {t : Tables} (hok : TablesOK t) {toks ps : List Nat} (h0 : 0 ∉ toks)
    (hr : Run t (init toks) (.accept ps)) : (∀ x ∈ toks, x < t.nTerm) ∧ 0 ∉ ps ∧ RmDeriv t ps [t.start] toks := by
  obtain ⟨h, hc⟩ := hok
  simpa [init, symsOf] using accepts_rightmost hc hr ps rfl (by simp [init, Chain]) h0

/-- soundness of the LR machine, for any tables that pass the test: what `Parser.parse` accepts
    (no `$end` id 0 among the tokens) is a sentence of the grammar whose productions are the table's production list -/
theorem accepted_derivable {t : Tables} (hok : TablesOK t) {toks ps : List Nat} (h0 : 0 ∉ toks)
    (hr : Run t (init toks) (.accept ps)) : Yield t.grammar [t.start] toks :=
  have ⟨_, hp0, hd⟩ := accepted_derivation hok h0 hr
  hd.yield hp0 (Yield.refl toks)

/-- the derivation starts with a production: the one-symbol form `[start]` is not itself the sentence, the start
    symbol being no terminal -/
theorem accepted_rule {t : Tables} (hok : TablesOK t) {toks ps : List Nat} (h0 : 0 ∉ toks)
    (hr : Run t (init toks) (.accept ps)) :
    ∃ rhs, (t.start, rhs) ∈ t.grammar ∧ Yield t.grammar rhs toks := by
  have hterm := (accepted_derivation hok h0 hr).1
  have hy := accepted_derivable hok h0 hr
  obtain ⟨h, hc⟩ := hok
  have hs := start_nonterminal hc
  cases hy with
  | tok _ =>
    have := hterm t.start (by simp)
    omega
  | nt hm hrhs hnil =>
    cases hnil
    exact ⟨_, hm, by simpa using hrhs⟩

/-! ## blocks of steps and the frame property (used for completeness on regular fragments)

The machine looks at the FIRST unread token only: a block of `n` shift/reduce steps that ends with unread input
left runs identically when more input follows.  A loop of the token language whose body brings the state stack
back to where it started is then closed by induction, the body itself being evaluated by the kernel. -/

/-- `n` steps, all of them shifts or reduces: the configuration reached and the productions reduced -/
def stepsN (t : Tables) : Nat → Config → Option (Config × List Nat)
  | 0, c => some (c, [])
  | n + 1, c =>
    match step t c with
    | .shift c' => stepsN t n c'
    | .reduce p c' => (stepsN t n c').map fun (c'', r) => (c'', p :: r)
    | _ => none

theorem stepsN_succ {t : Tables} {n : Nat} {c c'' : Config} {reds : List Nat}
    (h : stepsN t (n + 1) c = some (c'', reds)) :
    (∃ c', step t c = .shift c' ∧ stepsN t n c' = some (c'', reds)) ∨
    (∃ p c' r, step t c = .reduce p c' ∧ stepsN t n c' = some (c'', r) ∧ reds = p :: r) := by
  unfold stepsN at h
  split at h
  · next c' hs => exact .inl ⟨c', hs, h⟩
  · next p c' hs =>
    obtain ⟨⟨c2, r⟩, h1, he⟩ := Option.map_eq_some_iff.1 h
    cases he
    exact .inr ⟨p, c', r, hs, h1, rfl⟩
  · cases h

theorem run_of_stepsN {t : Tables} : ∀ (n : Nat) {c c' : Config} {reds ps : List Nat},
    stepsN t n c = some (c', reds) → Run t c' (.accept ps) → Run t c (.accept (reds ++ ps))
  | 0, _, _, _, _, h, hr => by cases h; exact hr
  | n + 1, _, _, _, _, h, hr => by
    rcases stepsN_succ h with ⟨c1, hs, h1⟩ | ⟨p, c1, r1, hs, h1, rfl⟩
    · exact Run.shift hs (run_of_stepsN n h1 hr)
    · exact Run.reduce hs (run_of_stepsN n h1 hr)

theorem step_frame (t : Tables) (st : List Nat) (x : Nat) (inp rest : List Nat) :
    step t ⟨st, x :: inp ++ rest⟩ =
      match step t ⟨st, x :: inp⟩ with
      | .shift c' => .shift ⟨c'.stack, c'.input ++ rest⟩
      | .reduce p c' => .reduce p ⟨c'.stack, c'.input ++ rest⟩
      | o => o := by
  simp only [step, lookahead, List.cons_append, List.headD_cons, List.tail_cons]
  cases st with
  | nil => rfl
  | cons s st' =>
    simp only
    cases actionOf t s x with
    | none => rfl
    | some a =>
      simp only
      split
      · rfl
      · split
        · cases t.prods[(-a).toNat]? with
          | none => rfl
          | some lr =>
            obtain ⟨lhs, rhs⟩ := lr
            simp only
            cases List.drop rhs.length (s :: st') with
            | nil => rfl
            | cons s' below =>
              simp only
              cases assoc lhs (t.goto.getD s' []) <;> rfl
        · rfl

theorem stepsN_input_nil {t : Tables} : ∀ (n : Nat) {st : List Nat} {c' : Config} {reds : List Nat},
    stepsN t n ⟨st, []⟩ = some (c', reds) → c'.input = []
  | 0, _, _, _, h => by cases h; rfl
  | n + 1, _, _, _, h => by
    rcases stepsN_succ h with ⟨c1, hs, h1⟩ | ⟨p, c1, r1, hs, h1, rfl⟩
    · cases Step.of_eq hs
      exact stepsN_input_nil n h1
    · cases Step.of_eq hs
      exact stepsN_input_nil n h1

theorem stepsN_frame {t : Tables} : ∀ (n : Nat) {st inp : List Nat} {c' : Config} {reds : List Nat},
    stepsN t n ⟨st, inp⟩ = some (c', reds) → c'.input ≠ [] →
    ∀ rest, stepsN t n ⟨st, inp ++ rest⟩ = some (⟨c'.stack, c'.input ++ rest⟩, reds)
  | 0, _, _, _, _, h, _, _ => by cases h; rfl
  | n + 1, st, [], _, _, h, hne, _ => absurd (stepsN_input_nil _ h) hne
  | n + 1, st, x :: inp, _, _, h, hne, rest => by
    have hf := step_frame t st x inp rest
    rcases stepsN_succ h with ⟨c1, hs, h1⟩ | ⟨p, c1, r1, hs, h1, rfl⟩
    · rw [hs] at hf
      simp only [stepsN, hf]
      exact stepsN_frame n h1 hne rest
    · rw [hs] at hf
      simp only [stepsN, hf, stepsN_frame n h1 hne rest]
      rfl

end MontePyVerif.LR
