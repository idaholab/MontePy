import MontePyVerif.Model.Write
/-! The `with` body of `Model/Write.lean`, for C15.  Every piece of it that writes (one `fh.write`, a loop, a
    statement) meets one contract, `Writes`, and a piece that only formats meets `Formats`; each is proved once per
    function of the model, and pieces are put together by `Writes.seq` and `Formats.thenWrite`. -/
namespace MontePyVerif.Write
open MontePyVerif.Gen.WriteOrder (Seg)

/-- the text accepted so far by the handle: what has reached the temporary file, followed by what is
    still in Python's buffer (`none`: there is no temporary) -/
def accepted (w : W) : Option (List String) := w.fs.tmp.map (· ++ w.buf)

theorem accepted_congr {w w' : W} (hfs : w'.fs = w.fs) (hbuf : w'.buf = w.buf) : accepted w' = accepted w := by
  rw [accepted, hfs, hbuf, accepted]

theorem accepted_write {w w' : W} {t : String} (hfs : w'.fs = w.fs) (hbuf : w'.buf = w.buf ++ [t]) :
    accepted w' = (accepted w).map (· ++ [t]) := by
  cases h : w.fs.tmp <;> simp [accepted, hfs, hbuf, h]

theorem fsFlushTmp_buf (w : W) : (fsFlushTmp w.fs w.buf).tmp = accepted w := rfl

theorem accepted_flush {w w' : W} (hfs : w'.fs = fsFlushTmp w.fs w.buf) (hbuf : w'.buf = []) :
    accepted w' = accepted w := by
  rw [accepted, hfs, hbuf, fsFlushTmp_buf]
  simp

/-- the fault, if there is one, is not in the `with` body -/
def Fault.sparesBody : Fault → Prop
  | .format .. | .write .. => False
  | _ => True

/-- the closed form of two pieces of the body, one after the other -/
def cat (a b : Option (List String)) : Option (List String) := a.bind fun x => b.map (x ++ ·)

theorem cat_eq_some {a b : Option (List String)} {out : List String} (h : cat a b = some out) :
    ∃ x y, a = some x ∧ b = some y ∧ x ++ y = out := by
  cases a <;> cases b <;> cases h
  exact ⟨_, _, rfl, rfl, rfl⟩

/-- the contract of a piece of the `with` body that starts in `w`, ends in `r` and has the closed form `spec`
    (`none`: one of its objects raises) -/
structure Writes (plan : Fault) (w : W) (r : W × Option Err) (spec : Option (List String)) : Prop where
  dest : r.1.fs.dest = w.fs.dest
  ok : r.2 = none →
    ∃ out, spec = some out ∧ out.all encodable = true ∧ accepted r.1 = (accepted w).map (· ++ out)
  live : plan.sparesBody → ∀ out, spec = some out → out.all encodable = true → r.2 = none

theorem Writes.nil {plan : Fault} {w : W} : Writes plan w (w, none) (some []) :=
  ⟨rfl, fun _ => ⟨[], rfl, rfl, by simp⟩, fun _ _ _ _ => rfl⟩

/-- sequencing, in the shape all loops of the body have: the first exception ends the piece -/
theorem Writes.seq {plan : Fault} {w : W} {a b : Option (List String)} {g : W → W × Option Err} :
    ∀ {r : W × Option Err}, Writes plan w r a → (∀ w₁, Writes plan w₁ (g w₁) b) →
      Writes plan w (match r with | (w₁, some e) => (w₁, some e) | (w₁, none) => g w₁) (cat a b)
  | (w₁, none), h₁, h₂ => by
    obtain ⟨x, rfl, hx, hacc⟩ := h₁.ok rfl
    refine ⟨(h₂ w₁).dest.trans h₁.dest, fun hr => ?_, fun hp out hs he => ?_⟩
    · obtain ⟨y, rfl, hy, hacc₂⟩ := (h₂ w₁).ok hr
      exact ⟨x ++ y, rfl, by simp [hx, hy], by simp [hacc₂, hacc, Function.comp_def]⟩
    · obtain ⟨_, y, ⟨rfl⟩, rfl, rfl⟩ := cat_eq_some hs
      rw [List.all_append, Bool.and_eq_true] at he
      exact (h₂ w₁).live hp y rfl he.2
  | (w₁, some e), h₁, _ => by
    refine ⟨h₁.dest, nofun, fun hp out hs he => ?_⟩
    obtain ⟨x, y, rfl, rfl, rfl⟩ := cat_eq_some hs
    rw [List.all_append, Bool.and_eq_true] at he
    exact h₁.live hp x rfl he.1

theorem doWrite_writes (plan : Fault) (w : W) (l : String) : Writes plan w (doWrite plan w l) (some [l]) := by
  -- a call that the fault plan does not hit does what a call without a fault does
  have full : Writes plan w (doWrite .none w l) (some [l]) := by
    unfold doWrite
    dsimp only
    split
    · next henc =>
      refine ⟨?_, fun _ => ⟨[l], rfl, by simp [henc], ?_⟩, fun _ _ _ _ => rfl⟩
      · split <;> rfl
      · split
        · exact (accepted_flush (w := { w with buf := w.buf ++ [l] }) rfl rfl).trans (accepted_write rfl rfl)
        · exact accepted_write rfl rfl
    · next henc => exact ⟨rfl, nofun, fun _ out hs he => by cases hs; simp [henc] at he⟩
  -- unfolded, every branch of `match plan` that the fault does not hit is, as a term, the branch of `.none`: `full` fits
  unfold doWrite at full ⊢
  dsimp only at full ⊢
  split
  · split
    · exact ⟨rfl, nofun, nofun⟩
    · exact full
  · exact full

theorem writeLines_writes (plan : Fault) (w : W) (ls : List String) :
    Writes plan w (writeLines plan w ls) (some ls) := by
  induction ls generalizing w with
  | nil => exact .nil
  | cons l t ih => exact (doWrite_writes plan w l).seq ih

/-! ## formatting: the handle is not involved -/

def Fmt.out : Fmt → Option (List String)
  | .lines ls => some ls
  | .raises _ => none

theorem linesOf_cons (o : Fmt) (t : List Fmt) : linesOf (o :: t) = cat o.out (linesOf t) := by
  cases o <;> rfl

/-- the contract of a piece of the body that only formats, with the closed form `spec` -/
structure Formats (plan : Fault) (w : W) (r : W × Except Err (List String)) (spec : Option (List String)) : Prop where
  fs : r.1.fs = w.fs
  buf : r.1.buf = w.buf
  ok : ∀ ls, r.2 = .ok ls → spec = some ls
  live : plan.sparesBody → ∀ ls, spec = some ls → r.2 = .ok ls

theorem Formats.thenWrite {plan : Fault} {w : W} {a : Option (List String)} {b : List String → Option (List String)}
    {g : W → List String → W × Option Err} :
    ∀ {r : W × Except Err (List String)}, Formats plan w r a → (∀ w₁ ls, Writes plan w₁ (g w₁ ls) (b ls)) →
      Writes plan w (match r with | (w₁, .error e) => (w₁, some e) | (w₁, .ok ls) => g w₁ ls) (a.bind b)
  | (w₁, .ok ls), h₁, h₂ => by
    obtain rfl := h₁.ok ls rfl
    exact ⟨(h₂ w₁ ls).dest.trans (congrArg FS.dest h₁.fs), fun hr => accepted_congr h₁.fs h₁.buf ▸ (h₂ w₁ ls).ok hr,
      (h₂ w₁ ls).live⟩
  | (w₁, .error e), h₁, _ => by
    refine ⟨congrArg FS.dest h₁.fs, nofun, fun hp out hs _ => ?_⟩
    obtain ⟨ls, rfl, -⟩ := Option.bind_eq_some_iff.1 hs
    exact nomatch h₁.live hp ls rfl

theorem doFormat_formats (plan : Fault) (w : W) (o : Fmt) : Formats plan w (doFormat plan w o) o.out := by
  have normal : Formats plan w (doFormat .none w o) o.out := by
    cases o
    · exact ⟨rfl, rfl, fun _ h => by cases h; rfl, fun _ _ h => by cases h; rfl⟩
    · exact ⟨rfl, rfl, nofun, fun _ _ h => nomatch h⟩
  -- as in `doWrite_writes`: the branches that the fault does not hit are the `.none` branch word for word
  unfold doFormat at normal ⊢
  dsimp only at normal ⊢
  split
  · split
    · exact ⟨rfl, rfl, nofun, nofun⟩
    · exact normal
  · exact normal

theorem runChildrenFormat_formats (plan : Fault) (w : W) (os : List Fmt) :
    Formats plan w (runChildrenFormat plan w os) (linesOf os) := by
  induction os generalizing w with
  | nil => exact ⟨rfl, rfl, fun _ h => by cases h; rfl, fun _ _ h => by cases h; rfl⟩
  | cons o t ih =>
    have h₁ := doFormat_formats plan w o
    rw [linesOf_cons, runChildrenFormat]
    generalize doFormat plan w o = r₁ at h₁ ⊢
    obtain ⟨w₁, e | ls⟩ := r₁
    · refine ⟨h₁.fs, h₁.buf, nofun, fun hp z hs => ?_⟩
      obtain ⟨x, -, hx, -, -⟩ := cat_eq_some hs
      exact nomatch h₁.live hp x hx
    · have h₂ := ih w₁
      rw [h₁.ok ls rfl]
      dsimp only
      generalize runChildrenFormat plan w₁ t = r₂ at h₂ ⊢
      obtain ⟨w₂, e | rest⟩ := r₂
      · refine ⟨h₂.fs.trans h₁.fs, h₂.buf.trans h₁.buf, nofun, fun hp z hs => ?_⟩
        obtain ⟨-, y, -, hy, -⟩ := cat_eq_some hs
        exact nomatch h₂.live hp y hy
      · rw [h₂.ok rest rfl]
        exact ⟨h₂.fs.trans h₁.fs, h₂.buf.trans h₁.buf, fun _ h => by cases h; rfl, fun _ _ h => by cases h; rfl⟩

/-! ## the statements of the body -/

theorem writeObjects_writes (plan : Fault) (w : W) (os : List Fmt) :
    Writes plan w (writeObjects plan w os) (linesOf os) := by
  induction os generalizing w with
  | nil => exact .nil
  | cons o t ih =>
    rw [linesOf_cons]
    exact (doFormat_formats plan w o).thenWrite fun w₁ ls => (writeLines_writes plan w₁ ls).seq ih

theorem runSeg_writes (plan : Fault) (p : Problem) (w : W) (s : Seg) :
    Writes plan w (runSeg plan p w s) (segLines p s) := by
  cases s
  case blank => exact doWrite_writes plan w ""
  case modifiers =>
    have := (runChildrenFormat_formats plan w p.modifiers).thenWrite (writeLines_writes plan)
    rwa [Option.bind_fun_some] at this
  all_goals exact writeObjects_writes plan w _

theorem renderSeq_cons (p : Problem) (s : Seg) (t : List Seg) :
    renderSeq p (s :: t) = cat (segLines p s) (renderSeq p t) := by
  simp only [renderSeq, cat]
  cases segLines p s <;> cases renderSeq p t <;> rfl

theorem runSeq_writes (plan : Fault) (p : Problem) (w : W) (seq : List Seg) :
    Writes plan w (runSeq plan p w seq) (renderSeq p seq) := by
  induction seq generalizing w with
  | nil => exact .nil
  | cons s t ih =>
    rw [renderSeq_cons]
    exact (runSeg_writes plan p w s).seq ih

end MontePyVerif.Write
