import MontePyVerif.Lemmas.GeometrySwitch
/-! `_update_values` level by level (`updateValues`) is `_ensure_has_nodes` once plus `_update_node` everywhere
    (`updateOnce`) on every well-formed tree: running `_ensure_has_nodes` again on a subtree that was just linked changes
    nothing (`ensure_idem`).  With `ensure_linked` and `update_ready`: `_update_values` establishes `ready` and keeps
    the meaning (`updateValues_spec`). -/
namespace MontePyVerif.C02
open MontePyVerif.Spec.Geometry MontePyVerif.Geometry

/-- **`_update_node` on every node turns `linked` into `ready`**; texts only get more closed, meanings stay. -/
theorem update_ready (h : HS) (hl : linked h = true) :
    ready (updateAll h) = true ∧ Le (updateAll h).fmt h.fmt ∧ Same (updateAll h) h := by
  induction h with
  | unit d s c n => exact ⟨gen_unit.2 (gen_unit.1 hl), Le.refl _, Same.refl _⟩
  | compl l n ih =>
    rcases cell_or l with ⟨d, s, vn, rfl⟩ | hcu
    · obtain ⟨v, g, rfl, rfl, ho, hopr, rest⟩ := gen_cell.1 hl
      have hu : updateAll (.compl (.unit d s true (some v)) (some g)) = .compl (.unit d s true (some v)) (some g) :=
        congrArg (fun x => HS.compl _ (some x)) (updateNodeCompl_id g hopr)
      rw [hu]
      exact ⟨gen_cell.2 ⟨v, g, rfl, rfl, ho, hopr, rest⟩, Le.refl _, Same.refl _⟩
    · obtain ⟨g, rfl, hll, ho, hopr, hhp, hck, hep⟩ := (gen_compl hcu).1 hl
      obtain ⟨i1, i2, i3⟩ := ih hll
      have hu : updateAll (.compl l (some g)) = .compl (updateAll l) (some g) :=
        congrArg (fun x => HS.compl _ (some x)) (updateNodeCompl_id g hopr)
      rw [hu]
      refine ⟨(gen_compl (i3.cellU.trans hcu)).2 ⟨g, rfl, i1, ho, hopr, hhp, chainOK_le i2 hck, hep⟩,
        ?_, i3.compl_congr _ _⟩
      rw [fmt_compl ho, fmt_compl ho]
      exact Le.append (Le.refl _) (Le.append (i2.wrap _) (Le.refl _))
  | bin o l r n ihl ihr =>
    obtain ⟨g, rfl, hll, hlr, ho, hckl, hckr, hLc, hclean, hopr, hsep, hep⟩ := gen_bin.1 hl
    obtain ⟨l1, l2, l3⟩ := ihl hll
    obtain ⟨r1, r2, r3⟩ := ihr hlr
    obtain ⟨opr', hg', hok, hap, heq', hcl'⟩ := updateNodeBin_spec o g hclean hopr
    have hu : updateAll (.bin o l r (some g)) = .bin o (updateAll l) (updateAll r) (some { g with opr := opr' }) :=
      congrArg (fun x => HS.bin o _ _ (some x)) hg'
    rw [hu]
    have ho' : orderOK { g with opr := opr' } [.left, .operator, .right] = true := ho
    refine ⟨gen_bin.2 ⟨_, rfl, l1, r1, ho', chainOK_le l2 hckl, chainOK_le r2 hckr,
        (l2.wrap _).closed hLc, hcl', hok, fun hi => ⟨fun _ => ?_, ?_, ?_⟩, hep⟩,
      ?_, Same.bin_congr o l3 r3 _ _⟩
    · exact (hap hi).imp_right (Or.imp_right Or.inl)
    · rw [l3.isU]; exact (hsep hi).2.1
    · rw [r3.isU]; exact (hsep hi).2.2
    · rw [fmt_bin ho, fmt_bin ho']
      exact Le.append (l2.wrap _)
        (Le.append (fun c hh => by rw [heq' c] at hh; exact hh) (Le.append (r2.wrap _) (Le.refl _)))

/-! ## running `_ensure_has_nodes` again changes nothing -/

theorem ensure_idem (b : Bool) (c : Nat) (h : HS) (hl : gen b h = true) (hf : fresh h = true) :
    ensureHasNodes c h = (h, c) := by
  induction h generalizing c with
  | unit d s ic n =>
    obtain ⟨rfl, v, rfl, _⟩ := gen_unit.1 hl
    rfl
  | compl l n ih =>
    rcases cell_or l with ⟨d, s, vn, rfl⟩ | hcu
    · obtain ⟨v, g, rfl, rfl, _, _, hbare, _⟩ := gen_cell.1 hl
      have := linkChild_idem c none false g.lchain g.ltarget (.unit d s true (some v)) (fresh_compl.1 hf).2
        (chainOK_allBare hbare _) (by simp [needsParens]) (by simp)
      simp only [ensureHasNodes, this]
    · obtain ⟨g, rfl, hll, _, _, hhp, hck, _⟩ := (gen_compl hcu).1 hl
      obtain ⟨hfl, htl⟩ := fresh_compl.1 hf
      have := linkChild_idem c none false g.lchain g.ltarget l htl hck (fun _ => hhp) (by simp)
      simp only [ensureHasNodes, ih c hll hfl, this]
  | bin o l r n ihl ihr =>
    obtain ⟨g, rfl, hll, hlr, _, hckl, hckr, hLc, _, _, hsep, _⟩ := gen_bin.1 hl
    obtain ⟨hfl, hfr, htl, htr⟩ := fresh_bin.1 hf
    have h1 := linkChild_idem c (some o) true g.lchain g.ltarget l htl hckl
      (needs_head_iff.2 fun ho => (hsep ho).2.1) (fun _ => hLc)
    have h2 := linkChild_idem c (some o) false g.rchain g.rtarget r htr hckr
      (needs_head_iff.2 fun ho => (hsep ho).2.2) (by simp)
    simp only [ensureHasNodes, ihl c hll hfl, ihr c hlr hfr, h1, h2]

/-! ## level by level = once -/

/-- what `_update_values` does below the `_ensure_has_nodes` of the current level -/
def levelsBody (f : Nat) (c : Nat) (e1 : HS) : HS × Nat :=
  match updateNodeHere e1 with
  | .unit d s ic n => (.unit d s ic n, c)
  | .compl l n =>
      let a := updateLevels f c l
      (.compl a.1 n, a.2)
  | .bin o l r n =>
      let a := updateLevels f c l
      let b := updateLevels f a.2 r
      (.bin o a.1 b.1 n, b.2)

theorem updateLevels_succ (f c : Nat) (h : HS) :
    updateLevels (f + 1) c h = levelsBody f (ensureHasNodes c h).2 (ensureHasNodes c h).1 := rfl

theorem updateLevels_unit (f c : Nat) (d : Nat) (s ic : Bool) (v : VN) :
    updateLevels f c (.unit d s ic (some v)) = (.unit d s ic (some v), c) := by
  cases f <;> rfl

/-- below a level whose subtree is linked and fresh, the remaining levels only run `_update_node` -/
theorem levels_eq (f : Nat) : ∀ (c : Nat) (h : HS), linked h = true → fresh h = true → h.height < f →
    updateLevels f c h = (updateAll h, c) := by
  induction f with
  | zero => intro c h _ _ hh; omega
  | succ f ih =>
    intro c h hl hf hh
    rw [updateLevels_succ, ensure_idem false c h hl hf]
    cases h with
    | unit d s ic n => rfl
    | compl l n =>
      simp only [HS.height] at hh
      rcases cell_or l with ⟨d, s, vn, rfl⟩ | hcu
      · obtain ⟨v, g, rfl, rfl, _⟩ := gen_cell.1 hl
        simp [levelsBody, updateNodeHere, updateLevels_unit, updateAll]
      · obtain ⟨g, rfl, hll, _⟩ := (gen_compl hcu).1 hl
        simp [levelsBody, updateNodeHere, ih c l hll (fresh_compl.1 hf).1 (by omega), updateAll]
    | bin o l r n =>
      obtain ⟨g, rfl, hll, hlr, _⟩ := gen_bin.1 hl
      obtain ⟨hfl, hfr, _⟩ := fresh_bin.1 hf
      simp only [HS.height] at hh
      simp [levelsBody, updateNodeHere, ih c l hll hfl (by omega), ih c r hlr hfr (by omega), updateAll]

theorem body_eq (f c : Nat) (e1 : HS) (hl : linked e1 = true) (hf : fresh e1 = true) (hh : e1.height ≤ f) :
    levelsBody f c e1 = (updateAll e1, c) := by
  have := levels_eq (f + 1) c e1 hl hf (by omega)
  rwa [updateLevels_succ, ensure_idem false c e1 hl hf] at this

theorem updateLevels_eq_once (f c : Nat) (h : HS) (hw : wf h = true) (hf : h.height < f) :
    updateLevels f c h = updateOnce c h := by
  have e := ensure_linked c h hw
  cases f with
  | zero => omega
  | succ f =>
    rw [updateLevels_succ, body_eq _ _ _ e.linked e.fr (by rw [e.ht]; omega)]
    rfl

/-- **`_update_values` level by level is `_ensure_has_nodes` once and `_update_node` everywhere**, on every
    well-formed tree; `_link_child` running again on every level changes nothing. -/
theorem updateValues_eq_once (c : Nat) (h : HS) (hw : wf h = true) : updateValues c h = updateOnce c h :=
  updateLevels_eq_once _ c h hw (Nat.lt_succ_self _)

theorem updateLevels_fuel (f c : Nat) (h : HS) (hw : wf h = true) (hf : h.height < f) :
    updateLevels f c h = updateValues c h :=
  (updateLevels_eq_once f c h hw hf).trans (updateValues_eq_once c h hw).symm

/-- **`_update_values`** brings every well-formed tree into the state `ready` and changes no meaning -/
theorem updateValues_spec (c : Nat) (h : HS) (hw : wf h = true) :
    ready (updateValues c h).1 = true ∧ Same (updateValues c h).1 h := by
  rw [updateValues_eq_once c h hw]
  have e := ensure_linked c h hw
  have u := update_ready _ e.linked
  exact ⟨u.1, u.2.2.trans e.same⟩

end MontePyVerif.C02
