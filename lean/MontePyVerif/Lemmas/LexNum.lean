import MontePyVerif.Model.LexNum
/-! # Lemmas.LexNum — what the numeric matcher does on ALL spellings of G's `Real` and shortcut rules

Spellings are lists of character kinds built from arbitrary digit lists (a digit is represented by its only
relevant bit: whether it is `0`); the theorems are inductions over those digit lists, no sampling.
-/
namespace MontePyVerif.LexNum
open K

def digs (zs : List Bool) : List K := zs.map K.dig

@[simp] theorem digs_nil : digs [] = [] := rfl
@[simp] theorem digs_cons (z : Bool) (zs : List Bool) : digs (z :: zs) = K.dig z :: digs zs := rfl
@[simp] theorem digs_length (zs : List Bool) : (digs zs).length = zs.length := by simp [digs]

@[simp] theorem cntD_digs_append (zs : List Bool) (r : List K) : cntD (digs zs ++ r) = zs.length + cntD r := by
  induction zs with
  | nil => simp
  | cons z zs ih => simp [cntD, ih]; omega

@[simp] theorem skipD_digs_append (zs : List Bool) (r : List K) : skipD (digs zs ++ r) = skipD r := by
  induction zs with
  | nil => simp
  | cons z zs ih => simp [skipD, ih]

@[simp] theorem cntD_digs (zs : List Bool) : cntD (digs zs) = zs.length := by
  have := cntD_digs_append zs []; simpa [cntD] using this
@[simp] theorem skipD_digs (zs : List Bool) : skipD (digs zs) = [] := by
  have := skipD_digs_append zs []; simpa [skipD] using this

@[simp] theorem skipD_dot (t : List K) : skipD (K.dot :: t) = K.dot :: t := rfl
@[simp] theorem skipD_e (t : List K) : skipD (K.e :: t) = K.e :: t := rfl
@[simp] theorem skipD_plus (t : List K) : skipD (K.plus :: t) = K.plus :: t := rfl
@[simp] theorem skipD_minus (t : List K) : skipD (K.minus :: t) = K.minus :: t := rfl
@[simp] theorem skipD_m (t : List K) : skipD (K.m :: t) = K.m :: t := rfl
@[simp] theorem skipD_nil : skipD [] = [] := rfl
@[simp] theorem skipD_dig (z : Bool) (t : List K) : skipD (K.dig z :: t) = skipD t := rfl
@[simp] theorem cntD_dot (t : List K) : cntD (K.dot :: t) = 0 := rfl
@[simp] theorem cntD_e (t : List K) : cntD (K.e :: t) = 0 := rfl
@[simp] theorem cntD_plus (t : List K) : cntD (K.plus :: t) = 0 := rfl
@[simp] theorem cntD_minus (t : List K) : cntD (K.minus :: t) = 0 := rfl
@[simp] theorem cntD_m (t : List K) : cntD (K.m :: t) = 0 := rfl
@[simp] theorem cntD_nil : cntD [] = 0 := rfl
@[simp] theorem cntD_dig (z : Bool) (t : List K) : cntD (K.dig z :: t) = cntD t + 1 := rfl

theorem drop_digs_append (zs : List Bool) (r : List K) : (digs zs ++ r).drop zs.length = r := by
  have : zs.length = (digs zs).length := by simp
  rw [this]; exact List.drop_left

theorem headIsDig_reverse_digs (pre : List K) (z : Bool) (zs : List Bool) :
    headIsDig (pre ++ digs (z :: zs)).reverse = true := by
  induction zs generalizing pre z with
  | nil => simp [headIsDig, K.isDig]
  | cons y ys ih =>
    have := ih (pre ++ [K.dig z]) y
    simpa [List.append_assoc] using this

theorem all_digs_zero (zs : List Bool) : (digs zs).all (fun k => k != K.dig false) = zs.all id := by
  induction zs with
  | nil => rfl
  | cons z zs ih => cases z <;> simp [ih]

@[simp] theorem mantPart_digs_append (zs : List Bool) (r : List K) : mantPart (digs zs ++ r) = digs zs ++ mantPart r := by
  induction zs with
  | nil => simp
  | cons z zs ih => simp [mantPart, ih]

/-! ## G's `Real` rule as data
    Real ::= ["+"|"-"] ( Digits | Digits "." [Digits] | "." Digits ) [ ("e"|"E") ["+"|"-"] Digits | ("+"|"-") Digits ]
    (the exponent without a letter requires a "." in the significand; the letter case is gone after `kind`) -/

def signK : Option Bool → List K
  | none => []
  | some true => [K.plus]
  | some false => [K.minus]

/-- the significand: at least one digit -/
inductive MantSp
  | int (z : Bool) (ip : List Bool)                         -- Digits
  | intDot (z : Bool) (ip : List Bool) (fp : List Bool)     -- Digits "." [Digits]
  | dotFrac (z : Bool) (fp : List Bool)                     -- "." Digits

def MantSp.ks : MantSp → List K
  | .int z ip => digs (z :: ip)
  | .intDot z ip fp => digs (z :: ip) ++ K.dot :: digs fp
  | .dotFrac z fp => K.dot :: digs (z :: fp)

def MantSp.hasPoint : MantSp → Bool
  | .int .. => false
  | _ => true

def MantSp.digits : MantSp → List Bool
  | .int z ip => z :: ip
  | .intDot z ip fp => z :: ip ++ fp
  | .dotFrac z fp => z :: fp

/-- the exponent: absent, or at least one digit (5.2 allows one to three; the theorems hold for any number) -/
inductive ExpSp
  | none
  | letter (sg : Option Bool) (z : Bool) (ds : List Bool)   -- e [sign] Digits
  | bare (minus : Bool) (z : Bool) (ds : List Bool)         -- sign Digits

def ExpSp.ks : ExpSp → List K
  | .none => []
  | .letter sg z ds => K.e :: (signK sg ++ K.dig z :: digs ds)
  | .bare mn z ds => (if mn then K.minus else K.plus) :: K.dig z :: digs ds

def ExpSp.isBare : ExpSp → Bool
  | .bare .. => true
  | _ => false

structure RealSp where
  sign : Option Bool
  mant : MantSp
  exp : ExpSp

def RealSp.WF (r : RealSp) : Prop := r.exp.isBare = true → r.mant.hasPoint = true
def RealSp.ks (r : RealSp) : List K := signK r.sign ++ (r.mant.ks ++ r.exp.ks)
/-- the value is zero iff every digit of the significand is `0` -/
def RealSp.isZero (r : RealSp) : Bool := r.mant.digits.all id

/-! ### the exponent part, seen by each piece of the matcher

`t` is what follows the number: nothing, or the `m` of a multiply shortcut.  The hypotheses on `t` say that it does
not go on with the number; each holds by evaluation for either `t`. -/

theorem exp_cntD_tail (x : ExpSp) {t : List K} (hd : cntD t = 0) : cntD (x.ks ++ t) = 0 := by
  cases x with
  | none => exact hd
  | letter sg z ds => rfl
  | bare mn z ds => cases mn <;> rfl

theorem exp_skipD_tail (x : ExpSp) {t : List K} (hs : skipD t = t) : skipD (x.ks ++ t) = x.ks ++ t := by
  cases x with
  | none => exact hs
  | letter sg z ds => rfl
  | bare mn z ds => cases mn <;> rfl

theorem exp_numTail_tail (x : ExpSp) {t : List K} (hd : cntD t = 0) (h0 : numTail t = 0) :
    numTail (x.ks ++ t) = x.ks.length := by
  cases x with
  | none => simpa [ExpSp.ks] using h0
  | letter sg z ds => cases sg with
    | none => simp [ExpSp.ks, numTail, signK, cntS, skipS, K.isSign, hd]; omega
    | some b => cases b <;> simp [ExpSp.ks, numTail, signK, cntS, skipS, K.isSign, hd] <;> omega
  | bare mn z ds => cases mn <;> simp [ExpSp.ks, numTail, cntS, skipS, K.isSign, hd] <;> omega

theorem exp_optExp_tail (x : ExpSp) {t : List K} (hd : cntD t = 0) (h0 : optExp t = 0) :
    optExp (x.ks ++ t) = x.ks.length := by
  cases x with
  | none => simpa [ExpSp.ks] using h0
  | letter sg z ds => cases sg with
    | none => simp [ExpSp.ks, optExp, signK, cntS, skipS, K.isSign, hd]; omega
    | some b => cases b <;> simp [ExpSp.ks, optExp, signK, cntS, skipS, K.isSign, hd] <;> omega
  | bare mn z ds => cases mn <;> simp [ExpSp.ks, optExp, hd] <;> omega

theorem exp_cntD (x : ExpSp) : cntD x.ks = 0 := by simpa using exp_cntD_tail x (t := []) rfl
theorem exp_skipD (x : ExpSp) : skipD x.ks = x.ks := by simpa using exp_skipD_tail x (t := []) rfl
theorem exp_numTail (x : ExpSp) : numTail x.ks = x.ks.length := by simpa using exp_numTail_tail x (t := []) rfl rfl
theorem exp_optExp (x : ExpSp) : optExp x.ks = x.ks.length := by simpa using exp_optExp_tail x (t := []) rfl rfl

theorem exp_mantPart (x : ExpSp) : mantPart x.ks = [] := by
  cases x with
  | none => rfl
  | letter sg z ds => rfl
  | bare mn z ds => cases mn <;> rfl

/-- what `fortran_float` needs to read the token -/
theorem exp_readable (x : ExpSp) : (x.ks.isEmpty || headIsDig x.ks.reverse) = true := by
  cases x with
  | none => rfl
  | letter sg z ds =>
    have := headIsDig_reverse_digs (K.e :: signK sg) z ds
    simpa [ExpSp.ks] using this
  | bare mn z ds =>
    have := headIsDig_reverse_digs [if mn then K.minus else K.plus] z ds
    simpa [ExpSp.ks] using this

/-! ### the four matchers on a `Real` spelling

ZAID and NUMBER_WORD's first pattern are stated once, for a number followed by `t` = nothing or `m` (`zaid_tail`,
`nw1_tail`); the `real_…` and `mult_…` lemmas are the two instances.  NUMBER_WORD's second pattern and NUMBER need no
statement of their own for that: `real_nw2`, `mult_nw2`, `real_number`, `mult_isMultiply` rewrite with
`mant_mantissa_tail` and the `exp_…_tail` lemmas directly. -/

/-- the only `<x>m` the ZAID rule takes: `dddd.ddm` … `dddddd.ddm` without sign and exponent -/
def zaidShaped (x : RealSp) : Bool :=
  match x.sign, x.mant, x.exp with
  | none, .intDot _ ip [_, _], .none => decide (3 ≤ ip.length) && decide (ip.length ≤ 5)
  | _, _, _ => false

/-- ZAID on a number of G followed by nothing or by the `m` of a multiply shortcut.  After `dddd.dd` comes a digit, the
    end, a sign or an `e` that starts an exponent (the guard), and only then the `m`; after `dddd.ddd` never two
    letters.  So nothing fits but `dddd.dd` + `m`. -/
theorem zaid_tail (x : RealSp) (t : List K) (ht : t = [] ∨ t = [K.m]) :
    matchZaid (x.ks ++ t) = if zaidShaped x && t == [K.m] then some (x.ks ++ t).length else none := by
  obtain ⟨sg, mant, ex⟩ := x
  cases sg with
  | some b => cases b <;> simp [RealSp.ks, signK, matchZaid, zaidShaped]
  | none =>
    have hst : skipD t = t := by rcases ht with rfl | rfl <;> rfl
    cases mant with
    | dotFrac z fp => simp [RealSp.ks, signK, MantSp.ks, matchZaid, zaidShaped]
    | int z ip =>
      simp only [RealSp.ks, signK, MantSp.ks, List.nil_append, List.append_assoc, matchZaid, skipD_digs_append,
        exp_skipD_tail ex hst]
      rcases ht with rfl | rfl <;> rcases ex with _ | ⟨(_ | (_ | _)), z, ds⟩ | ⟨(_ | _), z, ds⟩ <;> exact ite_self _
    | intDot z ip fp =>
      simp only [RealSp.ks, signK, MantSp.ks, List.nil_append, List.append_assoc, List.cons_append, matchZaid,
        skipD_digs_append, skipD_dot]
      -- however long the digit run is: once the kinds after the point are known, both sides evaluate
      match fp with
      | [] => rcases ht with rfl | rfl <;> rcases ex with _ | ⟨(_ | (_ | _)), z, ds⟩ | ⟨(_ | _), z, ds⟩ <;> exact ite_self _
      | [a] => rcases ht with rfl | rfl <;> rcases ex with _ | ⟨(_ | (_ | _)), z, ds⟩ | ⟨(_ | _), z, ds⟩ <;> exact ite_self _
      | [a, b] =>
        rcases ht with rfl | rfl <;> rcases ex with _ | ⟨(_ | (_ | _)), z, ds⟩ | ⟨(_ | _), z, ds⟩
        -- the one spelling that fits, `dddd.ddm`, and the same without the `m`
        case inr.none => simp [zaidShaped, ExpSp.ks, K.isLetter, expGuard]
        case inl.none => simp [zaidShaped, ExpSp.ks]
        all_goals exact ite_self _
      | [a, b, c] => rcases ht with rfl | rfl <;> rcases ex with _ | ⟨(_ | (_ | _)), z, ds⟩ | ⟨(_ | _), z, ds⟩ <;> exact ite_self _
      | a :: b :: c :: d :: fp' => exact ite_self _

theorem real_zaid (r : RealSp) : matchZaid r.ks = none := by
  simpa using zaid_tail r [] (.inl rfl)

theorem real_headIsLetter (r : RealSp) (t : List K) : headIsLetter (r.ks ++ t) = false := by
  obtain ⟨sg, mant, x⟩ := r
  cases sg with
  | none => cases mant <;> simp [RealSp.ks, signK, MantSp.ks, headIsLetter, K.isLetter]
  | some b => cases b <;> simp [RealSp.ks, signK, headIsLetter, K.isLetter]

theorem skipS_mant (sg : Option Bool) (mant : MantSp) (t : List K) :
    skipS (signK sg ++ (mant.ks ++ t)) = mant.ks ++ t ∧ cntS (signK sg ++ (mant.ks ++ t)) = (signK sg).length := by
  cases sg with
  | none => cases mant <;> simp [signK, MantSp.ks, skipS, cntS, K.isSign]
  | some b => cases b <;> simp [signK, skipS, cntS, K.isSign]

/-- `(\d+\.?\d*|\.\d+)` takes the significand and stops: what follows begins with neither a digit nor a point -/
theorem mant_mantissa_tail (mant : MantSp) (x : ExpSp) {t : List K} (hd : cntD t = 0) (hs : skipD t = t)
    (hdot : ∀ r, t ≠ K.dot :: r) : mantissa (mant.ks ++ (x.ks ++ t)) = some mant.ks.length := by
  cases mant with
  | int z ip =>
    cases x with
    | none =>
      have hpos : cntD (digs (z :: ip) ++ t) > 0 := by simp [hd]
      -- the `match` on what follows the digits takes its second alternative: `simp` finds `hdot` in the context
      simp only [MantSp.ks, ExpSp.ks, List.nil_append, mantissa, if_pos hpos, skipD_digs_append, hs]
      simp [hd]
    | letter sg z' ds => simp [MantSp.ks, mantissa, ExpSp.ks]
    | bare mn z' ds => cases mn <;> simp [MantSp.ks, mantissa, ExpSp.ks]
  | intDot z ip fp =>
    simp [MantSp.ks, mantissa, exp_cntD_tail x hd]; omega
  | dotFrac z fp =>
    simp [MantSp.ks, mantissa, exp_cntD_tail x hd]; omega

theorem mant_mantissa (mant : MantSp) (x : ExpSp) : mantissa (mant.ks ++ x.ks) = some mant.ks.length := by
  simpa using mant_mantissa_tail mant x (t := []) rfl rfl nofun

/-- NUMBER_WORD's first pattern on a number of G followed by nothing or by `m`: after the digits comes a point, the
    end, a sign or an exponent (the guard), so it matches only an integer directly followed by the `m`, whole -/
theorem nw1_tail (x : RealSp) (t : List K) (ht : t = [] ∨ t = [K.m]) (n : Nat)
    (h : matchNW1 (x.ks ++ t) = some n) : t = [K.m] ∧ n = (x.ks ++ t).length := by
  obtain ⟨sg, mant, ex⟩ := x
  have hsk := skipS_mant sg mant (ex.ks ++ t)
  simp only [matchNW1, RealSp.ks, List.append_assoc, hsk.1, hsk.2] at h
  cases mant with
  | int z ip =>
    cases ex with
    | none =>
      rcases ht with rfl | rfl
      · simp [MantSp.ks, ExpSp.ks, cntL] at h
      · simp [MantSp.ks, ExpSp.ks, cntL, K.isLetter, expGuard] at h
        simp [RealSp.ks, MantSp.ks, ExpSp.ks]; omega
    | letter sg' z' ds =>
      cases sg' with
      | none => simp [MantSp.ks, ExpSp.ks, signK, expGuard, skipS, headIsDig, K.isDig, K.isSign] at h
      | some b => cases b <;> simp [MantSp.ks, ExpSp.ks, signK, expGuard, skipS, headIsDig, K.isDig, K.isSign] at h
    | bare mn z' ds => cases mn <;> simp [MantSp.ks, ExpSp.ks, cntL, K.isLetter] at h
  | intDot z ip fp => simp [MantSp.ks, cntL, K.isLetter] at h
  | dotFrac z fp => simp [MantSp.ks] at h

theorem real_nw1 (r : RealSp) : matchNW1 r.ks = none := by
  cases h : matchNW1 r.ks with
  | none => rfl
  | some n => exact absurd (nw1_tail r [] (.inl rfl) n (by simpa using h)).1 (by simp)

/-- NUMBER_WORD's second pattern needs an `m` right after the number -/
theorem real_nw2 (r : RealSp) : matchNW2 r.ks = none := by
  obtain ⟨sg, mant, x⟩ := r
  simp only [matchNW2, RealSp.ks, (skipS_mant sg mant x.ks).1, mant_mantissa, List.drop_left, exp_optExp,
    List.drop_length]

theorem real_number (r : RealSp) : matchNumber r.ks = some r.ks.length := by
  obtain ⟨sg, mant, x⟩ := r
  unfold matchNumber RealSp.ks
  rw [(skipS_mant sg mant x.ks).1, (skipS_mant sg mant x.ks).2]
  have hx := exp_numTail x
  cases mant with
  | int z ip =>
    cases x with
    | none => simp [MantSp.ks, ExpSp.ks, numTail, cntS, skipS]
    | letter sg' z' ds =>
      simp only [ExpSp.ks] at hx
      simp [MantSp.ks, ExpSp.ks, hx]; omega
    | bare mn z' ds =>
      cases mn <;> simp [ExpSp.ks] at hx <;> simp [MantSp.ks, ExpSp.ks, hx] <;> omega
  | intDot z ip fp =>
    simp [MantSp.ks, exp_cntD, exp_skipD, hx]; omega
  | dotFrac z fp =>
    simp [MantSp.ks, exp_cntD, exp_skipD, hx]; omega

@[simp] theorem mantPart_dot (t : List K) : mantPart (K.dot :: t) = K.dot :: mantPart t := rfl

theorem mant_mantPart (mant : MantSp) (x : ExpSp) : mantPart (mant.ks ++ x.ks) = mant.ks := by
  cases mant <;> simp [MantSp.ks, exp_mantPart, mantPart]

theorem mant_allZero (mant : MantSp) : mant.ks.all (fun k => k != K.dig false) = mant.digits.all id := by
  have hd : (K.dot != K.dig false) = true := by decide
  cases mant with
  | int z ip => simpa [MantSp.ks, MantSp.digits] using all_digs_zero (z :: ip)
  | intDot z ip fp =>
    have h1 := all_digs_zero (z :: ip)
    have h2 := all_digs_zero fp
    simp only [MantSp.ks, MantSp.digits, List.all_append, List.all_cons, List.cons_append, h1, h2, hd,
      Bool.true_and]
    exact Bool.and_assoc _ _ _
  | dotFrac z fp =>
    have h1 := all_digs_zero (z :: fp)
    simp only [MantSp.ks, MantSp.digits, List.all_cons, h1, hd, Bool.true_and]

theorem real_numberFn (r : RealSp) : numberFn r.ks = if r.isZero then "NULL" else "NUMBER" := by
  obtain ⟨sg, mant, x⟩ := r
  simp only [numberFn, RealSp.ks, (skipS_mant sg mant x.ks).1, mant_mantPart, List.drop_left, exp_readable,
    mant_allZero, RealSp.isZero]
  simp

theorem real_classify (r : RealSp) (nuc : Bool) :
    classify nuc r.ks = some (if r.isZero then "NULL" else "NUMBER", r.ks.length) := by
  have hl : headIsLetter r.ks = false := by simpa using real_headIsLetter r []
  simp only [classify, hl, real_zaid, real_nw1, real_nw2, real_number, List.take_length, real_numberFn]
  simp

/-! ## counted shortcuts  `<n>r  <n>i  <n>j  <n>ilog`  (n: any non-empty digit run; 5.2 has 1…999) -/

/-- the four letter groups a count can be followed by, with the token type `NUMBER_WORD` gives (`NUM_` before `_parse_shortcut`'s) -/
inductive Counted
  | r | i | j | ilog

def Counted.ks : Counted → List K
  | .r => [K.r] | .i => [K.i] | .j => [K.j] | .ilog => [K.i, K.l, K.o, K.g]
def Counted.type : Counted → String
  | .r => "NUM_REPEAT" | .i => "NUM_INTERPOLATE" | .j => "NUM_JUMP" | .ilog => "NUM_LOG_INTERPOLATE"

theorem counted_classify (z : Bool) (ns : List Bool) (c : Counted) (nuc : Bool) :
    classify nuc (digs (z :: ns) ++ c.ks) = some (c.type, (digs (z :: ns) ++ c.ks).length) := by
  have hs : skipS (digs (z :: ns) ++ c.ks) = digs (z :: ns) ++ c.ks := by simp [skipS, K.isSign]
  have hc : cntS (digs (z :: ns) ++ c.ks) = 0 := by simp [cntS, K.isSign]
  have hsk : skipD c.ks = c.ks := by cases c <;> rfl
  have hcd : cntD c.ks = 0 := by cases c <;> rfl
  have hz : matchZaid (digs (z :: ns) ++ c.ks) = none := by
    simp only [matchZaid, skipD_digs_append, hsk]
    cases c <;> exact ite_self _
  have h1 : matchNW1 (digs (z :: ns) ++ c.ks) = some (digs (z :: ns) ++ c.ks).length := by
    simp only [matchNW1, hs, hc, skipD_digs_append, cntD_digs_append, hsk, hcd]
    cases c <;> simp [Counted.ks, cntL, K.isLetter, expGuard] <;> omega
  have hm : isMultiply (digs (z :: ns) ++ c.ks) = false := by
    have hmant : mantissa (digs (z :: ns) ++ c.ks) = some (z :: ns).length := by
      simp only [mantissa, cntD_digs_append, skipD_digs_append, hsk, hcd]
      cases c <;> simp [Counted.ks]
    simp only [isMultiply, hs, hmant, drop_digs_append]
    cases c <;> rfl
  have hf : numberWordFn (digs (z :: ns) ++ c.ks) = c.type := by
    simp only [numberWordFn, parseShortcut, skipD_digs_append, hsk, hm]
    cases c <;> rfl
  have hl : headIsLetter (digs (z :: ns) ++ c.ks) = false := by simp [headIsLetter, K.isLetter]
  simp only [classify, hl, hz, h1, List.take_length, hf]
  simp

/-! ## the multiply shortcut  `<x>m`  for every `Real` spelling x (5.2: Multiply ::= Real "M") -/

theorem mult_isMultiply (x : RealSp) : isMultiply (x.ks ++ [K.m]) = true := by
  obtain ⟨sg, mant, ex⟩ := x
  have hsk := (skipS_mant sg mant (ex.ks ++ [K.m])).1
  simp only [isMultiply, RealSp.ks, List.append_assoc, hsk,
    mant_mantissa_tail mant ex (t := [K.m]) rfl rfl nofun, List.drop_left, exp_numTail_tail ex (t := [K.m]) rfl rfl]
  simp

/-- the part of `<x>m` after its leading digits still ends in `m` -/
theorem skipD_append_m (a : List K) : skipD (a ++ [K.m]) = skipD a ++ [K.m] := by
  induction a with
  | nil => rfl
  | cons k t ih => cases k <;> simp [skipD, ih]

theorem ends_m_ne (l : List K) (t : List K) (ht : t.getLast? ≠ some K.m) : (l ++ [K.m] == t) = false := by
  have : l ++ [K.m] ≠ t := by
    intro h
    apply ht
    rw [← h]; simp
  simpa using this

theorem mult_numberWordFn (x : RealSp) : numberWordFn (x.ks ++ [K.m]) = "NUM_MULTIPLY" := by
  simp only [numberWordFn, parseShortcut, skipD_append_m, mult_isMultiply]
  rw [ends_m_ne _ [K.i] (by decide), ends_m_ne _ [K.j] (by decide), ends_m_ne _ [K.l, K.o, K.g] (by decide),
    ends_m_ne _ [K.i, K.l, K.o, K.g] (by decide)]
  rfl

theorem mult_nw2 (x : RealSp) : matchNW2 (x.ks ++ [K.m]) = some (x.ks ++ [K.m]).length := by
  obtain ⟨sg, mant, ex⟩ := x
  have hsk := skipS_mant sg mant (ex.ks ++ [K.m])
  simp only [matchNW2, RealSp.ks, List.append_assoc, hsk.1, hsk.2,
    mant_mantissa_tail mant ex (t := [K.m]) rfl rfl nofun, List.drop_left, exp_optExp_tail ex (t := [K.m]) rfl rfl]
  simp [headIsLetter]; omega

theorem mult_nw1 (x : RealSp) (n : Nat) (h : matchNW1 (x.ks ++ [K.m]) = some n) : n = (x.ks ++ [K.m]).length :=
  (nw1_tail x [K.m] (.inr rfl) n h).2

theorem mult_zaid (x : RealSp) :
    matchZaid (x.ks ++ [K.m]) = if zaidShaped x then some (x.ks ++ [K.m]).length else none := by
  simpa using zaid_tail x [K.m] (.inr rfl)

theorem zaidShaped_inv (x : RealSp) (h : zaidShaped x = true) :
    ∃ z ip a b, x = ⟨none, .intDot z ip [a, b], .none⟩ := by
  obtain ⟨sg, mant, ex⟩ := x
  cases sg with
  | some b => simp [zaidShaped] at h
  | none =>
    cases mant with
    | int z ip => simp [zaidShaped] at h
    | dotFrac z fp => simp [zaidShaped] at h
    | intDot z ip fp =>
      cases ex with
      | letter sg z ds => simp [zaidShaped] at h
      | bare mn z ds => simp [zaidShaped] at h
      | none =>
        match fp with
        | [] => simp [zaidShaped] at h
        | [a] => simp [zaidShaped] at h
        | [a, b] => exact ⟨z, ip, a, b, rfl⟩
        | a :: b :: c :: fp' => simp [zaidShaped] at h

/-- the exception is MontePy's choice (0a90ce7): `dddd.ddm` on an input that lists nuclides is a ZAID -/
theorem mult_classify (x : RealSp) (nuc : Bool) :
    classify nuc (x.ks ++ [K.m]) =
      some (if zaidShaped x && nuc then "ZAID" else "NUM_MULTIPLY", (x.ks ++ [K.m]).length) := by
  have hl := real_headIsLetter x [K.m]
  have hm := mult_zaid x
  have hw := mult_numberWordFn x
  have h2 := mult_nw2 x
  have h1 := mult_nw1 x
  cases hz : zaidShaped x with
  | true =>
    have hzf : zaidFn nuc (x.ks ++ [K.m]) = if nuc then "ZAID" else "NUM_MULTIPLY" := by
      obtain ⟨z, ip, a, b, rfl⟩ := zaidShaped_inv x hz
      cases nuc <;> simp [zaidFn, RealSp.ks, signK, MantSp.ks, ExpSp.ks, K.isDig, List.reverse_append]
    rw [hz] at hm
    generalize x.ks ++ [K.m] = s at *
    simp only [classify, hl, hm, if_true, List.take_length, hzf, Bool.true_and]
    cases nuc <;> simp
  | false =>
    rw [hz] at hm
    generalize x.ks ++ [K.m] = s at *
    simp only [classify, hl, hm]
    cases h1' : matchNW1 s with
    | some n =>
      have := h1 n h1'
      subst this
      simp [List.take_length, hw]
    | none =>
      simp [h2, List.take_length, hw]

end MontePyVerif.LexNum
