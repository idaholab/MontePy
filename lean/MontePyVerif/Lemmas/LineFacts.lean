import MontePyVerif.Model.Reader
import MontePyVerif.Lemmas.SpecWords
/-!
# One line: the model's Python predicates against the Spec's column rules (lemmas for C11 / C20)

`x` is a physical line as the Spec sees it (no line terminator); the model sees `x ++ t` where the
terminator `t` is `"\n"` or (last line of a file) nothing.
-/
namespace MontePyVerif.LineFacts
open MontePyVerif MontePyVerif.ListBasics MontePyVerif.SpecWords
open MontePyVerif.Reader (Str pyIsSpace lstrip rstrip strip expandtabs expandtabsAux)

/-- the only white space in the line is the blank (no tab, line end, VT, FF, FS…US) -/
def OnlyBlanks (y : List Char) : Prop := ∀ c ∈ y, pyIsSpace c = true → c = ' '

/-- a line terminator as the file iterator delivers it -/
def IsTerm (t : List Char) : Prop := t = [] ∨ t = ['\n']

theorem sp_nl : pyIsSpace '\n' = true := by decide

theorem sp_iff {y : List Char} (h : OnlyBlanks y) {c : Char} (hc : c ∈ y) : pyIsSpace c = true ↔ c = ' ' :=
  ⟨h c hc, fun e => by rw [e]; decide⟩

theorem OnlyBlanks.append {a b : List Char} (ha : OnlyBlanks a) (hb : OnlyBlanks b) : OnlyBlanks (a ++ b) := by
  intro c hc; rcases List.mem_append.mp hc with h | h
  · exact ha c h
  · exact hb c h

theorem OnlyBlanks.left {a b : List Char} (h : OnlyBlanks (a ++ b)) : OnlyBlanks a :=
  fun c hc => h c (List.mem_append.mpr (Or.inl hc))

theorem OnlyBlanks.right {a b : List Char} (h : OnlyBlanks (a ++ b)) : OnlyBlanks b :=
  fun c hc => h c (List.mem_append.mpr (Or.inr hc))

theorem OnlyBlanks.take {a : List Char} (h : OnlyBlanks a) (n : Nat) : OnlyBlanks (a.take n) :=
  fun c hc => h c (List.mem_of_mem_take hc)

theorem OnlyBlanks.tail {c : Char} {t : List Char} (h : OnlyBlanks (c :: t)) : OnlyBlanks t :=
  fun d hd => h d (List.mem_cons_of_mem _ hd)

theorem OnlyBlanks.isSpace {y : List Char} (h : OnlyBlanks y) {c : Char} (hc : c ∈ y) :
    pyIsSpace c = decide (c = ' ') := by
  rw [Bool.eq_iff_iff, decide_eq_true_iff]; exact sp_iff h hc

theorem dropWhile_sp {y : List Char} (h : OnlyBlanks y) : y.dropWhile pyIsSpace = y.dropWhile (· = ' ') := by
  induction y with
  | nil => rfl
  | cons c t ih => rw [List.dropWhile_cons, List.dropWhile_cons, h.isSpace List.mem_cons_self, ih h.tail]

/-! ## tabs -/

theorem expandtabs_noTab (tab : Nat) (y : List Char) (h : ∀ c ∈ y, c ≠ '\t') (col : Nat) :
    expandtabsAux tab col y = y := by
  induction y generalizing col with
  | nil => rfl
  | cons c y ih =>
    have hc : c ≠ '\t' := h c (by simp)
    simp only [expandtabsAux]
    have : (c == '\t') = false := by simpa using hc
    simp only [this, Bool.false_eq_true, ↓reduceIte]
    rw [ih (fun d hd => h d (List.mem_cons_of_mem _ hd))]

theorem expandtabs_good (x t : List Char) (hx : OnlyBlanks x) (ht : IsTerm t) :
    expandtabs Gen.tabSize (x ++ t) = x ++ t := by
  apply expandtabs_noTab
  intro c hc
  rcases List.mem_append.mp hc with h | h
  · intro e; subst e; exact absurd (hx _ h (by decide)) (by decide)
  · rcases ht with rfl | rfl
    · simp at h
    · simp at h; subst h; decide

/-! ## strip -/

theorem strip_isEmpty (y : List Char) : (strip y).isEmpty = y.all pyIsSpace := by
  rw [strip, lstrip, rstrip, isEmpty_dropWhile, List.all_reverse, all_dropWhile, List.all_reverse]

theorem all_sp_append_term (x t : List Char) (ht : IsTerm t) : (x ++ t).all pyIsSpace = x.all pyIsSpace := by
  rcases ht with rfl | rfl
  · simp
  · simp [List.all_append, sp_nl]

theorem all_sp_eq_blank {x : List Char} (h : OnlyBlanks x) : x.all pyIsSpace = Spec.isBlankLine x := by
  unfold Spec.isBlankLine
  induction x with
  | nil => rfl
  | cons c t ih => rw [List.all_cons, List.all_cons, h.isSpace List.mem_cons_self, ih h.tail]

theorem blank_agree (x t : List Char) (hx : OnlyBlanks x) (ht : IsTerm t) :
    (strip (x ++ t)).isEmpty = Spec.isBlankLine x := by
  rw [strip_isEmpty, all_sp_append_term x t ht, all_sp_eq_blank hx]

/-! ## the comment-line test -/

theorem beq_blank_fun : (fun c : Char => c == ' ') = (fun c : Char => decide (c = ' ')) := by
  funext c; by_cases h : c = ' ' <;> simp [h]

theorem takeWhile_append_term (p : Char → Bool) (x t : List Char) (ht : IsTerm t) (hp : p '\n' = false) :
    (x ++ t).takeWhile p = x.takeWhile p := by
  induction x with
  | nil => rcases ht with rfl | rfl <;> simp [List.takeWhile, hp]
  | cons c x ih =>
    simp only [List.cons_append, List.takeWhile_cons]
    split
    · rw [ih]
    · rfl

theorem isUpperC_eq (c : Char) : Reader.isUpperC c = Spec.isC c := by
  unfold Reader.isUpperC Spec.isC
  by_cases h1 : c = 'c' <;> by_cases h2 : c = 'C' <;> simp [h1, h2]

/-- `is_comment` (after fix 7785a97) is the Spec's column rule -/
theorem comment_agree (x t : List Char) (hx : OnlyBlanks x) (ht : IsTerm t) :
    Reader.isComment (x ++ t) = Spec.isCommentLine x := by
  unfold Reader.isComment Spec.isCommentLine
  simp only
  rw [beq_blank_fun, takeWhile_append_term _ x t ht (by decide)]
  have hlen : x.length - (x.dropWhile (fun c => decide (c = ' '))).length = (x.takeWhile (fun c => decide (c = ' '))).length := by
    have := length_takeWhile_add_dropWhile (fun c => decide (c = ' ')) x; omega
  rw [hlen]
  have hdrop : (x ++ t).drop (x.takeWhile (fun c => decide (c = ' '))).length = x.dropWhile (fun c => decide (c = ' ')) ++ t := by
    rw [List.drop_append_of_le_length (length_takeWhile_le _ _), drop_length_takeWhile]
  rw [hdrop]
  have hg : Gen.blankSpaceContinue = 5 := rfl
  rw [hg]
  by_cases hind : (x.takeWhile (fun c => decide (c = ' '))).length ≥ 5
  · simp [hind]; intro h; omega
  · have hlt : (x.takeWhile (fun c => decide (c = ' '))).length < 5 := by omega
    simp only [hind, ↓reduceIte, hlt, decide_true, Bool.true_and]
    have hsub : ∀ c ∈ x.dropWhile (fun c => decide (c = ' ')), c ∈ x := fun c hc => (List.dropWhile_sublist _).subset hc
    cases hr : x.dropWhile (fun c => decide (c = ' ')) with
    | nil => rcases ht with rfl | rfl <;> simp [Reader.isUpperC]
    | cons c r =>
      cases r with
      | nil => rcases ht with rfl | rfl <;> simp [isUpperC_eq, sp_nl]
      | cons d r =>
        have hd : d ∈ x := hsub d (by rw [hr]; simp)
        simp only [List.cons_append, isUpperC_eq, hx.isSpace hd]

/-! ## columns 1-5 -/

theorem all_sp_take_append_term (x t : List Char) (ht : IsTerm t) (n : Nat) :
    ((x ++ t).take n).all pyIsSpace = (x.take n).all pyIsSpace := by
  rcases ht with rfl | rfl
  · simp
  · rw [List.take_append]
    simp only [List.all_append]
    cases h : (n - x.length) with
    | zero => simp
    | succ k => simp [List.take, sp_nl]

theorem not_all_blank_eq_any {l : List Char} : (!(l.all (fun c => decide (c = ' ')))) = l.any (fun c => decide (c ≠ ' ')) := by
  induction l with
  | nil => rfl
  | cons c t ih => simp only [List.all_cons, List.any_cons, Bool.not_and, ih]; simp

theorem starts_agree (x t : List Char) (hx : OnlyBlanks x) (ht : IsTerm t) :
    (!(strip ((x ++ t).take Gen.blankSpaceContinue)).isEmpty) = Spec.startsInput x := by
  have hg : Gen.blankSpaceContinue = 5 := rfl
  rw [hg, strip_isEmpty, all_sp_take_append_term x t ht, all_sp_eq_blank (hx.take 5)]
  unfold Spec.isBlankLine Spec.startsInput
  exact not_all_blank_eq_any

/-- the first non-blank of columns 1-5 is a `#`: what the code takes for the vertical input format (fix 453a5e4) -/
def hashFirst (x : List Char) : Bool :=
  Reader.startsWith ((x.take Gen.blankSpaceContinue).dropWhile (fun c => decide (c = ' '))) ['#']

theorem startsWith_hash_append (a b : List Char) (h : a ≠ []) :
    Reader.startsWith (a ++ b) ['#'] = Reader.startsWith a ['#'] := by
  cases a with
  | nil => exact absurd rfl h
  | cons c r => simp [Reader.startsWith]

theorem hash_agree (x t : List Char) (hx : OnlyBlanks x) (ht : IsTerm t) :
    Reader.startsWith (lstrip ((x ++ t).take Gen.blankSpaceContinue)) ['#'] = hashFirst x := by
  unfold hashFirst lstrip
  rw [List.take_append]
  have hB : ∀ c ∈ t.take (Gen.blankSpaceContinue - x.length), pyIsSpace c = true := by
    intro c hc
    have := List.mem_of_mem_take hc
    rcases ht with rfl | rfl
    · simp at this
    · simp at this; subst this; exact sp_nl
  rw [← dropWhile_sp (hx.take _)]
  by_cases hA : (x.take Gen.blankSpaceContinue).dropWhile pyIsSpace = []
  · rw [List.dropWhile_append_of_pos ((dropWhile_eq_nil _ _).mp hA), hA, (dropWhile_eq_nil _ _).mpr hB]
  · rw [dropWhile_append_of_ne _ _ _ hA, startsWith_hash_append _ _ hA]

theorem take_limit (x t : List Char) (ht : IsTerm t) (limit : Nat) (h : x.length < limit) :
    (x ++ t).take limit = x ++ t := by
  apply List.take_of_length_le
  rcases ht with rfl | rfl <;> simp <;> omega

/-! ## trailing blanks, `rstrip`, `&` -/

/-- the line without its trailing blanks: what the model stores in `input_raw_lines` -/
def rstripB (x : List Char) : List Char := (x.reverse.dropWhile (fun c => decide (c = ' '))).reverse

theorem OnlyBlanks.reverse {x : List Char} (h : OnlyBlanks x) : OnlyBlanks x.reverse :=
  fun c hc => h c (List.mem_reverse.mp hc)

theorem rstrip_agree (x t : List Char) (hx : OnlyBlanks x) (ht : IsTerm t) : rstrip (x ++ t) = rstripB x := by
  unfold rstrip rstripB
  rw [List.reverse_append]
  have : ∀ c ∈ t.reverse, pyIsSpace c = true := by
    rcases ht with rfl | rfl
    · simp
    · simp [sp_nl]
  rw [List.dropWhile_append_of_pos this, dropWhile_sp hx.reverse]

theorem rstripB_decomp (x : List Char) : ∃ k, x = rstripB x ++ List.replicate k ' ' :=
  dropWhile_reverse_decomp ' ' x

theorem OnlyBlanks.rstripB {x : List Char} (h : OnlyBlanks x) : OnlyBlanks (rstripB x) := by
  intro c hc
  apply h c
  unfold LineFacts.rstripB at hc
  exact List.mem_reverse.mp ((List.dropWhile_sublist _).subset (List.mem_reverse.mp hc))

theorem startsWith_amp (l : List Char) :
    Reader.startsWith l ['&', ' '] = (match l with | '&' :: ' ' :: _ => true | _ => false) := by
  match l with
  | [] => rfl
  | [a] => by_cases h : a = '&' <;> simp [Reader.startsWith, h]
  | a :: b :: r =>
    by_cases h : a = '&' <;> by_cases h2 : b = ' ' <;> simp [Reader.startsWith, h, h2]

theorem endsWith_rstripB (x : List Char) : Reader.endsWith (rstripB x) [' ', '&'] = Spec.endsAmp x := by
  unfold Reader.endsWith rstripB Spec.endsAmp
  rw [List.reverse_reverse]
  exact startsWith_amp _

theorem contains_append_term (x t : List Char) (ht : IsTerm t) (c : Char) (hc : c ≠ '\n') :
    (x ++ t).contains c = x.contains c := by
  rcases ht with rfl | rfl
  · simp
  · simp [List.contains_eq_mem, List.mem_append]; intro h; exact absurd h hc

theorem dataPart_of_no_dollar (x : List Char) (h : x.contains '$' = false) : Spec.dataPart x = x := by
  unfold Spec.dataPart
  rw [takeWhile_eq_self]
  intro c hc
  simp only [decide_eq_true_eq]
  intro e; subst e
  simp [List.contains_eq_mem] at h; exact h hc

theorem dataPart_append_dollar (pre post : List Char) (hp : pre.contains '$' = false) :
    Spec.dataPart (pre ++ '$' :: post) = pre := by
  unfold Spec.dataPart
  rw [takeWhile_append_stop _ _ '$' post _ (by decide)]
  intro c hc
  simp only [decide_eq_true_eq]
  intro ec; subst ec
  simp [List.contains_eq_mem] at hp; exact hp hc

/-- an `&` in front of a `$` comment: MCNP's data end in `&`, the code does not look in front of the `$` -/
def NoAmpBeforeDollar (x : List Char) : Prop := x.contains '$' = true → Spec.endsAmp (Spec.dataPart x) = false

/-- the continuation test (after fixes 7bc85a8, 75939b5) -/
theorem continues_agree (x t : List Char) (hx : OnlyBlanks x) (ht : IsTerm t) (h4 : NoAmpBeforeDollar x) :
    Reader.continues (x ++ t) = Spec.endsAmp (Spec.dataPart x) := by
  unfold Reader.continues
  rw [rstrip_agree x t hx ht, endsWith_rstripB, contains_append_term x t ht '$' (by decide)]
  cases hd : x.contains '$'
  · rw [dataPart_of_no_dollar x hd]; simp
  · rw [h4 hd]; simp

/-! ## the Spec does not see trailing blanks -/

theorem endsAmp_append_blanks (y : List Char) (k : Nat) : Spec.endsAmp (y ++ List.replicate k ' ') = Spec.endsAmp y := by
  unfold Spec.endsAmp
  rw [List.reverse_append, List.reverse_replicate,
    List.dropWhile_append_of_pos (replicate_all k ' ' _ (by simp))]

theorem dataPart_append_blanks (y : List Char) (k : Nat) :
    Spec.dataPart (y ++ List.replicate k ' ') =
      if y.contains '$' then Spec.dataPart y else Spec.dataPart y ++ List.replicate k ' ' := by
  unfold Spec.dataPart
  induction y with
  | nil =>
    simp only [List.nil_append, List.contains_nil, Bool.false_eq_true, ↓reduceIte, List.takeWhile_nil]
    rw [takeWhile_eq_self]
    intro c hc; rw [(List.mem_replicate.mp hc).2]; decide
  | cons c y ih =>
    simp only [List.cons_append, List.takeWhile_cons, List.contains_cons]
    by_cases hc : c = '$'
    · subst hc; simp
    · have : ('$' == c) = false := by simp; exact fun e => hc e.symm
      simp only [hc, ne_eq, not_false_eq_true, decide_true, ↓reduceIte, this, Bool.false_or, ih]
      split <;> rfl

theorem lineWords_append_blanks (y : List Char) (k : Nat) :
    Spec.lineWords (y ++ List.replicate k ' ') = Spec.lineWords y := by
  unfold Spec.lineWords
  rw [dataPart_append_blanks]
  split
  · rfl
  · simp only [splitWords_append_blanks, endsAmp_append_blanks]

theorem isBlankLine_append_blanks (y : List Char) (k : Nat) :
    Spec.isBlankLine (y ++ List.replicate k ' ') = Spec.isBlankLine y := by
  unfold Spec.isBlankLine
  rw [List.all_append]
  have : (List.replicate k ' ').all (fun c => decide (c = ' ')) = true :=
    List.all_eq_true.mpr (replicate_all k ' ' _ (by simp))
  rw [this, Bool.and_true]

theorem isCommentLine_append_blanks (y : List Char) (k : Nat) :
    Spec.isCommentLine (y ++ List.replicate k ' ') = Spec.isCommentLine y := by
  unfold Spec.isCommentLine
  simp only
  by_cases hy : y.dropWhile (fun c => decide (c = ' ')) = []
  · have hall := (dropWhile_eq_nil _ _).mp hy
    rw [List.dropWhile_append_of_pos hall, hy,
      (dropWhile_eq_nil _ _).mpr (replicate_all k ' ' _ (by simp))]
    simp
  · rw [dropWhile_append_of_ne _ _ _ hy]
    have hlen : (y ++ List.replicate k ' ').length - (y.dropWhile (fun c => decide (c = ' ')) ++ List.replicate k ' ').length
        = y.length - (y.dropWhile (fun c => decide (c = ' '))).length := by
      simp only [List.length_append]; omega
    rw [hlen]
    congr 1
    cases hr : y.dropWhile (fun c => decide (c = ' ')) with
    | nil => exact absurd hr hy
    | cons c r =>
      cases r with
      | nil =>
        cases k with
        | zero => rfl
        | succ k => simp [List.replicate_succ]
      | cons d r => rfl

theorem isCommentLine_rstripB (x : List Char) : Spec.isCommentLine (rstripB x) = Spec.isCommentLine x := by
  obtain ⟨k, hk⟩ := rstripB_decomp x
  conv => rhs; rw [hk]
  rw [isCommentLine_append_blanks]

theorem lineWords_rstripB (x : List Char) : Spec.lineWords (rstripB x) = Spec.lineWords x := by
  obtain ⟨k, hk⟩ := rstripB_decomp x
  conv => rhs; rw [hk]
  rw [lineWords_append_blanks]

/-! ## words: `split`, the words of a line, `=`, letter case -/

theorem splitWords_agree {y : List Char} (h : OnlyBlanks y) : Reader.pySplit y = Spec.splitWords y := by
  unfold Reader.pySplit Spec.splitWords
  generalize ([] : List Char) = cur
  induction y generalizing cur with
  | nil => cases cur <;> rfl
  | cons c y ih =>
    simp only [Reader.pySplitAux, Spec.wordsAux, h.isSpace List.mem_cons_self, decide_eq_true_eq, ih h.tail]

theorem beforeDollar_eq (r : Str) : Reader.beforeDollar r = Spec.dataPart r := by
  unfold Reader.beforeDollar Spec.dataPart
  congr 1
  funext c; by_cases h : c = '$' <;> simp [h]

theorem dataPart_sublist (r : Str) : ∀ c ∈ Spec.dataPart r, c ∈ r := fun _ hc =>
  (List.takeWhile_sublist _).subset hc

theorem lineWordsM_eq {r : Str} (h : OnlyBlanks r) : Reader.lineWordsM r = Spec.lineWords r := by
  unfold Reader.lineWordsM Spec.lineWords
  simp only [beforeDollar_eq]
  have hd : OnlyBlanks (Spec.dataPart r) := fun c hc => h c (dataPart_sublist r c hc)
  have h1 := rstrip_agree (Spec.dataPart r) [] hd (Or.inl rfl)
  rw [List.append_nil] at h1
  rw [h1, endsWith_rstripB, splitWords_agree hd]

theorem mem_wordsAux (y cur : List Char) : ∀ w ∈ Spec.wordsAux y cur, ∀ c ∈ w, c ∈ y ∨ c ∈ cur := by
  induction y generalizing cur with
  | nil =>
    rw [Spec.wordsAux]
    by_cases hcur : cur.isEmpty = true
    · rw [if_pos hcur]; exact List.forall_mem_nil _
    · rw [if_neg hcur]; exact List.forall_mem_singleton.mpr fun c hc => .inr (List.mem_reverse.mp hc)
  | cons a y ih =>
    -- the words of the rest, for an open word `cur'` made of `a` and characters of `cur`
    have lift : ∀ cur', (∀ c ∈ cur', c = a ∨ c ∈ cur) → ∀ w ∈ Spec.wordsAux y cur', ∀ c ∈ w, c ∈ a :: y ∨ c ∈ cur :=
      fun cur' hcur' w hw c hc => (ih cur' w hw c hc).elim (fun h => .inl (List.mem_cons_of_mem _ h))
        fun h => (hcur' c h).elim (fun e => .inl (e ▸ List.mem_cons_self)) .inr
    rw [Spec.wordsAux]
    by_cases ha : a = ' '
    · rw [if_pos ha]
      by_cases hcur : cur.isEmpty = true
      · rw [if_pos hcur]; exact lift [] (List.forall_mem_nil _)
      · rw [if_neg hcur]
        exact List.forall_mem_cons.mpr ⟨fun c hc => .inr (List.mem_reverse.mp hc), lift [] (List.forall_mem_nil _)⟩
    · rw [if_neg ha]; exact lift (a :: cur) fun c hc => List.mem_cons.mp hc

theorem mem_lineWords (r : Str) : ∀ w ∈ Spec.lineWords r, ∀ c ∈ w, c ∈ r := by
  intro w hw c hc
  unfold Spec.lineWords at hw
  have hsub : w ∈ Spec.splitWords (Spec.dataPart r) := by
    simp only at hw
    split at hw
    · exact (List.dropLast_sublist _).subset hw
    · exact hw
  rcases mem_wordsAux _ _ w hsub c hc with h | h
  · exact dataPart_sublist r c h
  · simp at h

theorem splitEqM_eq {w : List Char} (h : OnlyBlanks w) : Reader.splitEqM w = Spec.splitEq w := by
  unfold Reader.splitEqM Spec.splitEq
  have hfun : (fun c : Char => if (c == '=') = true then ' ' else c) = (fun c : Char => if c = '=' then ' ' else c) := by
    funext c; by_cases hc : c = '=' <;> simp [hc]
  rw [hfun]
  apply splitWords_agree
  intro c hc hs
  obtain ⟨d, hd, rfl⟩ := List.mem_map.mp hc
  by_cases he : d = '='
  · simp [he]
  · simp only [he, ↓reduceIte] at hs ⊢
    exact h d hd hs

theorem lower_beq (w kw : List Char) : (Reader.lower w == kw) = Spec.lowerEq w kw := by
  simp [Spec.lowerEq, Reader.lower, Bool.beq_eq_decide_eq]

end MontePyVerif.LineFacts
