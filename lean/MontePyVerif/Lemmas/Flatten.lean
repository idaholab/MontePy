import MontePyVerif.Lemmas.Refine
/-!
# From one file to the tree of files: serving the queue entries refines `Spec.gensS` (lemmas for C20_flatten)
-/
namespace MontePyVerif.Flatten
open MontePyVerif MontePyVerif.Reader MontePyVerif.Refine MontePyVerif.LineFacts

/-- a queue entry as the Spec's pending read card -/
def toP (e : QEntry) : Spec.Pending := ⟨e.bt.value, e.name, e.chain⟩

/-! ## `proj` algebra -/

theorem cards_append (a b : List Spec.SOut) : Spec.cards (a ++ b) = Spec.cards a ++ Spec.cards b := by
  induction a with
  | nil => rfl
  | cons o t ih => cases o <;> simp [Spec.cards, ih]

theorem cards_proj (evs : List Event) : Spec.cards (proj evs) = (enqueued evs).map toP := by
  induction evs with
  | nil => rfl
  | cons e t ih =>
    rw [proj_cons, cards_append, ih]
    cases e with
    | enqueue q => simp [projEv, Spec.cards, enqueued, toP]
    | input bt raw => by_cases hd : hasData raw = true <;> simp [projEv, hd, Spec.cards, enqueued]
    | raise err => cases err <;> simp [projEv, Spec.cards, enqueued]
    | _ => simp [projEv, Spec.cards, enqueued]

/-! ## what serving a queue entry appends to the queue -/

theorem topDir_serve (ll : Nat) (bt : BlockType) (p : Str) {chain : List Str} {main : Str}
    (h : chain.head? = some main) : (⟨ll, bt, p, chain ++ [p]⟩ : Cfg).topDir = dirname main := by
  simp [Cfg.topDir, List.headD_eq_head?_getD, List.head?_append, h]

theorem enqueued_serve (ll : Nat) (fs : FS) (main : Str) (e : QEntry) (hhead : e.chain.head? = some main)
    {e' : QEntry} (h : e' ∈ enqueued (serve ll fs (dirname main) e)) :
    fs (joinPath (dirname main) e.name) ≠ none ∧ e'.chain = e.chain ++ [joinPath (dirname main) e.name] ∧
      joinPath (dirname main) e'.name ∉ e'.chain := by
  unfold serve at h
  cases hfs : fs (joinPath (dirname main) e.name) with
  | none => rw [hfs] at h; simp [enqueued] at h
  | some bytes =>
    rw [hfs] at h
    obtain ⟨hchain, hchk⟩ := enqueued_goLines _ _ _ h
    rw [topDir_serve ll e.bt _ hhead, List.contains_eq_mem, decide_eq_false_iff_not] at hchk
    exact ⟨nofun, hchain, hchain ▸ hchk⟩

/-! ## one file -/

/-- the lines of one file as the model (`mlines`, with their terminators) and the Spec (`slines`) see them, all of
    them lines on which the code's rules and MCNP's coincide -/
def FileOK (limit : Nat) (mlines : List Str) (slines : List Spec.Line) : Prop :=
  ∃ ms : List (List Char × List Char), mlines = ms.map (fun q => q.1 ++ q.2) ∧ slines = ms.map (·.1) ∧
    (∀ q ∈ ms, GoodLine limit q.1 ∧ IsTerm q.2)

theorem classify_good {limit : Nat} {x : List Char} (g : GoodLine limit x) :
    Spec.classify limit x = Spec.classifyPhysical x := by
  unfold Spec.classify
  rw [Layout.physical_id limit x (fun c hc e => by subst e; exact absurd (g.onlyBlanks _ hc (by decide)) (by decide))
    (Nat.le_of_lt g.fits)]

theorem fileStream_ok {limit : Nat} (cfg : Cfg) (hl : cfg.lineLength = limit) (mlines : List Str) (slines : List Spec.Line)
    (h : FileOK limit mlines slines) :
    proj (readData cfg mlines) =
      Spec.cutS (Spec.fileStream limit (joinPath cfg.topDir) cfg.chain cfg.firstBlock.value slines) := by
  subst hl
  obtain ⟨ms, rfl, rfl, hgood⟩ := h
  rw [readData_refines cfg ms hgood]
  unfold Spec.fileStream Spec.inputsFrom
  have : (ms.map (·.1)).map (Spec.classify cfg.lineLength) = ms.map (fun q => Spec.classifyPhysical q.1) := by
    rw [List.map_map]
    apply List.map_congr_left
    intro q hq
    exact classify_good (hgood q hq).1
  rw [this]

/-- what is assumed about the file a served entry names: absent on both sides, or present on both sides and `FileOK` -/
def EntryOK (limit : Nat) (fs : FS) (files : Spec.Files) (dir : Str) (e : QEntry) : Prop :=
  match fs (joinPath dir e.name) with
  | none => files (joinPath dir e.name) = none
  | some bytes => ∃ ls, files (joinPath dir e.name) = some ls ∧ FileOK limit (fileLines bytes) ls

theorem serve_ok (ll : Nat) (fs : FS) (files : Spec.Files) (main : Str) (e : QEntry)
    (hchain : e.chain.head? = some main) (hok : EntryOK ll fs files (dirname main) e) :
    proj (serve ll fs (dirname main) e) = Spec.cutS (Spec.serveS ll files (joinPath (dirname main)) (toP e)) := by
  unfold serve Spec.serveS EntryOK at *
  simp only [toP]
  cases hfs : fs (joinPath (dirname main) e.name) with
  | none =>
    rw [hfs] at hok
    rw [hok]
    rfl
  | some bytes =>
    rw [hfs] at hok
    obtain ⟨ls, hfiles, hfile⟩ := hok
    rw [hfiles]
    simp only [proj_cons, projEv, List.nil_append]
    have := fileStream_ok ⟨ll, e.bt, joinPath (dirname main) e.name, e.chain ++ [joinPath (dirname main) e.name]⟩ rfl
      (fileLines bytes) ls hfile
    rw [topDir_serve ll e.bt _ hchain] at this
    exact this

/-! ## generations -/

theorem proj_serveAll (ll : Nat) (fs : FS) (files : Spec.Files) (main : Str) (q : List QEntry)
    (hchain : ∀ e ∈ q, e.chain.head? = some main) (hok : ∀ e ∈ q, EntryOK ll fs files (dirname main) e) :
    Spec.cutS (proj (serveAll ll fs (dirname main) q)) =
      Spec.cutS ((q.map toP).flatMap (Spec.serveS ll files (joinPath (dirname main)))) := by
  induction q with
  | nil => rfl
  | cons e q ih =>
    rw [serveAll_cons, proj_append, List.map_cons, List.flatMap_cons]
    exact cutS_append_congr (by rw [serve_ok ll fs files main e (hchain e (by simp)) (hok e (by simp)), cutS_idem])
      fun _ => ih (fun x hx => hchain x (List.mem_cons_of_mem _ hx)) (fun x hx => hok x (List.mem_cons_of_mem _ hx))

theorem chain_enqueued (ll : Nat) (fs : FS) (main : Str) (q : List QEntry)
    (hchain : ∀ e ∈ q, e.chain.head? = some main) :
    ∀ e' ∈ enqueued (serveAll ll fs (dirname main) q), e'.chain.head? = some main := by
  intro e' he'
  obtain ⟨e, he, h⟩ := mem_enqueued_serveAll.mp he'
  have hh := hchain e he
  rw [(enqueued_serve ll fs main e hh h).2.1, List.head?_append, hh]; rfl

/-- `M` is a stretch of the run and `A` the Spec's stream of the same files; `X` is what the queue makes of the read
    cards met in `M`, `Y` what the Spec makes of those in `A`: the cards are the same once `A` holds no error -/
theorem refines_then (M X : List Event) (A : List Spec.SOut) (Y : List Spec.Pending → List Spec.SOut)
    (h1 : Spec.cutS (proj M) = Spec.cutS A)
    (hX : A.any isErr = false → Spec.cutS (proj X) = Spec.cutS (Y ((enqueued M).map toP))) :
    Spec.cutS (proj M ++ proj X) = Spec.cutS (A ++ Y (Spec.cards A)) :=
  cutS_append_congr h1 fun h => by rw [← eq_of_cutS_eq h1 h, cards_proj]; exact hX h

theorem served_refines (ll : Nat) (fs : FS) (files : Spec.Files) (main : Str) (d : Nat) :
    ∀ (q : List QEntry), (∀ e ∈ q, e.chain.head? = some main) →
      (∀ e ∈ served ll fs (dirname main) d q, EntryOK ll fs files (dirname main) e) →
      Spec.cutS (proj (serveAll ll fs (dirname main) (served ll fs (dirname main) d q))) =
        Spec.cutS (Spec.gensS ll files (joinPath (dirname main)) d (q.map toP)) := by
  induction d with
  | zero => intro q _ _; cases q <;> rfl
  | succ d ih =>
    intro q hchain hok
    cases q with
    | nil => rfl
    | cons e q =>
      rw [served] at hok
      simp only [served, serveAll_append, proj_append, Spec.gensS, List.map_cons]
      exact refines_then _ _ _ (Spec.gensS ll files (joinPath (dirname main)) d)
        (proj_serveAll ll fs files main (e :: q) hchain fun x hx => hok x (List.mem_append_left _ hx)) fun _ =>
        ih _ (chain_enqueued ll fs main (e :: q) hchain) fun x hx => hok x (List.mem_append_right _ hx)

/-! ## a sufficient, decidable criterion for `FileOK` (used by the non-vacuity examples) -/

theorem goodLine_plain (limit : Nat) (x : List Char)
    (h1 : ∀ c ∈ x, pyIsSpace c = true → c = ' ') (h2 : x.length < limit)
    (h3 : hashFirst x = false) (h4 : x.contains '$' = false)
    (h5 : Spec.isBlankLine x = false → Spec.isCommentLine x = false → Spec.lineWords x ≠ []) : GoodLine limit x where
  onlyBlanks := h1
  fits := h2
  noVertical := h3
  noAmpDollar := by intro _ h; rw [h4] at h; exact absurd h (by decide)
  hasWords := h5
  dollarSpaced := by
    intro _ pre post e _
    have : x.contains '$' = true := by rw [e]; simp
    rw [h4] at this; exact absurd this (by decide)

theorem fileOK_plain (limit : Nat) (ls : List (List Char)) (mlines : List Str)
    (hm : mlines = ls.map (· ++ ['\n']))
    (hg : ∀ x ∈ ls, (∀ c ∈ x, pyIsSpace c = true → c = ' ') ∧ x.length < limit ∧ hashFirst x = false ∧
      x.contains '$' = false ∧ (Spec.isBlankLine x = false → Spec.isCommentLine x = false → Spec.lineWords x ≠ [])) :
    FileOK limit mlines ls := by
  refine ⟨ls.map (fun x => (x, ['\n'])), ?_, ?_, ?_⟩
  · rw [hm, List.map_map]; rfl
  · rw [List.map_map]; exact (List.map_id' ls).symm
  · intro q hq
    obtain ⟨x, hx, rfl⟩ := List.mem_map.mp hq
    obtain ⟨a, b, c, d, f⟩ := hg x hx
    exact ⟨goodLine_plain limit x a b c d f, Or.inr rfl⟩

theorem exFileOK (ls : List (List Char)) (bytes : List Nat)
    (hm : fileLines bytes = ls.map (· ++ ['\n']))
    (hg : ∀ x ∈ ls, (∀ c ∈ x, pyIsSpace c = true → c = ' ') ∧ x.length < 128 ∧ hashFirst x = false ∧
      x.contains '$' = false ∧ (Spec.isBlankLine x = false → Spec.isCommentLine x = false → Spec.lineWords x ≠ [])) :
    FileOK 128 (fileLines bytes) ls := fileOK_plain 128 ls _ hm hg

end MontePyVerif.Flatten
