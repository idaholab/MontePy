import MontePyVerif.Lemmas.Readers
import MontePyVerif.Lemmas.Pick

/-! # Every text the formatter lays out spells the value of its `Dec` (lemmas for C05)

`Spells t v`: `t` is a well-formed `Spelling` of `v` between blanks, so both readers read it as `v`.  `renderPy` and
`renderSci` spell `Dec.value` for every sign style, zero fill, divider and exponent padding; hence the read-back check
inside `_format_float` sees the value MCNP will read. -/
namespace MontePyVerif.C05
open MontePyVerif.ValueFormat MontePyVerif.Spec

def Spells (t : Text) (v : ℚ) : Prop :=
  ∃ (i : Nat) (sp : Spelling) (j : Nat), sp.WF ∧ sp.value = v ∧ t = List.replicate i ' ' ++ sp.text ++ List.replicate j ' '

theorem Spells.spec_reads {t : Text} {v : ℚ} (h : Spells t v) (tail : Text) (ht : tail = [] ∨ StartsSep tail) :
    parseChars (firstWord (t ++ tail)) = some v := by
  obtain ⟨i, sp, j, wf, rfl, rfl⟩ := h
  rw [List.append_assoc, firstWord_spelling sp wf i _ (blanks_sep j tail ht)]
  exact spec_reads_spelling sp wf

theorem Spells.fortran_reads {t : Text} {v : ℚ} (h : Spells t v) : fortranFloat t = some v := by
  obtain ⟨i, sp, j, wf, rfl, rfl⟩ := h
  exact fortran_reads_spelling sp wf i j

theorem Spelling.WF.spells {sp : Spelling} (wf : sp.WF) : Spells sp.text sp.value :=
  ⟨0, sp, 0, wf, rfl, (List.append_nil _).symm⟩

/-! ## the spelling of a `Dec` -/

def expSp (letter : Text) (z : Nat) (e : Int) : ExpSp :=
  ⟨letter, [expSign e], List.replicate z '0' ++ Nat.toDigits 10 e.natAbs⟩

theorem expSp_wf (letter : Text) (hL : letter = [] ∨ letter = ['e'] ∨ letter = ['E']) (z : Nat) (e : Int) :
    (expSp letter z e).WF := by
  refine ⟨hL, ?_, allDigits_fill z _, fill_ne_nil z _, fun _ => List.cons_ne_nil _ _⟩
  unfold expSp expSign
  split
  · exact Or.inr (Or.inr rfl)
  · exact Or.inr (Or.inl rfl)

theorem expSp_value (letter : Text) (z : Nat) (e : Int) : (expSp letter z e).value = e := by
  have hd : Nat.ofDigitChars 10 (expSp letter z e).digits 0 = e.natAbs := ofDigitChars_fill z _
  unfold ExpSp.value
  rw [hd]
  show (if negOf [expSign e] then _ else _) = e
  unfold expSign
  by_cases he : e < 0
  · rw [if_pos he, if_pos (by decide)]; omega
  · rw [if_neg he, if_neg (by decide)]; omega

theorem pyExpText_eq (e : Int) : pyExpText e = (expSp ['e'] (2 - (Nat.toDigits 10 e.natAbs).length) e).text := rfl

def decSpelling (sg : Text) (z : Nat) (d : Dec) (ex : Option ExpSp) : Spelling :=
  { sign := sg, ip := List.replicate z '0' ++ intDigits d, dot := decide (d.frac ≠ 0),
    fp := if d.frac = 0 then [] else fracDigits d, ex := ex }

theorem decSpelling_mantText (sg : Text) (z : Nat) (d : Dec) (ex : Option ExpSp) :
    (decSpelling sg z d ex).mantText = sg ++ List.replicate z '0' ++ mantissa d := by
  unfold Spelling.mantText decSpelling mantissa
  by_cases hf : d.frac = 0 <;> simp only [hf, List.append_assoc, ne_eq, not_true_eq_false, not_false_eq_true,
    decide_true, decide_false, if_true, if_false, Bool.false_eq_true]

theorem decSpelling_wf (sg : Text) (hs : IsSignText sg) (z : Nat) (d : Dec) (ex : Option ExpSp)
    (hex : ∀ x, ex = some x → x.WF) : (decSpelling sg z d ex).WF := by
  refine ⟨hs, allDigits_fill z _, ?_, Or.inl (fill_ne_nil z _), ?_, hex⟩
  · show AllDigits (if d.frac = 0 then [] else fracDigits d)
    split
    · intro c hc; cases hc
    · exact allDigits_fill _ _
  · intro h
    exact if_pos (Classical.not_not.mp (of_decide_eq_false h))

theorem decSpelling_mant (sg : Text) (z : Nat) (d : Dec) (ex : Option ExpSp) :
    (decSpelling sg z d ex).mant = d.m ∧ (decSpelling sg z d ex).fp.length = d.frac := by
  unfold Spelling.mant decSpelling intDigits
  by_cases hf : d.frac = 0
  · simp only [hf, if_true, List.append_nil, List.length_nil, ofDigitChars_fill, Nat.pow_zero, Nat.div_one, and_self]
  · have hl := length_zfill d.frac _ (Nat.pos_of_ne_zero hf) (Nat.mod_lt d.m (Nat.pow_pos (by decide)))
    simp only [hf, if_false, fracDigits]
    rw [Nat.ofDigitChars_append, Nat.ofDigitChars_eq_ofDigitChars_zero, hl, ofDigitChars_fill]
    exact ⟨by rw [zfill, ofDigitChars_fill]; exact Nat.div_add_mod _ _, rfl⟩

theorem decSpelling_value (sg : Text) (z : Nat) (d : Dec) (ex : Option ExpSp) (hs : negOf sg = d.neg)
    (hex : (decSpelling sg z d ex).expValue = d.exp.getD 0) : (decSpelling sg z d ex).value = d.value := by
  obtain ⟨hm, hf⟩ := decSpelling_mant sg z d ex
  rw [Dec.value_eq, Spelling.value, hm, hf, hex, ← hs]
  rfl

/-! ## the layouts of the model -/

theorem signText_eq (sign : Char) (neg : Bool) : ∃ (i : Nat) (sg : Text),
    signText sign neg = List.replicate i ' ' ++ sg ∧ IsSignText sg ∧ negOf sg = neg := by
  unfold signText
  cases neg
  · by_cases h1 : sign = '+'
    · exact ⟨0, ['+'], by rw [if_neg Bool.false_ne_true, if_pos h1]; rfl, Or.inr (Or.inl rfl), rfl⟩
    · by_cases h2 : sign = ' '
      · exact ⟨1, [], by rw [if_neg Bool.false_ne_true, if_neg h1, if_pos h2]; rfl, Or.inl rfl, rfl⟩
      · exact ⟨0, [], by rw [if_neg Bool.false_ne_true, if_neg h1, if_neg h2]; rfl, Or.inl rfl, rfl⟩
  · exact ⟨0, ['-'], rfl, Or.inr (Or.inr rfl), rfl⟩

/-- The two `match`es are `Spelling.expValue` and `Spelling.exText` of a spelling with exponent `ex`, written out
    because the spelling (its sign text) is only chosen in the proof -/
theorem layout_spells (sign : Char) (z : Nat) (d : Dec) (ex : Option ExpSp) (j : Nat) (hwf : ∀ x, ex = some x → x.WF)
    (hv : (match (generalizing := false) ex with | none => 0 | some x => x.value) = d.exp.getD 0) :
    Spells (signText sign d.neg ++ List.replicate z '0' ++ mantissa d
      ++ (match (generalizing := false) ex with | none => [] | some x => x.text)
      ++ List.replicate j ' ') d.value := by
  obtain ⟨i, sg, hsg, hs, hneg⟩ := signText_eq sign d.neg
  refine ⟨i, decSpelling sg z d ex, j, decSpelling_wf sg hs z d ex hwf, decSpelling_value sg z d ex hneg hv, ?_⟩
  unfold Spelling.text
  rw [decSpelling_mantText, hsg]
  simp only [List.append_assoc]
  rfl

theorem renderPy_spells (sign : Char) (width : Nat) (d : Dec) : Spells (renderPy sign width d) d.value := by
  show Spells (signText sign d.neg ++ List.replicate (fillZeros width (signText sign d.neg) (pyBody d)) '0' ++ pyBody d) d.value
  generalize fillZeros width (signText sign d.neg) (pyBody d) = z
  have h := layout_spells sign z d (d.exp.map fun e => expSp ['e'] (2 - (Nat.toDigits 10 e.natAbs).length) e) 0
  unfold pyBody
  cases hd : d.exp with
  | none =>
    have h := h (fun _ hx => by rw [hd] at hx; cases hx) (by rw [hd]; rfl)
    rw [hd] at h
    simpa only [List.append_nil, List.append_assoc, Option.map_none, List.replicate_zero] using h
  | some e =>
    have h := h (fun _ hx => by rw [hd] at hx; exact Option.some.inj hx ▸ expSp_wf _ (Or.inr (Or.inl rfl)) _ e)
      (by rw [hd]; exact expSp_value _ _ e)
    rw [hd] at h
    simpa only [List.append_nil, List.append_assoc, Option.map_some, List.replicate_zero, pyExpText_eq] using h

/-- the blanks that left-justifying the exponent in `exponent_length` columns may add are behind the spelling -/
theorem renderSci_spells (f : Formatter) (d : Dec) : Spells (renderSci f d) d.value := by
  have hdiv : f.divider.text = [] ∨ f.divider.text = ['e'] ∨ f.divider.text = ['E'] := by
    cases f.divider
    · exact Or.inl rfl
    · exact Or.inr (Or.inl rfl)
    · exact Or.inr (Or.inr rfl)
  have h := layout_spells f.sign (fillZeros f.zeroPadding (signText f.sign d.neg) (pyBody d)) d
    (some (expSp f.divider.text (f.exponentZeroPad - (Nat.toDigits 10 (d.exp.getD 0).natAbs).length) (d.exp.getD 0)))
    (f.exponentLength - (zfill f.exponentZeroPad (Nat.toDigits 10 (d.exp.getD 0).natAbs)).length)
    (fun _ hy => Option.some.inj hy ▸ expSp_wf _ hdiv _ _) (expSp_value _ _ _)
  unfold renderSci
  simpa only [List.append_assoc, ExpSp.text, expSp, zfill] using h

theorem candidate_spells (f : Formatter) (x : Num) (sp : FStyle × Nat) :
    Spells (formatFloatAs f x sp) (decOf x sp).value := by
  obtain ⟨st, q⟩ := sp
  cases st
  · exact renderPy_spells f.sign f.zeroPadding (decG x q)
  · exact renderSci_spells f (decE x q)
  · exact renderPy_spells f.sign f.zeroPadding (decF x q)

/-- the Spec reads `[sign] zeros digits` as the signed number -/
theorem parse_int_layout (sg : Text) (neg : Bool) (hs : sg = [] ∧ neg = false ∨ sg = ['+'] ∧ neg = false ∨ sg = ['-'] ∧ neg = true)
    (z m : Nat) :
    parseChars (sg ++ (List.replicate z '0' ++ Nat.toDigits 10 m)) = some (if neg then -(m : ℚ) else (m : ℚ)) := by
  have hsg : IsSignText sg ∧ negOf sg = neg := by
    rcases hs with ⟨rfl, rfl⟩ | ⟨rfl, rfl⟩ | ⟨rfl, rfl⟩
    · exact ⟨Or.inl rfl, rfl⟩
    · exact ⟨Or.inr (Or.inl rfl), rfl⟩
    · exact ⟨Or.inr (Or.inr rfl), rfl⟩
  have h := spec_reads_spelling _ (decSpelling_wf sg hsg.1 z ⟨neg, m, 0, none⟩ none (fun _ hx => nomatch hx))
  rw [decSpelling_value sg z _ none hsg.2 rfl, Spelling.text, decSpelling_mantText] at h
  simpa [Spelling.exText, decSpelling, mantissa, intDigits, Dec.value, pow10Rat] using h

/-- every text CPython's `f`/`g`/`d` layout produces is read by the Spec as the value of its `Dec` -/
theorem spec_reads_renderPy (sign : Char) (width : Nat) (d : Dec) (tail : Text) (ht : tail = [] ∨ StartsSep tail) :
    parseChars (firstWord (renderPy sign width d ++ tail)) = some d.value :=
  (renderPy_spells sign width d).spec_reads tail ht

/-- every text the `e` branch produces (divider replaced, exponent re-padded) is read by the Spec as the value of its
    `Dec` -/
theorem spec_reads_renderSci (f : Formatter) (d : Dec) (tail : Text) (ht : tail = [] ∨ StartsSep tail) :
    parseChars (firstWord (renderSci f d ++ tail)) = some d.value :=
  (renderSci_spells f d).spec_reads tail ht

/-- the read-back check of `_format_float` reads every candidate as the value of its `Dec` -/
theorem fortran_reads_candidate (f : Formatter) (x : Num) (sp : FStyle × Nat) :
    fortranFloat (formatFloatAs f x sp) = some (decOf x sp).value :=
  (candidate_spells f x sp).fortran_reads

end MontePyVerif.C05
