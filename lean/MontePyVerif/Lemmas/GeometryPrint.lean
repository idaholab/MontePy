import MontePyVerif.Lemmas.GeometryReady
/-! The cases of the main induction (`ready_holds` in Props/C02: the text of a ready tree reads as its tokens), each
    from the texts of its parts and its paddings.  `GoodFrom` is `Good` for a lexer that starts with a lexeme pending,
    so that a text can be followed across the seam between two parts. -/
namespace MontePyVerif.C02
open MontePyVerif.Spec.Geometry MontePyVerif.Geometry

def GoodFrom (p0 : Pend) (T : List GCh) (toks : List Tok) : Prop :=
  ∃ ts p, StepsC p0 false T ts p ∧ Complete p ∧ ts ++ ftoks p = toks ∧ (cmtAfter false T = true → p = .none) ∧
    PendOK p0 T p

theorem good_iff {T toks} : Good T toks ↔ GoodFrom .none T toks := Iff.rfl

theorem GoodFrom.of_none {p0 T ts} (h : StepsC p0 false T ts .none) : GoodFrom p0 T ts :=
  ⟨ts, .none, h, trivial, List.append_nil ts, fun _ => rfl, Or.inr (Or.inl rfl)⟩

theorem GoodFrom.of_digit {p0 T ts p} (h : StepsC p0 false T ts p) (hp : Complete p)
    (hc : cmtAfter false T = false) (hd : lastDigit T = true) : GoodFrom p0 T (ts ++ ftoks p) :=
  ⟨ts, p, h, hp, rfl, (fun hh => by rw [hc] at hh; cases hh), Or.inr (Or.inr hd)⟩

theorem GoodFrom.sep {p0 T toks E} (h : GoodFrom p0 T toks) (he : isSep (cmtAfter false T) E = true) :
    GoodFrom p0 (T ++ E) toks := by
  cases E with
  | nil => rw [List.append_nil]; exact h
  | cons x xs =>
    obtain ⟨ts, p, hs, hp, ht, hc, -⟩ := h
    have h2 : StepsC p (cmtAfter false T) (x :: xs) (ftoks p) .none := by
      cases hcT : cmtAfter false T <;> rw [hcT] at he
      · exact sep_steps_pending hp he
      · rw [hc hcT]; exact sep_steps he
    exact ⟨ts ++ ftoks p, .none, hs.trans h2, trivial, (List.append_nil _).trans ht, fun _ => rfl,
      Or.inr (Or.inl rfl)⟩

/-- `p1` need not be complete (`#` may be pending), but then `T2` cannot be empty -/
theorem GoodFrom.after {p0 T1 k1 p1 T2 k2} (h1 : StepsC p0 false T1 k1 p1) (hc : cmtAfter false T1 = false)
    (hp1 : Complete p1 → PendOK p0 T1 p1) (h2 : GoodFrom p1 T2 k2) : GoodFrom p0 (T1 ++ T2) (k1 ++ k2) := by
  obtain ⟨ts2, p2, hs2, hp2, ht2, hc2, hpend2⟩ := h2
  refine ⟨k1 ++ ts2, p2, h1.then hc hs2, hp2, by rw [List.append_assoc, ht2],
    fun hh => hc2 (by rwa [cmtAfter_then hc] at hh), ?_⟩
  rcases hpend2 with ⟨rfl, rfl⟩ | hn | hd
  · rw [List.append_nil]; exact hp1 hp2
  · exact Or.inr (Or.inl hn)
  · exact Or.inr (Or.inr (lastDigit_append hd))

theorem GoodFrom.seq1 {p0 T1 k1 T2 k2} (h1 : GoodFrom p0 T1 k1) (hc : cmtAfter false T1 = false)
    (h2 : ∀ p, Complete p → GoodFrom p T2 (ftoks p ++ k2)) : GoodFrom p0 (T1 ++ T2) (k1 ++ k2) := by
  obtain ⟨ts, p, hs, hp, rfl, -, hpend⟩ := h1
  rw [List.append_assoc]
  exact .after hs hc (fun _ => hpend) (h2 p hp)

theorem GoodFrom.seq2 {p0 T1 k1 T2 k2} (h1 : StepsC p0 false T1 k1 .none) (hc : cmtAfter false T1 = false)
    (h2 : GoodFrom .none T2 k2) : GoodFrom p0 (T1 ++ T2) (k1 ++ k2) :=
  .after h1 hc (fun _ => Or.inr (Or.inl rfl)) h2

theorem paren_from {p R tsR} (hp : Complete p) (hR : StepsC .none false R tsR .none) :
    StepsC p false (.lp :: R) (ftoks p ++ .lp :: tsR) .none :=
  (StepsC.then (step_lp hp) rfl hR).cast rfl (List.append_assoc _ _ _)

/-! shapes of the operator paddings -/

theorem complOpr_shape {cs : List GCh} (h : complOpr cs = true) :
    ∃ S, cs = S ++ [.hash] ∧ isSep false S = true ∧ cmtAfter false S = false := by
  simp [complOpr] at h
  obtain ⟨⟨h1, h2⟩, h3⟩ := h
  obtain ⟨S, rfl⟩ := List.getLast?_eq_some_iff.1 h1
  rw [List.dropLast_concat] at h2 h3
  exact ⟨S, rfl, h2, h3⟩

theorem unionOpr_shape {cs : List GCh} (h : unionOpr cs = true) :
    ∃ a b, cs = a ++ .colon :: b ∧ isSep false a = true ∧ cmtAfter false a = false ∧
      isSep false b = true ∧ cmtAfter false b = false := by
  unfold unionOpr at h
  split at h
  · rename_i b hb
    simp only [Bool.and_eq_true, Bool.not_eq_eq_eq_not, Bool.not_true] at h
    exact ⟨_, b, by rw [← hb, List.takeWhile_append_dropWhile], h.1.1.1, h.1.1.2, h.1.2, h.2⟩
  · cases h

theorem interLike_iff {p : Pad} : interLike p = true ↔
    isSep false p.format = true ∧ cmtAfter false p.format = false ∧ GCh.colon ∉ strChars p := by
  simp [interLike, and_assoc]

theorem union_opr_steps {p : Pend} (hp : Complete p) {a b : List GCh}
    (ha : isSep false a = true) (hac : cmtAfter false a = false) (hb : isSep false b = true) :
    StepsC p false (a ++ .colon :: b) (ftoks p ++ [.colon]) .none := by
  have hcol {q} (hq : Complete q) : StepsC q false (.colon :: b) (ftoks q ++ [.colon]) .none :=
    (StepsC.then (step_colon hq) rfl (sep_steps hb)).cast rfl (List.append_nil _)
  cases a with
  | nil => exact hcol hp
  | cons x xs => exact StepsC.then (sep_steps_pending hp ha) hac (hcol (q := .none) trivial)

/-! text of an operator node whose keys are in the created order -/

theorem flatMap_order {g : GN} {base : List Key} (ho : orderOK g base = true) (f : Key → List GCh)
    (hf : f .endPad = optFmt g.ep) : g.order.flatMap f = base.flatMap f ++ optFmt g.ep := by
  rcases orderOK_cases ho with ⟨h1, h2⟩ | ⟨h1, -⟩
  · rw [h1, h2]; exact (List.append_nil _).symm
  · rw [h1, List.flatMap_append, ← hf, List.flatMap_singleton]

theorem fmt_compl {l : HS} {g : GN} (ho : orderOK g [.operator, .left] = true) :
    (HS.compl l (some g)).fmt = g.opr.format ++ (wrapFmt g.lchain l.fmt ++ optFmt g.ep) :=
  (flatMap_order ho _ rfl).trans (by simp)

theorem fmt_bin {o : BOp} {l r : HS} {g : GN} (ho : orderOK g [.left, .operator, .right] = true) :
    (HS.bin o l r (some g)).fmt =
      wrapFmt g.lchain l.fmt ++ (g.opr.format ++ (wrapFmt g.rchain r.fmt ++ optFmt g.ep)) :=
  (flatMap_order ho _ rfl).trans (by simp)

/-! numerals hold no comment and end in a digit -/

theorem digVal_text {a v d : Nat} {ds : List GCh} (h : digVal a ds = some v) :
    cmtAfter false ds = false ∧ lastDigit (.digit d :: ds) = true := by
  induction ds generalizing a d with
  | nil => exact ⟨rfl, rfl⟩
  | cons x xs ih =>
    obtain ⟨d', rfl, h'⟩ := digVal_cons h
    exact ih (d := d') h'

theorem cellVal_text {tok : List GCh} {v : Nat} (h : cellVal tok = some v) :
    cmtAfter false tok = false ∧ lastDigit tok = true := by
  obtain ⟨d, cs, rfl, hd⟩ := cellVal_shape h
  exact digVal_text (ds := cs) hd

theorem tokVal_text {tok : List GCh} {neg : Bool} {v : Nat} (h : tokVal tok = some (neg, v)) :
    cmtAfter false tok = false ∧ lastDigit tok = true := by
  obtain ⟨s, num, rfl, hv, hs⟩ := tokVal_shape h
  obtain ⟨hc, hd⟩ := cellVal_text hv
  refine ⟨?_, lastDigit_append hd⟩
  rcases hs with ⟨rfl, -⟩ | ⟨rfl, -⟩ | ⟨rfl, -⟩ <;> exact hc

theorem good_leaf {tok : List GCh} {neg : Bool} {d : Nat} {pad : List GCh}
    (ht : tokVal tok = some (neg, d)) (hp : isSep false pad = true) : Good (tok ++ pad) [.num d neg] := by
  obtain ⟨hc, hd⟩ := tokVal_text ht
  exact (GoodFrom.of_digit (.of_closed (tok_steps ht) hc) trivial hc hd).sep (by rw [hc]; exact hp)

theorem hash_steps {S : List GCh} (hS : isSep false S = true) (hSc : cmtAfter false S = false) :
    StepsC .none false (S ++ [.hash]) [] .hash ∧ cmtAfter false (S ++ [.hash]) = false :=
  ⟨StepsC.then (sep_steps hS) hSc step_hash, by rw [cmtAfter_then hSc]; rfl⟩

theorem good_cell {S tok pad ep : List GCh} {d : Nat}
    (hS : isSep false S = true) (hSc : cmtAfter false S = false) (ht : cellVal tok = some d)
    (hp : isSep false pad = true) (he : isSep (cmtAfter false pad) ep = true) :
    Good ((S ++ [.hash]) ++ ((tok ++ pad) ++ ep)) [.cell d] := by
  obtain ⟨h1, hc1⟩ := hash_steps hS hSc
  obtain ⟨hc, hd⟩ := cellVal_text ht
  have g : GoodFrom .hash tok [.cell d] := .of_digit (.of_closed (celltok_steps ht) hc) trivial hc hd
  exact GoodFrom.after h1 hc1 (fun h => h.elim)
    ((g.sep (by rw [hc]; exact hp)).sep (by rw [cmtAfter_then hc]; exact he))

theorem good_compl {S R ep : List GCh} {tsR : List Tok}
    (hS : isSep false S = true) (hSc : cmtAfter false S = false)
    (hR : StepsC .none false R tsR .none) (he : isSep (cmtAfter false (.lp :: R)) ep = true) :
    Good ((S ++ [.hash]) ++ ((.lp :: R) ++ ep)) (.clp :: tsR) := by
  obtain ⟨h1, hc1⟩ := hash_steps hS hSc
  have g : GoodFrom .hash (.lp :: R) (.clp :: tsR) := .of_none (StepsC.then step_clp rfl hR)
  exact GoodFrom.after h1 hc1 (fun h => h.elim) (g.sep he)

theorem good_inter {L R opr ep : List GCh} {kL kR : List Tok}
    (gL : Good L kL) (hLc : cmtAfter false L = false) (gR : Good R kR)
    (ho : isSep false opr = true) (hoc : cmtAfter false opr = false)
    (hsepar : opr ≠ [] ∨
      (∃ RL tsL, L = .lp :: RL ∧ kL = .lp :: tsL ∧ StepsC .none false RL tsL .none) ∨
      (∃ RR tsR, R = .lp :: RR ∧ kR = .lp :: tsR ∧ StepsC .none false RR tsR .none) ∨
      lastDigit L = false)
    (he : isSep (cmtAfter false R) ep = true) :
    Good (L ++ (opr ++ (R ++ ep))) (kL ++ kR) := by
  have gRE : GoodFrom .none (R ++ ep) kR := GoodFrom.sep gR he
  -- a non-empty padding ends whatever is pending; behind an empty one the right operand must do so itself
  have mid {p} (hp : Complete p) (h : opr = [] → GoodFrom p (R ++ ep) (ftoks p ++ kR)) :
      GoodFrom p (opr ++ (R ++ ep)) (ftoks p ++ kR) := by
    cases opr with
    | nil => exact h rfl
    | cons x xs => exact GoodFrom.seq2 (sep_steps_pending hp ho) hoc gRE
  rcases hsepar with hne | ⟨RL, tsL, rfl, rfl, hs⟩ | ⟨RR, tsR, rfl, rfl, hs⟩ | hnd
  · exact GoodFrom.seq1 gL hLc fun p hp => mid hp fun e => absurd e hne
  · exact GoodFrom.seq2 (paren_from (p := .none) trivial hs) hLc (mid (p := .none) trivial fun _ => gRE)
  · exact GoodFrom.seq1 gL hLc fun p hp => mid hp fun _ => (GoodFrom.of_none (paren_from hp hs)).sep he
  · -- the left text does not end in a digit: the lexer holds nothing behind it
    obtain ⟨ts, p, hsL, -, rfl, -, hpend⟩ := gL
    have hpn : p = .none := by
      rcases hpend with ⟨-, h⟩ | h | h
      · exact h
      · exact h
      · rw [hnd] at h; cases h
    subst hpn
    rw [show ts ++ ftoks .none = ts from List.append_nil ts]
    exact GoodFrom.seq2 hsL hLc (mid (p := .none) trivial fun _ => gRE)

theorem good_union {L R a b ep : List GCh} {kL kR : List Tok}
    (gL : Good L kL) (hLc : cmtAfter false L = false) (gR : Good R kR)
    (ha : isSep false a = true) (hac : cmtAfter false a = false)
    (hb : isSep false b = true) (hbc : cmtAfter false b = false)
    (he : isSep (cmtAfter false R) ep = true) :
    Good (L ++ ((a ++ .colon :: b) ++ (R ++ ep))) (kL ++ .colon :: kR) := by
  have hoc : cmtAfter false (a ++ .colon :: b) = false := by rw [cmtAfter_then hac]; exact hbc
  refine GoodFrom.seq1 gL hLc fun p hp => ?_
  have := GoodFrom.seq2 (union_opr_steps hp ha hac hb) hoc (GoodFrom.sep gR he)
  rw [List.append_assoc (ftoks p)] at this
  exact this

end MontePyVerif.C02
