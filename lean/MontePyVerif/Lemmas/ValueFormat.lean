import MontePyVerif.Model.ValueFormat
/-! # What the proofs of C05 and C07 share about `Model/ValueFormat.lean`: the frame of `reverseEngineerFormatting`
and the two arms of `format` -/
namespace MontePyVerif.ValueFormat

theorem reverse_shape (n : Node) : ∃ f r, reverseEngineerFormatting n = { n with fmt := f, isReversed := r } := by
  unfold reverseEngineerFormatting
  split
  · exact ⟨_, _, rfl⟩
  · split <;> exact ⟨_, _, rfl⟩

/-- `ValueNode.format` of a value that did not change: the node stays, the text is token and padding -/
theorem format_unchanged (n : Node) (h : valueChanged n = false) :
    format n = (n, n.token.text ++ (match n.padding with | some p => padFormat p | none => [])) := by
  rw [format, h]; rfl

/-- `ValueNode.format` of a changed value that prints as `x`: the number, left-justified in the token's width, then
    the padding -/
theorem format_changed (n : Node) (h : valueChanged n = true) (x : Num)
    (hx : printValue (reverseEngineerFormatting n) = some x) (hv : n.value.isSome = true) :
    (format n).2 =
      ljust (formatTemp (reverseEngineerFormatting n) x) (reverseEngineerFormatting n).fmt.valueLength
        ++ (padStrings (reverseEngineerFormatting n) (formatTemp (reverseEngineerFormatting n) x).length).1
        ++ (padStrings (reverseEngineerFormatting n) (formatTemp (reverseEngineerFormatting n) x).length).2 := by
  obtain ⟨v, hv⟩ := Option.isSome_iff_exists.1 hv
  simp only [format, h, hv, hx, Bool.not_true, Bool.false_eq_true, if_false]

end MontePyVerif.ValueFormat
