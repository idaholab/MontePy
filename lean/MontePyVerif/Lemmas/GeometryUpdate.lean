import MontePyVerif.Lemmas.GeometryEnsure
/-! `_update_node` on one node: `__switch_operator(" ")` only blanks the old symbol out; an intersection works on the
    blanked padding; a union or complement whose symbol is there is left alone. -/
namespace MontePyVerif.C02
open MontePyVerif.Spec.Geometry MontePyVerif.Geometry

theorem mem_strChars {p : Pad} {x : GCh} (hx : x ≠ .cmt) : x ∈ strChars p ↔ x ∈ p.format := by
  simp only [strChars, Pad.format, List.mem_flatMap]
  refine exists_congr fun it => and_congr_right fun _ => ?_
  cases it with
  | str cs => rfl
  | cmt n => simp [PItem.format, hx]

theorem format_cons_str (cs : List GCh) (p : Pad) : Pad.format (.str cs :: p) = cs ++ p.format := rfl

theorem cleanPad_cons_str {cs : List GCh} {p : Pad} :
    cleanPad (.str cs :: p) = true ↔ GCh.cmt ∉ cs ∧ cleanPad p = true := by
  simp [cleanPad]

theorem cleanPad_append (p q : Pad) : cleanPad (p ++ q) = (cleanPad p && cleanPad q) := List.all_append

theorem format_switch_none (p : Pad) : Pad.format (switchOperator p none) = p.format.map blankSym := by
  simp only [switchOperator, Pad.format, List.flatMap_map, List.map_flatMap]
  congr; funext it; cases it <;> rfl

theorem strChars_switch_none (p : Pad) : strChars (switchOperator p none) = (strChars p).map blankSym := by
  simp only [switchOperator, strChars, List.flatMap_map, List.map_flatMap]
  congr; funext it; cases it <;> rfl

theorem blankSym_cmt (x : GCh) : (blankSym x == GCh.cmt) = (x == GCh.cmt) := by cases x <;> rfl
theorem blankSym_eq_cmt {x : GCh} : blankSym x = .cmt ↔ x = .cmt := by cases x <;> simp [blankSym]
theorem blankSym_nl (x : GCh) : (blankSym x != GCh.nl) = (x != GCh.nl) := by cases x <;> rfl
theorem blankSym_ne_colon (x : GCh) : blankSym x ≠ .colon := by cases x <;> simp [blankSym]

theorem colon_not_mem_map_blank (S : List GCh) : GCh.colon ∉ S.map blankSym :=
  fun hm => (List.mem_map.1 hm).elim fun y hy => blankSym_ne_colon y hy.2

theorem blankSym_of_ne {x : GCh} (h1 : x ≠ .colon) (h2 : x ≠ .hash) : blankSym x = x := by
  cases x <;> first | rfl | contradiction

theorem cleanPad_switch_none (p : Pad) : cleanPad (switchOperator p none) = cleanPad p := by
  simp only [switchOperator, cleanPad, List.all_map]
  congr; funext it
  cases it with
  | cmt n => rfl
  | str cs => simp [blankSym_eq_cmt]

theorem cmtAfter_map_blank (c : Bool) (S : List GCh) : cmtAfter c (S.map blankSym) = cmtAfter c S := by
  induction S generalizing c with
  | nil => rfl
  | cons x xs ih => cases c <;> simp [cmtAfter, blankSym_cmt, blankSym_nl, ih]

theorem isSep_map_blank (c : Bool) (S : List GCh) (h : isSep c S = true) : isSep c (S.map blankSym) = true := by
  induction S generalizing c with
  | nil => rfl
  | cons x xs ih =>
    cases c
    · cases x <;> simp [isSep, blankSym] at h ⊢ <;> exact ih _ h
    · simp only [isSep, List.map_cons, blankSym_nl] at h ⊢; exact ih _ h

theorem switch_none_id (p : Pad) (h : ((strChars p).contains .colon || (strChars p).contains .hash) = false) :
    switchOperator p none = p := by
  simp only [Bool.or_eq_false_iff, List.contains_eq_mem, decide_eq_false_iff_not] at h
  refine (List.map_congr_left fun it hit => ?_).trans (List.map_id p)
  cases it with
  | cmt n => rfl
  | str cs =>
    have hx : ∀ x ∈ cs, blankSym x = x := fun x hx =>
      have hm : x ∈ strChars p := List.mem_flatMap.2 ⟨_, hit, hx⟩
      blankSym_of_ne (fun e => h.1 (e ▸ hm)) (fun e => h.2 (e ▸ hm))
    exact congrArg PItem.str ((List.map_congr_left hx).trans (List.map_id' cs))

/-- where `__switch_operator(" ")` is not called it would change nothing (`switch_none_id`) -/
theorem updateNodeBin_inter_eq (g : GN) :
    updateNodeBin .inter g =
      if !((strChars (switchOperator g.opr none)).any isSpaceCh || hasParens g.lchain || hasParens g.rchain)
      then { g with opr := .str [.sp] :: switchOperator g.opr none } else { g with opr := switchOperator g.opr none } := by
  simp only [updateNodeBin]
  cases hsw : ((strChars g.opr).contains .colon || (strChars g.opr).contains .hash) with
  | true => simp only [if_true, strChars_switch_none]
  | false => simp only [switch_none_id g.opr hsw, Bool.false_eq_true, if_false]

/-- `_update_node` of an intersection: an old ":" is blanked out, and a blank is put in front when neither a
    separator nor a parenthesis would keep the operands apart. -/
theorem updateNodeBin_inter (g : GN) (hs : isSep false (g.opr.format.map blankSym) = true)
    (hc : cmtAfter false g.opr.format = false) (hclean : cleanPad g.opr = true) :
    ∃ opr', updateNodeBin .inter g = { g with opr := opr' } ∧ interLike opr' = true ∧
      (Pad.format opr' ≠ [] ∨ headParens g.lchain = true ∨ headParens g.rchain = true) ∧
      (∀ c, cmtAfter c (Pad.format opr') = cmtAfter c g.opr.format) ∧ cleanPad opr' = true := by
  rw [updateNodeBin_inter_eq]
  generalize hq : switchOperator g.opr none = q
  have hqc : ∀ c, cmtAfter c q.format = cmtAfter c g.opr.format := fun c => by
    rw [← hq, format_switch_none, cmtAfter_map_blank]
  have hqcl : cleanPad q = true := by rw [← hq, cleanPad_switch_none, hclean]
  have hncol : GCh.colon ∉ strChars q := by
    rw [← hq, strChars_switch_none]
    exact colon_not_mem_map_blank _
  have hqi : interLike q = true := interLike_iff.2 ⟨by rw [← hq, format_switch_none, hs], by rw [hqc, hc], hncol⟩
  split
  · refine ⟨.str [.sp] :: q, rfl, hqi, Or.inl (List.cons_ne_nil _ _), fun c => ?_, cleanPad_cons_str.2 ⟨by decide, hqcl⟩⟩
    rw [← hqc]; cases c <;> rfl
  · rename_i hcond
    refine ⟨q, rfl, hqi, ?_, hqc, hqcl⟩
    simp only [Bool.not_eq_true', Bool.not_eq_false, Bool.or_eq_true, List.any_eq_true] at hcond
    rw [headParens_eq_hasParens, headParens_eq_hasParens]
    rcases hcond with (⟨x, hx, hsp⟩ | h) | h
    · exact Or.inl (List.ne_nil_of_mem ((mem_strChars (by rintro rfl; cases hsp)).1 hx))
    · exact Or.inr (Or.inl h)
    · exact Or.inr (Or.inr h)

theorem updateNodeBin_union (g : GN) (h : unionOpr g.opr.format = true) : updateNodeBin .union g = g := by
  obtain ⟨a, b, hab, _⟩ := unionOpr_shape h
  have hm : GCh.colon ∈ g.opr.format := by rw [hab]; simp
  simp [updateNodeBin, (mem_strChars (by decide)).2 hm]

theorem updateNodeCompl_id (g : GN) (h : complOpr g.opr.format = true) : updateNodeCompl g = g := by
  obtain ⟨S, hS, _⟩ := complOpr_shape h
  have hm : GCh.hash ∈ g.opr.format := by rw [hS]; simp
  simp [updateNodeCompl, (mem_strChars (by decide)).2 hm]

end MontePyVerif.C02
