import MontePyVerif.Lemmas.SpecWords
/-!
# The Spec reader inverts every valid layout (lemmas for C11_spec_layout)

Spec-only: nothing here mentions the model.  The kind of a rendered physical line is what the layout says
(`classify_data`, `classify_comment`); the fold over those kinds gives the words back (`run_lay`).
-/
namespace MontePyVerif.Layout
open MontePyVerif MontePyVerif.Spec MontePyVerif.ListBasics MontePyVerif.SpecWords

def WordOK (w : Word) : Prop := w ≠ [] ∧ (∀ c ∈ w, c ≠ ' ' ∧ c ≠ '$' ∧ c ≠ '\t') ∧ w ≠ ['&']

/-- for comment texts: a tab would move what follows; they are free otherwise -/
def NoTab (x : Line) : Prop := ∀ c ∈ x, c ≠ '\t'

def notC (w : Word) : Prop := w ≠ ['c'] ∧ w ≠ ['C']

instance (w : Word) : Decidable (WordOK w) := by unfold WordOK; infer_instance
instance (x : Line) : Decidable (NoTab x) := by unfold NoTab; infer_instance
instance (w : Word) : Decidable (notC w) := by unfold notC; infer_instance

/-! ## words -/

def Breaks (T : Line) : Prop := T = [] ∨ ∃ T', T = ' ' :: T'

theorem breaks_replicate (k : Nat) (T : Line) (hT : Breaks T) : Breaks (List.replicate k ' ' ++ T) := by
  cases k with
  | zero => simpa using hT
  | succ k => right; exact ⟨List.replicate k ' ' ++ T, by simp [List.replicate_succ]⟩

theorem wordOK_split {w : Word} (h : WordOK w) : w ≠ [] ∧ ∀ c ∈ w, c ≠ ' ' :=
  ⟨h.1, fun c hc => (h.2.1 c hc).1⟩

theorem body_words (rest : List (Nat × Word)) (f : Word) (T : Line)
    (hf : WordOK f) (hr : ∀ p ∈ rest, WordOK p.2) (hT : Breaks T) :
    splitWords (bodyStr f rest ++ T) = (f :: rest.map (·.2)) ++ splitWords T := by
  obtain ⟨hne, hnb⟩ := wordOK_split hf
  induction rest generalizing f with
  | nil =>
    simp only [bodyStr, List.flatMap_nil, List.append_nil, List.map_nil]
    rcases hT with rfl | ⟨T', rfl⟩
    · rw [List.append_nil, splitWords_word f hne hnb]; rfl
    · rw [splitWords_word_blank f _ hne hnb, splitWords_blank]; rfl
  | cons p rest ih =>
    obtain ⟨hne', hnb'⟩ := wordOK_split (hr p (by simp))
    have e : bodyStr f (p :: rest) ++ T = f ++ ' ' :: (List.replicate p.1 ' ' ++ (bodyStr p.2 rest ++ T)) := by
      simp [bodyStr, List.replicate_succ]
    rw [e, splitWords_word_blank f _ hne hnb, splitWords_blanks,
      ih p.2 (hr p (by simp)) (fun q hq => hr q (List.mem_cons_of_mem _ hq)) hne' hnb']
    simp

/-! ## the data part of a rendered line -/

/-- the part of the line end that belongs to the data -/
def dataTail : Tail → Line
  | .plain t none => List.replicate t ' '
  | .plain t (some _) => List.replicate (t + 1) ' '
  | .amp pre t => List.replicate (pre + 1) ' ' ++ '&' :: List.replicate t ' '
  | .dollar pre _ => List.replicate (pre + 1) ' '

structure DLineOK (limit : Nat) (d : DLine) : Prop where
  first : WordOK d.first
  rest : ∀ p ∈ d.rest, WordOK p.2
  notComment : d.indent < 5 → notC d.first
  fits : d.str.length ≤ limit
  noTab : match d.tail with
    | .plain _ (some x) => NoTab x
    | .dollar _ x => NoTab x
    | _ => True

instance (limit : Nat) (d : DLine) : Decidable (DLineOK limit d) :=
  have : Decidable (match d.tail with | .plain _ (some x) => NoTab x | .dollar _ x => NoTab x | _ => True) := by
    cases d.tail with
    | plain t dl => cases dl <;> infer_instance
    | amp => infer_instance
    | dollar => infer_instance
  decidable_of_iff (WordOK d.first ∧ (∀ p ∈ d.rest, WordOK p.2) ∧ (d.indent < 5 → notC d.first) ∧
      d.str.length ≤ limit ∧ (match d.tail with | .plain _ (some x) => NoTab x | .dollar _ x => NoTab x | _ => True))
    ⟨fun ⟨a, b, c, e, f⟩ => ⟨a, b, c, e, f⟩, fun ⟨a, b, c, e, f⟩ => ⟨a, b, c, e, f⟩⟩

theorem all_ne_dollar_replicate (k : Nat) : ∀ c ∈ List.replicate k ' ', decide (c ≠ '$') = true := by
  intro c hc; rw [(List.mem_replicate.mp hc).2]; decide

theorem body_no_dollar (d : DLine) (hf : WordOK d.first) (hr : ∀ p ∈ d.rest, WordOK p.2) :
    ∀ c ∈ bodyStr d.first d.rest, decide (c ≠ '$') = true := by
  intro c hc
  unfold bodyStr at hc
  rcases List.mem_append.mp hc with h | h
  · simpa using (hf.2.1 c h).2.1
  · obtain ⟨p, hp, hcp⟩ := List.mem_flatMap.mp h
    rcases List.mem_append.mp hcp with h1 | h1
    · rw [(List.mem_replicate.mp h1).2]; decide
    · simpa using ((hr p hp).2.1 c h1).2.1

theorem dollar_mem_str (d : DLine) (hf : WordOK d.first) (hr : ∀ p ∈ d.rest, WordOK p.2) :
    '$' ∈ d.str ↔ '$' ∈ tailStr d.tail := by
  unfold DLine.str
  rw [List.mem_append, List.mem_append]
  refine ⟨fun h => ?_, Or.inr⟩
  rcases h with (h | h) | h
  · exact absurd (List.eq_of_mem_replicate h) (by decide)
  · exact absurd (body_no_dollar d hf hr '$' h) (by decide)
  · exact h

theorem dataPart_str (d : DLine) (hf : WordOK d.first) (hr : ∀ p ∈ d.rest, WordOK p.2) :
    dataPart d.str = List.replicate d.indent ' ' ++ bodyStr d.first d.rest ++ dataTail d.tail := by
  unfold dataPart DLine.str
  rw [List.append_assoc, List.append_assoc,
    List.takeWhile_append_of_pos (all_ne_dollar_replicate d.indent),
    List.takeWhile_append_of_pos (body_no_dollar d hf hr)]
  congr 2
  cases d.tail with
  | plain t dl =>
    cases dl with
    | none =>
      simp only [tailStr, dataTail]
      rw [takeWhile_eq_self]; exact all_ne_dollar_replicate t
    | some x =>
      simp only [tailStr, dataTail]
      have : List.replicate t ' ' ++ ' ' :: '$' :: x = List.replicate (t + 1) ' ' ++ '$' :: x := by
        rw [List.replicate_succ']; simp
      rw [this, takeWhile_append_stop _ _ '$' x (all_ne_dollar_replicate _) (by decide)]
  | amp pre t =>
    simp only [tailStr, dataTail]
    rw [takeWhile_eq_self]
    simp only [List.forall_mem_append, List.forall_mem_cons]
    exact ⟨all_ne_dollar_replicate _, by decide, all_ne_dollar_replicate _⟩
  | dollar pre x =>
    simp only [tailStr, dataTail]
    rw [takeWhile_append_stop _ _ '$' x (all_ne_dollar_replicate _) (by decide)]

def isAmp : Tail → Bool
  | .amp _ _ => true
  | _ => false

theorem breaks_dataTail (t : Tail) : Breaks (dataTail t) := by
  cases t with
  | plain t dl =>
    cases dl with
    | none => cases t with
      | zero => left; rfl
      | succ k => right; exact ⟨List.replicate k ' ', by simp [dataTail, List.replicate_succ]⟩
    | some x => right; exact ⟨List.replicate t ' ', by simp [dataTail, List.replicate_succ]⟩
  | amp pre t => right; exact ⟨List.replicate pre ' ' ++ '&' :: List.replicate t ' ', by simp [dataTail, List.replicate_succ]⟩
  | dollar pre x => right; exact ⟨List.replicate pre ' ', by simp [dataTail, List.replicate_succ]⟩

theorem words_dataTail (t : Tail) : splitWords (dataTail t) = if isAmp t then [['&']] else [] := by
  cases t with
  | plain t dl => cases dl <;> simp [dataTail, isAmp, splitWords_replicate]
  | amp pre t =>
    simp only [dataTail, isAmp, ↓reduceIte]
    rw [splitWords_blanks]
    cases t with
    | zero => rfl
    | succ t =>
      rw [List.replicate_succ]
      exact (splitWords_word_blank ['&'] _ (by simp) (by simp)).trans (by rw [splitWords_replicate])
  | dollar pre x => simp [dataTail, isAmp, splitWords_replicate]

theorem splitWords_str (d : DLine) (hf : WordOK d.first) (hr : ∀ p ∈ d.rest, WordOK p.2) :
    splitWords (dataPart d.str) = (d.first :: d.rest.map (·.2)) ++ (if isAmp d.tail then [['&']] else []) := by
  rw [dataPart_str d hf hr, List.append_assoc, splitWords_blanks,
    body_words d.rest d.first _ hf hr (breaks_dataTail d.tail), words_dataTail]

/-! ## `&` at the end of the data -/

theorem endsAmp_str (d : DLine) (hf : WordOK d.first) (hr : ∀ p ∈ d.rest, WordOK p.2) :
    endsAmp (dataPart d.str) = isAmp d.tail := by
  cases ha : isAmp d.tail
  · -- otherwise the last word of the line, a proper word, would be `&`
    apply Bool.eq_false_iff.mpr
    intro h
    obtain ⟨pre, hp⟩ := endsAmp_last _ h
    rw [splitWords_str d hf hr, ha] at hp
    have hl : ['&'] ∈ d.first :: d.rest.map (·.2) := by
      have := congrArg List.getLast? hp
      simp only [Bool.false_eq_true, ↓reduceIte, List.append_nil, List.getLast?_append, List.getLast?_singleton,
        Option.some_or] at this
      exact List.mem_of_getLast? this
    rcases List.mem_cons.mp hl with e | hm
    · exact hf.2.2 e.symm
    · obtain ⟨p, hp, e⟩ := List.mem_map.mp hm
      exact (hr p hp).2.2 e
  · rw [dataPart_str d hf hr]
    cases htl : d.tail with
    | amp p t =>
      simp only [dataTail, endsAmp, List.reverse_append, List.reverse_cons, List.reverse_replicate, List.append_assoc]
      rw [List.dropWhile_append_of_pos (replicate_all t ' ' _ (by simp))]
      simp [List.replicate_succ]
    | plain t dl => rw [htl] at ha; nomatch ha
    | dollar p x => rw [htl] at ha; nomatch ha

theorem lineWords_str (d : DLine) (hf : WordOK d.first) (hr : ∀ p ∈ d.rest, WordOK p.2) :
    lineWords d.str = d.first :: d.rest.map (·.2) := by
  unfold lineWords
  simp only [endsAmp_str d hf hr, splitWords_str d hf hr]
  cases isAmp d.tail
  · simp
  · simp only [↓reduceIte]
    rw [List.dropLast_concat]

/-! ## the kind of a rendered line -/

theorem expandTabs_noTab (y : Line) (h : NoTab y) (col : Nat) : expandTabsFrom col y = y := by
  induction y generalizing col with
  | nil => rfl
  | cons c y ih =>
    have hc : c ≠ '\t' := h c (by simp)
    simp only [expandTabsFrom, hc, ↓reduceIte]
    rw [ih (fun d hd => h d (List.mem_cons_of_mem _ hd))]

theorem physical_id (limit : Nat) (y : Line) (h : NoTab y) (hl : y.length ≤ limit) : physical limit y = y := by
  unfold physical
  rw [expandTabs_noTab y h, List.take_of_length_le hl]

theorem NoTab.append {a b : Line} (ha : NoTab a) (hb : NoTab b) : NoTab (a ++ b) := by
  intro c hc; rcases List.mem_append.mp hc with h | h
  · exact ha c h
  · exact hb c h

theorem forall_mem_str {P : Char → Prop} (d : DLine) (hb : P ' ') (hd : P '$') (ha : P '&')
    (hf : ∀ c ∈ d.first, P c) (hr : ∀ p ∈ d.rest, ∀ c ∈ p.2, P c)
    (ht : match d.tail with
      | .plain _ (some x) => ∀ c ∈ x, P c
      | .dollar _ x => ∀ c ∈ x, P c
      | _ => True) : ∀ c ∈ d.str, P c := by
  have hrep : ∀ k, ∀ c ∈ List.replicate k ' ', P c := fun k c hc => List.eq_of_mem_replicate hc ▸ hb
  unfold DLine.str bodyStr
  simp only [List.forall_mem_append]
  refine ⟨⟨hrep _, hf, fun c hc => ?_⟩, ?_⟩
  · obtain ⟨p, hp, hcp⟩ := List.mem_flatMap.mp hc
    exact (List.mem_append.mp hcp).elim (hrep _ c) (hr p hp c)
  · cases htl : d.tail with
    | plain t dl =>
      rw [htl] at ht
      cases dl with
      | none => exact hrep _
      | some x =>
        simp only [tailStr, List.forall_mem_append, List.forall_mem_cons]
        exact ⟨hrep _, hb, hd, ht⟩
    | amp pre t =>
      simp only [tailStr, List.forall_mem_append, List.forall_mem_cons]
      exact ⟨hrep _, ha, hrep _⟩
    | dollar pre x =>
      rw [htl] at ht
      simp only [tailStr, List.forall_mem_append, List.forall_mem_cons]
      exact ⟨hrep _, hd, ht⟩

theorem noTab_str {limit : Nat} (d : DLine) (ok : DLineOK limit d) : NoTab d.str :=
  forall_mem_str d (by decide) (by decide) (by decide) (fun c hc => (ok.first.2.1 c hc).2.2)
    (fun p hp c hc => ((ok.rest p hp).2.1 c hc).2.2) ok.noTab

theorem str_shape (d : DLine) (hf : WordOK d.first) :
    ∃ a ftl tl, d.first = a :: ftl ∧ a ≠ ' ' ∧ d.str = List.replicate d.indent ' ' ++ a :: (ftl ++ tl) := by
  obtain ⟨hne, hch, _⟩ := hf
  cases hfirst : d.first with
  | nil => exact absurd hfirst hne
  | cons a ftl =>
    refine ⟨a, ftl, d.rest.flatMap (fun p => List.replicate (p.1 + 1) ' ' ++ p.2) ++ tailStr d.tail, rfl,
      (hch a (by rw [hfirst]; simp)).1, ?_⟩
    unfold DLine.str bodyStr
    rw [hfirst]
    simp only [List.cons_append, List.append_assoc]

theorem isBlankLine_str (d : DLine) (hf : WordOK d.first) : isBlankLine d.str = false := by
  obtain ⟨a, ftl, tl, _, ha, hs⟩ := str_shape d hf
  rw [hs]
  unfold isBlankLine
  simp [List.all_append, ha]

theorem startsInput_str (d : DLine) (hf : WordOK d.first) : startsInput d.str = decide (d.indent < 5) := by
  obtain ⟨a, ftl, tl, _, ha, hs⟩ := str_shape d hf
  rw [hs]
  unfold startsInput
  rw [List.take_append, List.any_append, List.length_replicate]
  have h1 : ((List.replicate d.indent ' ').take 5).any (· ≠ ' ') = false :=
    List.any_eq_false.mpr fun c hc => by rw [List.eq_of_mem_replicate (List.mem_of_mem_take hc)]; decide
  rw [h1, Bool.false_or]
  by_cases hi : d.indent < 5
  · obtain ⟨n, hn⟩ : ∃ n, 5 - d.indent = n + 1 := ⟨4 - d.indent, by omega⟩
    simp [hn, hi, ha]
  · simp [hi, Nat.sub_eq_zero_of_le (Nat.le_of_not_lt hi)]

theorem isCommentLine_indent (k : Nat) (r : Line) (hr : r.head? ≠ some ' ') :
    isCommentLine (List.replicate k ' ' ++ r) =
      (decide (k < 5) && match (generalizing := false) r with
        | [] => false
        | [c] => isC c
        | c :: d :: _ => isC c && d = ' ') := by
  unfold isCommentLine
  have hdrop : (List.replicate k ' ' ++ r).dropWhile (· = ' ') = r := by
    rw [List.dropWhile_append_of_pos (replicate_all k ' ' _ (by simp))]
    cases r with
    | nil => rfl
    | cons a t => exact List.dropWhile_cons_of_neg (by simpa using hr)
  simp only [hdrop, List.length_append, List.length_replicate, Nat.add_sub_cancel]
  rfl

theorem isCommentLine_str {limit : Nat} (d : DLine) (ok : DLineOK limit d) : isCommentLine d.str = false := by
  obtain ⟨a, ftl, tl, hfirst, ha, hs⟩ := str_shape d ok.first
  rw [hs, isCommentLine_indent _ _ (by simpa using ha)]
  by_cases hi : d.indent < 5
  · have hnc := ok.notComment hi
    have hfw := ok.first
    rw [hfirst] at hnc hfw
    cases ftl with
    | nil =>
      have hac : isC a = false := by
        unfold isC
        have h1 : a ≠ 'c' := fun e => hnc.1 (by rw [e])
        have h2 : a ≠ 'C' := fun e => hnc.2 (by rw [e])
        simp [h1, h2]
      cases tl <;> simp [hac]
    | cons b ftl' => simp [(hfw.2.1 b (by simp)).1]
  · simp [hi]

def kindOf : PLine → Kind
  | .comment _ => .comment
  | .data d => .data (decide (d.indent < 5)) (d.first :: d.rest.map (·.2)) (isAmp d.tail)

theorem classify_data {limit : Nat} (d : DLine) (ok : DLineOK limit d) : classify limit d.str = kindOf (.data d) := by
  unfold classify
  rw [physical_id limit d.str (noTab_str d ok) ok.fits]
  unfold classifyPhysical
  rw [isBlankLine_str d ok.first, isCommentLine_str d ok]
  simp only [Bool.false_eq_true, ↓reduceIte]
  have hne : (splitWords (dataPart d.str)).isEmpty = false := by
    rw [splitWords_str d ok.first ok.rest]; rfl
  rw [hne]
  simp only [Bool.false_eq_true, ↓reduceIte, kindOf]
  rw [startsInput_str d ok.first, lineWords_str d ok.first ok.rest, endsAmp_str d ok.first ok.rest]

structure CommentOK (limit : Nat) (c : Nat × Line) : Prop where
  ind : c.1 < 5
  noTab : NoTab c.2
  fits : (commentLine c).length ≤ limit

instance (limit : Nat) (c : Nat × Line) : Decidable (CommentOK limit c) :=
  decidable_of_iff (c.1 < 5 ∧ NoTab c.2 ∧ (commentLine c).length ≤ limit)
    ⟨fun ⟨a, b, c⟩ => ⟨a, b, c⟩, fun ⟨a, b, c⟩ => ⟨a, b, c⟩⟩

theorem forall_mem_commentLine {P : Char → Prop} (c : Nat × Line) (hb : P ' ') (hc : P 'c') (ht : ∀ x ∈ c.2, P x) :
    ∀ x ∈ commentLine c, P x := by
  unfold commentLine
  simp only [List.forall_mem_append]
  refine ⟨fun x hx => List.eq_of_mem_replicate hx ▸ hb, ?_⟩
  split
  · exact List.forall_mem_singleton.mpr hc
  · exact List.forall_mem_cons.mpr ⟨hc, List.forall_mem_cons.mpr ⟨hb, ht⟩⟩

theorem isCommentLine_commentLine (c : Nat × Line) (h : c.1 < 5) : isCommentLine (commentLine c) = true := by
  unfold commentLine
  split <;> rw [isCommentLine_indent _ _ (by simp)] <;> simp [h, isC]

theorem classify_comment {limit : Nat} (c : Nat × Line) (ok : CommentOK limit c) :
    classify limit (commentLine c) = .comment := by
  have hnt : NoTab (commentLine c) := forall_mem_commentLine c (by decide) (by decide) ok.noTab
  have hb : isBlankLine (commentLine c) = false := by
    unfold commentLine isBlankLine
    split <;> simp [List.all_append]
  unfold classify
  rw [physical_id limit _ hnt ok.fits]
  unfold classifyPhysical
  rw [hb, isCommentLine_commentLine c ok.ind]
  rfl

/-! ## the fold over the kinds of a layout -/

/-- what a data line beginning (`col`) or not in columns 1-5 does to the open input: the inputs emitted and the
    words the line's words are appended to -/
def openWith (s : St) (col : Bool) : List Inp × List Word :=
  match s.cur with
  | none => ([], [])
  | some acc => if col && !s.amp then ([⟨s.block, acc⟩], []) else ([], acc)

theorem step_data (s : St) (hb : s.block < 3) (col : Bool) (wds : List Word) (a : Bool) :
    step s (.data col wds a) =
      ((openWith s col).1, { block := s.block, cur := some ((openWith s col).2 ++ wds), amp := a }) := by
  unfold step openWith
  have : ¬ s.block ≥ 3 := by omega
  simp only [this, ↓reduceIte]
  cases s.cur with
  | none => simp
  | some acc => simp only; split <;> simp

theorem step_comment (s : St) : step s .comment = ([], s) := by
  unfold step; split <;> rfl

theorem run_cons (s : St) (k : Kind) (ks : List Kind) : run s (k :: ks) = (step s k).1 ++ run (step s k).2 ks := rfl

theorem run_comments (s : St) (cs : List (Nat × Line)) (K : List Kind) :
    run s ((cs.map PLine.comment).map kindOf ++ K) = run s K := by
  induction cs with
  | nil => rfl
  | cons c cs ih =>
    simp only [List.map_cons, List.cons_append, kindOf, run_cons, step_comment, List.nil_append]
    exact ih

theorem openWith_cont (b : Nat) (A : List Word) (a : Bool) (indent : Nat) (h : indent ≥ 5 ∨ a = true) :
    openWith ⟨b, some A, a⟩ (decide (indent < 5)) = ([], A) := by
  unfold openWith
  simp only
  rcases h with h | h
  · have : ¬ indent < 5 := by omega
    simp [this]
  · simp [h]

theorem run_lay (ws : List Word) : ∀ (gs : List Gap) (indent : Nat) (first : Word) (rest : List (Nat × Word))
    (trail : Nat) (td : Option Line) (s : St) (K : List Kind), s.block < 3 →
    run s ((layWords indent first rest ws gs trail td).map kindOf ++ K) =
      (openWith s (decide (indent < 5))).1 ++
        run { block := s.block,
              cur := some ((openWith s (decide (indent < 5))).2 ++ first :: rest.map (·.2) ++ ws),
              amp := false } K := by
  induction ws with
  | nil =>
    intro gs indent first rest trail td s K hb
    simp only [layWords, List.map_cons, List.map_nil, List.cons_append, List.nil_append, kindOf, isAmp, run_cons,
      step_data s hb, List.append_nil]
  | cons w' ws ih =>
    intro gs indent first rest trail td s K hb
    have hlist : ∀ (A : List Word) (n : Nat), A ++ first :: (rest ++ [(n, w')]).map (·.2) ++ ws =
        A ++ first :: rest.map (·.2) ++ w' :: ws := by intro A n; simp
    -- the line `first rest` is closed with `tail`; C comment lines may follow; the next line starts at `ind`
    have hline : ∀ (tail : Tail) (cs : List (Nat × Line)) (ind : Nat) (gs' : List Gap), (ind ≥ 5 ∨ isAmp tail = true) →
        run s ((kindOf (.data ⟨indent, first, rest, tail⟩) ::
            ((cs.map PLine.comment).map kindOf ++ (layWords ind w' [] ws gs' trail td).map kindOf)) ++ K) =
          (openWith s (decide (indent < 5))).1 ++
            run { block := s.block,
                  cur := some ((openWith s (decide (indent < 5))).2 ++ first :: rest.map (·.2) ++ w' :: ws),
                  amp := false } K := by
      intro tail cs ind gs' hc
      rw [List.cons_append, List.append_assoc, run_cons, kindOf, step_data s hb, run_comments,
        ih gs' ind w' [] trail td ⟨s.block, some ((openWith s (decide (indent < 5))).2 ++ first :: rest.map (·.2)),
          isAmp tail⟩ K hb, openWith_cont _ _ _ _ hc]
      simp
    cases gs with
    | nil =>
      simp only [layWords]
      rw [ih [] indent first _ trail td s K hb, hlist]
    | cons g gs =>
      cases g with
      | blanks n =>
        simp only [layWords]
        rw [ih gs indent first _ trail td s K hb, hlist]
      | newline n => exact hline (.plain 0 none) [] (5 + n) gs (.inl (Nat.le_add_right 5 n))
      | amp pre t cs n =>
        simp only [layWords, List.map_cons, List.map_append]
        exact hline (.amp pre t) cs n gs (.inr rfl)
      | dollar pre text n => exact hline (.dollar pre text) [] (5 + n) gs (.inl (Nat.le_add_right 5 n))
      | comments cs n =>
        simp only [layWords, List.map_cons, List.map_append]
        exact hline (.plain 0 none) cs (5 + n) gs (.inl (Nat.le_add_right 5 n))

/-- the inputs emitted when a new input begins in state `s` -/
def emit (s : St) : List Inp :=
  match s.cur with
  | none => []
  | some acc => [⟨s.block, acc⟩]

theorem run_input (L : InputLayout) (w : Word) (ws : List Word) (s : St) (K : List Kind)
    (hb : s.block < 3) (ha : s.amp = false) (hl : L.lead < 5) :
    run s ((layInput L (w :: ws)).map kindOf ++ K) =
      emit s ++ run { block := s.block, cur := some (w :: ws), amp := false } K := by
  unfold layInput
  simp only [List.map_append, List.append_assoc]
  rw [run_comments, run_lay ws L.gaps L.lead w [] L.trail L.trailDollar s K hb]
  unfold openWith emit
  simp only [hl, decide_true, ha, Bool.not_false, Bool.and_self, ↓reduceIte, List.map_nil]
  cases s.cur <;> simp

def layInputs : List (InputLayout × List Word) → List PLine
  | [] => []
  | (L, ws) :: t => layInput L ws ++ layInputs t

theorem renderInputs_eq (items : List (InputLayout × List Word)) :
    renderInputs items = (layInputs items).map PLine.str := by
  induction items with
  | nil => rfl
  | cons it items ih =>
    obtain ⟨L, ws⟩ := it
    simp only [renderInputs, layInputs, List.map_append, ih, renderInput]

theorem run_inputs (items : List (InputLayout × List Word)) : ∀ (s : St),
    s.block < 3 → s.amp = false → (∀ it ∈ items, it.1.lead < 5 ∧ it.2 ≠ []) →
    run s ((layInputs items).map kindOf) = emit s ++ items.map (fun it => ⟨s.block, it.2⟩) := by
  induction items with
  | nil =>
    intro s hb _ _
    simp only [layInputs, List.map_nil, run, close, emit, hb, ↓reduceIte, List.append_nil]
    cases s.cur <;> rfl
  | cons it items ih =>
    intro s hb ha hv
    obtain ⟨L, ws⟩ := it
    obtain ⟨hl, hne⟩ := hv (L, ws) (by simp)
    cases ws with
    | nil => exact absurd rfl hne
    | cons w ws =>
      rw [layInputs, List.map_append, run_input L w ws s _ hb ha hl,
        ih ⟨s.block, some (w :: ws), false⟩ hb rfl (fun it hit => hv it (List.mem_cons_of_mem _ hit))]
      rfl

end MontePyVerif.Layout
