import MontePyVerif.Lemmas.GeometryLex
import MontePyVerif.Lemmas.GeometryParse
/-! When the text of a HalfSpace tree reads back, as predicates on the tree *with* its syntax nodes: `gen` (`ready`,
    `linked`) and `wf`.  The proofs about the model use what the two say node by node (`gen_unit` … `wf_bin`) and
    never unfold them. -/
namespace MontePyVerif.C02
open MontePyVerif.Spec.Geometry MontePyVerif.Geometry

def StepsC (p0 : Pend) (c0 : Bool) (T : List GCh) (ts : List Tok) (p : Pend) : Prop :=
  Steps p0 c0 T ts p (cmtAfter c0 T)

theorem StepsC.trans {p0 c0 T1 ts1 p1 T2 ts2 p2}
    (h1 : StepsC p0 c0 T1 ts1 p1) (h2 : StepsC p1 (cmtAfter c0 T1) T2 ts2 p2) :
    StepsC p0 c0 (T1 ++ T2) (ts1 ++ ts2) p2 := by
  unfold StepsC at *; rw [cmtAfter_append]; exact Steps.trans h1 h2

theorem StepsC.cast {p0 c0 T ts p T' ts'} (h : StepsC p0 c0 T ts p) (hT : T = T') (hts : ts = ts') :
    StepsC p0 c0 T' ts' p := by subst hT; subst hts; exact h

theorem StepsC.then {p0 c0 T1 ts1 p1 T2 ts2 p2} (h1 : StepsC p0 c0 T1 ts1 p1) (hc : cmtAfter c0 T1 = false)
    (h2 : StepsC p1 false T2 ts2 p2) : StepsC p0 c0 (T1 ++ T2) (ts1 ++ ts2) p2 :=
  StepsC.trans h1 (by rw [hc]; exact h2)

theorem cmtAfter_then {c : Bool} {a : List GCh} (h : cmtAfter c a = false) (b : List GCh) :
    cmtAfter c (a ++ b) = cmtAfter false b := by
  rw [cmtAfter_append, h]

theorem StepsC.of_closed {p0 c0 T ts p} (h : Steps p0 c0 T ts p false) (hc : cmtAfter c0 T = false) :
    StepsC p0 c0 T ts p := by
  unfold StepsC; rw [hc]; exact h

def lastDigit (T : List GCh) : Bool :=
  match T.getLast? with
  | some (.digit _) => true
  | _ => false

/-- what the lexer may still hold behind the text `T` when it held `p0` in front of it -/
def PendOK (p0 : Pend) (T : List GCh) (p : Pend) : Prop := (T = [] ∧ p = p0) ∨ p = .none ∨ lastDigit T = true

/-- the text `T` reads, from the start of a lexeme, as the tokens `toks` (the last one possibly still pending) -/
def Good (T : List GCh) (toks : List Tok) : Prop :=
  ∃ ts p, StepsC .none false T ts p ∧ Complete p ∧ ts ++ ftoks p = toks ∧ (cmtAfter false T = true → p = .none) ∧
    PendOK .none T p

theorem lastDigit_append {A B : List GCh} (h : lastDigit B = true) : lastDigit (A ++ B) = true := by
  cases B with
  | nil => simp [lastDigit] at h
  | cons b bs =>
    have hg : (A ++ b :: bs).getLast? = (b :: bs).getLast? := by
      rw [List.getLast?_append]
      cases hh : (b :: bs).getLast? with
      | none => simp at hh
      | some x => rfl
    unfold lastDigit at h ⊢
    rw [hg]; exact h

theorem Good.lex {T toks} (h : Good T toks) : lex T = some toks := by
  obtain ⟨ts, p, hs, hp, ht, hc, _⟩ := h
  rw [← ht]; exact lex_of_steps hs hp hc

/-! ## link chains -/

inductive WK where
  | bare
  | parens (s e : List GCh)
  | bad
  deriving DecidableEq

/-- what kind of `_SHIFT` tree this is: a bare "shift" `{left}` or "geom parens" with "(" and ")" in front -/
def wrapKind (w : Wrap) : WK :=
  match w.sp, w.ep with
  | none, none => .bare
  | some (.str [.lp] :: s), some (.str [.rp] :: e) => .parens (Pad.format s) (Pad.format e)
  | _, _ => .bad

def linkToks : List Wrap → List Tok → List Tok
  | [], ts => ts
  | w :: ws, ts =>
      match wrapKind w with
      | .parens _ _ => .lp :: (linkToks ws ts ++ [.rp])
      | _ => linkToks ws ts

/-- the paddings of the chain are separators, nothing in front of a ")" is hidden in a comment -/
def chainOK : List Wrap → List GCh → Bool
  | [], _ => true
  | w :: ws, t =>
      match wrapKind w with
      | .bare => chainOK ws t
      | .parens s e =>
          isSep false s && !cmtAfter false s && !cmtAfter false (wrapFmt ws t) && isSep false e && chainOK ws t
      | .bad => false

def headParens : List Wrap → Bool
  | w :: _ => match wrapKind w with
      | .parens _ _ => true
      | _ => false
  | [] => false

def allBare : List Wrap → Bool
  | [] => true
  | w :: ws => wrapKind w == .bare && allBare ws

theorem kind_bare_iff (w : Wrap) : wrapKind w = .bare ↔ w.sp = none ∧ w.ep = none := by
  unfold wrapKind
  constructor
  · intro h; split at h <;> simp_all
  · rintro ⟨h1, h2⟩; simp [h1, h2]

theorem kind_parens_iff (w : Wrap) (s e : List GCh) :
    wrapKind w = .parens s e ↔
      ∃ si ei, w.sp = some (.str [.lp] :: si) ∧ w.ep = some (.str [.rp] :: ei) ∧ s = Pad.format si ∧ e = Pad.format ei := by
  unfold wrapKind
  constructor
  · intro h
    split at h
    · cases h
    · rename_i si ei hsp hep
      simp only [WK.parens.injEq] at h
      exact ⟨si, ei, hsp, hep, h.1.symm, h.2.symm⟩
    · cases h
  · rintro ⟨si, ei, h1, h2, h3, h4⟩
    simp [h1, h2, h3, h4]

theorem wrapFmt_kind_bare {w : Wrap} (h : wrapKind w = .bare) (ws : List Wrap) (t : List GCh) :
    wrapFmt (w :: ws) t = wrapFmt ws t := by
  obtain ⟨hs, he⟩ := (kind_bare_iff w).1 h
  simp [wrapFmt, optFmt, hs, he]

theorem wrapFmt_kind_parens {w : Wrap} {s e : List GCh} (h : wrapKind w = .parens s e) (ws : List Wrap) (t : List GCh) :
    wrapFmt (w :: ws) t = .lp :: (s ++ wrapFmt ws t ++ .rp :: e) := by
  obtain ⟨si, ei, hs, he, rfl, rfl⟩ := (kind_parens_iff w s e).1 h
  simp [wrapFmt, optFmt, hs, he, Pad.format, PItem.format]

theorem allBare_cons {w : Wrap} {ws : List Wrap} :
    allBare (w :: ws) = true ↔ wrapKind w = .bare ∧ allBare ws = true := by
  simp only [allBare, Bool.and_eq_true, beq_iff_eq]

theorem wrapFmt_allBare {ws : List Wrap} (h : allBare ws = true) (t : List GCh) : wrapFmt ws t = t := by
  induction ws with
  | nil => rfl
  | cons w ws ih =>
    obtain ⟨hk, hb⟩ := allBare_cons.1 h
    rw [wrapFmt_kind_bare hk, ih hb]

theorem linkToks_allBare {ws : List Wrap} (h : allBare ws = true) (ts : List Tok) : linkToks ws ts = ts := by
  induction ws with
  | nil => rfl
  | cons w ws ih =>
    obtain ⟨hk, hb⟩ := allBare_cons.1 h
    simp [linkToks, hk, ih hb]

theorem paren_rest {s t e : List GCh} {toks : List Tok} (hg : Good t toks)
    (hs : isSep false s = true) (hsc : cmtAfter false s = false) (htc : cmtAfter false t = false)
    (he : isSep false e = true) :
    StepsC .none false (s ++ t ++ .rp :: e) (toks ++ [.rp]) .none := by
  obtain ⟨ts, p, hst, hp, rfl, _, _⟩ := hg
  have h12 : StepsC .none false (s ++ t) ([] ++ ts) p := StepsC.then (sep_steps hs) hsc hst
  have h34 : StepsC p false ([.rp] ++ e) (ftoks p ++ [.rp] ++ []) .none := StepsC.then (step_rp hp) rfl (sep_steps he)
  exact (h12.then ((cmtAfter_then hsc t).trans htc) h34).cast (by simp) (by simp)

/-- a link around a good text is good; the second conjunct: a parenthesised link can also stand behind a pending
    numeral or behind `#` -/
theorem link_good {ws : List Wrap} {t : List GCh} {toks : List Tok} (hg : Good t toks) (hc : chainOK ws t = true) :
    Good (wrapFmt ws t) (linkToks ws toks) ∧
    (headParens ws = true → ∃ R tsR, wrapFmt ws t = .lp :: R ∧ linkToks ws toks = .lp :: tsR ∧
        StepsC .none false R tsR .none) := by
  induction ws with
  | nil => exact ⟨hg, by simp [headParens]⟩
  | cons w ws ih =>
    cases hk : wrapKind w with
    | bare =>
      simp only [chainOK, hk] at hc
      rw [wrapFmt_kind_bare hk]
      simp only [linkToks, hk]
      exact ⟨(ih hc).1, by simp [headParens, hk]⟩
    | bad => simp [chainOK, hk] at hc
    | parens s e =>
      simp only [chainOK, hk, Bool.and_eq_true, Bool.not_eq_true'] at hc
      obtain ⟨⟨⟨⟨hs, hsc⟩, htc⟩, he⟩, hrest⟩ := hc
      have hR := paren_rest (ih hrest).1 hs hsc htc he
      rw [wrapFmt_kind_parens hk]
      simp only [linkToks, hk]
      have hall : StepsC .none false ([.lp] ++ _) ([.lp] ++ _) .none := StepsC.then (step_lp (p := .none) trivial) rfl hR
      exact ⟨⟨_, .none, hall, trivial, List.append_nil _, fun _ => rfl, Or.inr (Or.inl rfl)⟩,
        fun _ => ⟨_, _, rfl, rfl, hR⟩⟩

theorem link_sem {ws : List Wrap} {toks : List Tok} {sem : Env → Bool} {P : Prop}
    (h0 : L0 toks sem) (h1 : P → L1 toks sem) :
    L0 (linkToks ws toks) sem ∧ (P ∨ headParens ws = true → L1 (linkToks ws toks) sem) := by
  induction ws with
  | nil => exact ⟨h0, fun h => h.elim h1 (by simp [headParens])⟩
  | cons w ws ih =>
    cases hk : wrapKind w with
    | bare | bad =>
      simp only [linkToks, hk]
      exact ⟨ih.1, fun h => ih.2 (h.elim Or.inl (by simp [headParens, hk]))⟩
    | parens s e =>
      simp only [linkToks, hk]
      have := L1_paren ih.1
      exact ⟨this.toL0, fun _ => this⟩

/-! ## the token view of a tree and its readiness -/

/-- the tokens the text of a ready tree consists of -/
def toks : HS → List Tok
  | .unit d s false _ => [.num d (!s)]
  | .unit d _ true _ => [.cell d]
  | .compl (.unit d _ true _) _ => [.cell d]
  | .compl l (some g) =>
      match g.lchain with
      | _ :: ws => .clp :: (linkToks ws (toks l) ++ [.rp])
      | [] => []
  | .compl _ none => []
  | .bin .inter l r (some g) => linkToks g.lchain (toks l) ++ linkToks g.rchain (toks r)
  | .bin .union l r (some g) => linkToks g.lchain (toks l) ++ .colon :: linkToks g.rchain (toks r)
  | .bin _ _ _ none => []

/-- keys in the order the code creates them, `end_pad` last when there is one -/
def orderOK (g : GN) (base : List Key) : Bool :=
  (g.order == base && g.ep.isNone) || (g.order == base ++ [.endPad] && g.ep.isSome)

/-- operator padding of a complement: separators, then "#" as the last character -/
def complOpr (cs : List GCh) : Bool :=
  cs.getLast? == some .hash && isSep false cs.dropLast && !cmtAfter false cs.dropLast

/-- operator padding of a union: separators, one ":" that is not in a comment, separators -/
def unionOpr (cs : List GCh) : Bool :=
  let a := cs.takeWhile (· != .colon)
  match cs.dropWhile (· != .colon) with
  | .colon :: b => isSep false a && !cmtAfter false a && isSep false b && !cmtAfter false b
  | _ => false

/-- the strings of a padding hold no comment start (comments are `CommentNode`s) -/
def cleanPad (p : Pad) : Bool :=
  p.all fun
    | .str cs => !cs.contains .cmt
    | .cmt _ => true

/-- the operator padding of an intersection after `_update_node`: separators and comments, nothing hidden that
    `_update_node` would take for a ":" -/
def interLike (p : Pad) : Bool :=
  isSep false p.format && !cmtAfter false p.format && !(strChars p).contains .colon

/-- the operator padding after `_update_node`, by operator -/
def oprOKp (o : BOp) (p : Pad) : Bool :=
  match o with
  | .inter => interLike p
  | .union => unionOpr p.format

/-- the operator padding before `_update_node`: that of an intersection or that of a union, *whatever the node's
    operator is* (`hs.operator = …` changes the operator and leaves the text to `_update_node`) -/
def oprPre (p : Pad) : Bool := interLike p || unionOpr p.format

def isUnion : HS → Bool
  | .bin .union .. => true
  | _ => false

/-- `gen true` is the state `HalfSpace._update_values` establishes (`ready`): every HalfSpace has its node; keys
    are in the created order; leaf tokens spell the divider; paddings hold only separators and the operator's own
    symbol; links carry parentheses where MCNP's precedence needs them; a left operand does not end inside a
    comment; two numerals are never adjacent (an intersection has a non-empty padding, or a parenthesised operand, or
    its left text does not end in a digit).  `gen false` (`linked`) is the same without the last clause, and with
    the operator padding of either operator (`oprPre`) where `ready` asks for the node's own (`oprOKp`): the state
    after `_ensure_has_nodes`, before `_update_node` has put a blank where one is needed or rewritten the operator
    symbol after `hs.operator = …`. -/
def gen (b : Bool) : HS → Bool
  | .unit d s false (some v) => tokVal v.tok == some (!s, d) && isSep false (optFmt v.pad)
  | .unit _ _ _ _ => false
  | .compl (.unit d _ true (some v)) (some g) =>
      orderOK g [.operator, .left] && complOpr g.opr.format && allBare g.lchain &&
      cellVal v.tok == some d && isSep false (optFmt v.pad) &&
      isSep false (optFmt g.ep)
  | .compl l (some g) =>
      gen b l && orderOK g [.operator, .left] && complOpr g.opr.format && headParens g.lchain &&
      chainOK g.lchain l.fmt && isSep false (optFmt g.ep)
  | .compl _ none => false
  | .bin o l r (some g) =>
      gen b l && gen b r && orderOK g [.left, .operator, .right] &&
      chainOK g.lchain l.fmt && chainOK g.rchain r.fmt &&
      !cmtAfter false (wrapFmt g.lchain l.fmt) &&
      (cleanPad g.opr && cond b (oprOKp o g.opr) (oprPre g.opr)) &&
      (match o with
        | .inter =>
            (!b || !g.opr.format.isEmpty || headParens g.lchain || headParens g.rchain ||
              !lastDigit (wrapFmt g.lchain l.fmt)) &&
            (!isUnion l || headParens g.lchain) && (!isUnion r || headParens g.rchain)
        | .union => true) &&
      isSep false (optFmt g.ep)
  | .bin _ _ _ none => false

/-- the state `_update_values` establishes -/
def ready (h : HS) : Bool := gen true h
/-- the state `_ensure_has_nodes` establishes -/
def linked (h : HS) : Bool := gen false h

/-- the paddings of a chain, without reference to the text it encloses -/
def chainPads : List Wrap → Bool
  | [] => true
  | w :: ws =>
      (match wrapKind w with
        | .bare => true
        | .parens s e => isSep false s && !cmtAfter false s && isSep false e
        | .bad => false) && chainPads ws

/-- **HS.WF**: well-formedness of a HalfSpace tree *before* `_update_values`: a cell leaf occurs only directly
    under a complement; a HalfSpace may or may not have its syntax node yet; where a node exists (it was read, or
    made by an earlier write) its leaf token spells the divider, its keys are in the created order, its paddings hold
    separators and comments plus the symbol of either operator (`oprPre`), and the parentheses of its links are
    "(" / ")" with separators.  Nothing is asked of the links themselves: whether they still enclose the current
    child, carry the parentheses precedence needs, or end in a comment. -/
def wf : HS → Bool
  | .unit _ _ false none => true
  | .unit d s false (some v) => tokVal v.tok == some (!s, d) && isSep false (optFmt v.pad)
  | .unit _ _ true _ => false
  | .compl (.unit d _ true vn) gn =>
      (match vn with
        | none => true
        | some v => cellVal v.tok == some d && isSep false (optFmt v.pad)) &&
      (match gn with
        | none => true
        | some g => orderOK g [.operator, .left] && complOpr g.opr.format && allBare g.lchain &&
            isSep false (optFmt g.ep))
  | .compl l gn =>
      wf l &&
      (match gn with
        | none => true
        | some g => orderOK g [.operator, .left] && complOpr g.opr.format && chainPads g.lchain &&
            isSep false (optFmt g.ep))
  | .bin o l r gn =>
      wf l && wf r &&
      (match gn with
        | none => true
        | some g => orderOK g [.left, .operator, .right] && chainPads g.lchain && chainPads g.rchain &&
            (cleanPad g.opr && oprPre g.opr) && isSep false (optFmt g.ep))

/-! ## `gen` and `wf`, node by node -/

/-- a cell leaf (it only occurs directly under a complement) -/
def isCellUnit : HS → Bool
  | .unit _ _ true _ => true
  | _ => false

theorem cell_or (l : HS) : (∃ d s vn, l = .unit d s true vn) ∨ isCellUnit l = false := by
  cases l with
  | unit d s c vn =>
    cases c
    · exact Or.inr rfl
    · exact Or.inl ⟨d, s, vn, rfl⟩
  | compl _ _ => exact Or.inr rfl
  | bin _ _ _ _ => exact Or.inr rfl

theorem toks_compl {l : HS} {g : GN} (hl : isCellUnit l = false) :
    toks (.compl l (some g)) = match g.lchain with
      | _ :: ws => .clp :: (linkToks ws (toks l) ++ [.rp])
      | [] => [] := by
  cases l with
  | unit d s c vn => cases c; rfl; cases hl
  | compl _ _ => rfl
  | bin _ _ _ _ => rfl

theorem orderOK_cases {g : GN} {base : List Key} (h : orderOK g base = true) :
    (g.order = base ∧ g.ep = none) ∨ (g.order = base ++ [.endPad] ∧ g.ep.isSome = true) := by
  simpa [orderOK] using h

theorem gen_unit {b : Bool} {d : Nat} {s c : Bool} {n : Option VN} :
    gen b (.unit d s c n) = true ↔
      c = false ∧ ∃ v, n = some v ∧ tokVal v.tok = some (!s, d) ∧ isSep false (optFmt v.pad) = true := by
  cases c <;> cases n <;> simp [gen]

theorem gen_cell {b : Bool} {d : Nat} {s : Bool} {vn : Option VN} {n : Option GN} :
    gen b (.compl (.unit d s true vn) n) = true ↔
      ∃ v g, vn = some v ∧ n = some g ∧ orderOK g [.operator, .left] = true ∧ complOpr g.opr.format = true ∧
        allBare g.lchain = true ∧ cellVal v.tok = some d ∧ isSep false (optFmt v.pad) = true ∧
        isSep false (optFmt g.ep) = true := by
  cases vn <;> cases n <;>
    simp only [gen, Bool.and_eq_true, beq_iff_eq, and_assoc, Option.some.injEq, exists_and_left, exists_eq_left',
      reduceCtorEq, false_and, exists_false, Bool.false_eq_true]

theorem gen_compl {b : Bool} {l : HS} {n : Option GN} (hl : isCellUnit l = false) :
    gen b (.compl l n) = true ↔
      ∃ g, n = some g ∧ gen b l = true ∧ orderOK g [.operator, .left] = true ∧ complOpr g.opr.format = true ∧
        headParens g.lchain = true ∧ chainOK g.lchain l.fmt = true ∧ isSep false (optFmt g.ep) = true := by
  have e : gen b (.compl l n) = match n with
      | some g => gen b l && orderOK g [.operator, .left] && complOpr g.opr.format && headParens g.lchain &&
          chainOK g.lchain l.fmt && isSep false (optFmt g.ep)
      | none => false := by
    cases l with
    | unit d s c vn => cases c; cases n <;> rfl; cases hl
    | compl _ _ => cases n <;> rfl
    | bin _ _ _ _ => cases n <;> rfl
  rw [e]
  cases n <;>
    simp only [Bool.and_eq_true, and_assoc, Option.some.injEq, exists_eq_left', reduceCtorEq, false_and, exists_false,
      Bool.false_eq_true]

/-- what keeps two numerals apart -/
def Apart (l : HS) (g : GN) : Prop :=
  g.opr.format ≠ [] ∨ headParens g.lchain = true ∨ headParens g.rchain = true ∨
    lastDigit (wrapFmt g.lchain l.fmt) = false

theorem gen_bin {b : Bool} {o : BOp} {l r : HS} {n : Option GN} :
    gen b (.bin o l r n) = true ↔
      ∃ g, n = some g ∧ gen b l = true ∧ gen b r = true ∧ orderOK g [.left, .operator, .right] = true ∧
        chainOK g.lchain l.fmt = true ∧ chainOK g.rchain r.fmt = true ∧
        cmtAfter false (wrapFmt g.lchain l.fmt) = false ∧
        cleanPad g.opr = true ∧ (cond b (oprOKp o g.opr) (oprPre g.opr)) = true ∧
        (o = .inter → (b = true → Apart l g) ∧ (isUnion l = false ∨ headParens g.lchain = true) ∧
          (isUnion r = false ∨ headParens g.rchain = true)) ∧
        isSep false (optFmt g.ep) = true := by
  cases n with
  | none => simp only [gen, reduceCtorEq, false_and, exists_false, Bool.false_eq_true]
  | some g =>
    simp only [gen, Bool.and_eq_true, and_assoc, Option.some.injEq, exists_eq_left', Bool.not_eq_true']
    cases o
    · simp only [Bool.and_eq_true, Bool.or_eq_true, and_assoc, or_assoc, Apart, forall_const,
        List.isEmpty_eq_false_iff, Bool.not_eq_eq_eq_not, Bool.not_true, ne_eq]
      cases b <;>
        simp only [cond_false, cond_true, true_or, false_or, true_and, Bool.false_eq_true, Bool.true_eq_false,
          false_implies, forall_const]
    · simp only [reduceCtorEq, false_imp_iff, true_and]

def ComplNodeWF (g : GN) : Prop :=
  orderOK g [.operator, .left] = true ∧ complOpr g.opr.format = true ∧ chainPads g.lchain = true ∧
    isSep false (optFmt g.ep) = true

def BinNodeWF (g : GN) : Prop :=
  orderOK g [.left, .operator, .right] = true ∧ chainPads g.lchain = true ∧ chainPads g.rchain = true ∧
    cleanPad g.opr = true ∧ oprPre g.opr = true ∧ isSep false (optFmt g.ep) = true

theorem wf_unit {d : Nat} {s c : Bool} {n : Option VN} :
    wf (.unit d s c n) = true ↔
      c = false ∧ ∀ v, n = some v → tokVal v.tok = some (!s, d) ∧ isSep false (optFmt v.pad) = true := by
  cases c <;> cases n <;> simp [wf]

theorem wf_cell {d : Nat} {s : Bool} {vn : Option VN} {gn : Option GN} :
    wf (.compl (.unit d s true vn) gn) = true ↔
      (∀ v, vn = some v → cellVal v.tok = some d ∧ isSep false (optFmt v.pad) = true) ∧
      (∀ g, gn = some g → orderOK g [.operator, .left] = true ∧ complOpr g.opr.format = true ∧
        allBare g.lchain = true ∧ isSep false (optFmt g.ep) = true) := by
  cases vn <;> cases gn <;>
    simp only [wf, Bool.and_eq_true, Bool.and_true, Bool.true_and, Bool.and_self, beq_iff_eq, and_assoc,
      Option.some.injEq, forall_eq', reduceCtorEq, false_implies, implies_true, and_self, and_true, true_and]

theorem wf_compl {l : HS} {gn : Option GN} (hl : isCellUnit l = false) :
    wf (.compl l gn) = true ↔ wf l = true ∧ ∀ g, gn = some g → ComplNodeWF g := by
  have e : wf (.compl l gn) = (wf l && match gn with
      | none => true
      | some g => orderOK g [.operator, .left] && complOpr g.opr.format && chainPads g.lchain &&
          isSep false (optFmt g.ep)) := by
    cases l with
    | unit d s c n => cases c; rfl; cases hl
    | compl _ _ => rfl
    | bin _ _ _ _ => rfl
  rw [e]
  cases gn <;>
    simp only [ComplNodeWF, Bool.and_eq_true, Bool.and_true, and_assoc, Option.some.injEq, forall_eq', reduceCtorEq,
      false_implies, implies_true, and_true]

theorem wf_bin {o : BOp} {l r : HS} {gn : Option GN} :
    wf (.bin o l r gn) = true ↔ wf l = true ∧ wf r = true ∧ ∀ g, gn = some g → BinNodeWF g := by
  cases gn <;>
    simp only [wf, BinNodeWF, Bool.and_eq_true, Bool.and_true, and_assoc, Option.some.injEq, forall_eq', reduceCtorEq,
      false_implies, implies_true, and_true]

theorem wf_not_cell {h : HS} (hw : wf h = true) : isCellUnit h = false := by
  cases h with
  | unit d s c n => obtain ⟨rfl, _⟩ := wf_unit.1 hw; rfl
  | compl _ _ => rfl
  | bin _ _ _ _ => rfl

end MontePyVerif.C02
