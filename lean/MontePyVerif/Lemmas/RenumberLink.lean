import MontePyVerif.Model.Renumber
import MontePyVerif.Lemmas.Collection
/-! Lemmas for C04 about `link` (core Lean only): what a successful link of one card, and of a file (`Linked`),
    says about its result, and when linking one card succeeds. -/
namespace MontePyVerif.Renumber
open MontePyVerif.Collection
open MontePyVerif.Spec.Refs (WCell WSurf WMat WFile)

/-! ### `mapM` and `optBind` in `Option` -/

theorem mapM_cons_some {α β} {f : α → Option β} {a : α} {l : List α} {r : List β}
    (h : (a :: l).mapM f = some r) : ∃ b t, f a = some b ∧ l.mapM f = some t ∧ r = b :: t := by
  simp only [List.mapM_cons, Option.bind_eq_bind, Option.bind_eq_some_iff, Option.pure_def, Option.some.injEq] at h
  obtain ⟨b, hb, t, ht, e⟩ := h
  exact ⟨b, t, hb, ht, e.symm⟩

theorem mapM_some_getD {α β} {f : α → Option β} (d : β) : ∀ {l : List α} {r : List β}, l.mapM f = some r →
    ∀ {i : Nat} {a}, l[i]? = some a → f a = some (r.getD i d)
  | [], _, _, _, _, ha => by cases ha
  | _ :: _, _, h, i, _, ha => by
    obtain ⟨b, t, hb, ht, rfl⟩ := mapM_cons_some h
    cases i with
    | zero => cases ha; exact hb
    | succ i => exact mapM_some_getD d ht ha

theorem mapM_readback {α β} {f : α → Option β} {g : β → α} {P : β → Prop}
    (hf : ∀ a b, f a = some b → g b = a ∧ P b) : ∀ {l : List α} {r : List β}, l.mapM f = some r →
    r.map g = l ∧ ∀ b ∈ r, P b
  | [], r, h => by cases h; exact ⟨rfl, fun _ hb => nomatch hb⟩
  | a :: l, r, h => by
    obtain ⟨b, t, hb, ht, rfl⟩ := mapM_cons_some h
    obtain ⟨h1, h2⟩ := mapM_readback hf ht
    exact ⟨by rw [List.map_cons, (hf a b hb).1, h1], List.forall_mem_cons.mpr ⟨(hf a b hb).2, h2⟩⟩

theorem optBind_readback {α β} {f : α → Option β} {g : β → α} {P : β → Prop}
    (hf : ∀ a b, f a = some b → g b = a ∧ P b) {o : Option α} {r : Option β} (h : optBind o f = some r) :
    r.map g = o ∧ ∀ b ∈ r, P b := by
  unfold optBind at h
  split at h
  · cases h; exact ⟨rfl, fun _ hb => nomatch hb⟩
  · split at h
    · cases h
    · rename_i a _ b hb
      cases h
      exact ⟨congrArg some (hf a b hb).1, fun _ hx => Option.mem_some.mp hx ▸ (hf a b hb).2⟩

theorem mapM_exists {α β} {f : α → Option β} : ∀ {l : List α}, (∀ a ∈ l, ∃ b, f a = some b) → ∃ r, l.mapM f = some r
  | [], _ => ⟨[], rfl⟩
  | a :: l, h => by
    obtain ⟨b, hb⟩ := h a List.mem_cons_self
    obtain ⟨t, ht⟩ := mapM_exists (fun x hx => h x (List.mem_cons_of_mem _ hx))
    exact ⟨b :: t, by rw [List.mapM_cons, hb, ht]; rfl⟩

theorem optBind_exists {α β} {o : Option α} {f : α → Option β} (h : ∀ a, o = some a → ∃ b, f a = some b) :
    ∃ r, optBind o f = some r := by
  cases o with
  | none => exact ⟨none, rfl⟩
  | some a =>
    obtain ⟨b, hb⟩ := h a rfl
    exact ⟨some b, by simp only [optBind, hb]⟩

/-! ### a freshly linked collection -/

theorem mkColl_num_lt {nums : List Int} {i : Nat} (h : i < nums.length) : (mkColl nums).num i = nums[i] := by
  show nums.getD i 0 = nums[i]
  rw [List.getD_eq_getElem?_getD, List.getElem?_eq_getElem h]; rfl

theorem mkColl_nums (nums : List Int) : (mkColl nums).objs.map (mkColl nums).num = nums := by
  apply List.ext_getElem
  · simp [mkColl]
  · intro i _ h2
    simp only [mkColl, List.getElem_map, List.getElem_range]
    exact mkColl_num_lt h2

theorem mkColl_inv {nums : List Int} (h : nums.Nodup) : Inv (mkColl nums) :=
  ⟨(mkColl_nums nums).symm ▸ h, fun _ hx => (nomatch hx), fun _ _ _ => rfl⟩

theorem pushUniverses_nodup : ∀ (us acc : List Int), acc.Nodup → (pushUniverses acc us).Nodup
  | [], acc, h => h
  | u :: t, acc, h => by
    simp only [pushUniverses]
    split
    · exact pushUniverses_nodup t acc h
    · rename_i hu
      refine pushUniverses_nodup t _ (List.nodup_append.mpr ⟨h, List.pairwise_singleton _ u, ?_⟩)
      intro a ha b hb
      rw [List.mem_singleton.mp hb]
      exact fun e => hu (e ▸ ha)

theorem lookup_some {s : St} (hc : CacheOK s.cache s.objs) {n : Int} {o : ObjId} (h : lookup s n = some o) :
    s.num o = n ∧ o ∈ s.objs := (get_some hc h).symm

theorem lookup_of_mem {nums : List Int} (hnd : nums.Nodup) {n : Int} (hn : n ∈ nums) :
    ∃ o, lookup (mkColl nums) n = some o := by
  obtain ⟨i, hi, rfl⟩ := List.getElem_of_mem hn
  have hinv := mkColl_inv hnd
  exact ⟨i, get_of_mem hinv.nodup hinv.cache (List.mem_range.mpr hi) (mkColl_num_lt hi)⟩

/-! ### what a successful link of one card says -/

theorem linkCell_some {wf : WFile} {cells surfs mats trs univs : St} {i : Nat} {b : CellL}
    (h : linkCell wf cells surfs mats trs univs i = some b) :
    ∃ c, wf.cells[i]? = some c ∧
      ((c.mat = 0 ∧ b.mat = none) ∨ (c.mat ≠ 0 ∧ ∃ m, lookup mats c.mat = some m ∧ b.mat = some m)) ∧
      c.geom.mapM (linkLeaf cells surfs) = some b.geom ∧
      lookup univs (oldUniverseNumber wf i) = some b.univ ∧
      (oldFillNumbers wf i).mapM (lookup univs) = some b.fill ∧
      optBind c.fillTr (lookup trs) = some b.fillTr := by
  unfold linkCell at h
  cases hc : wf.cells[i]? with
  | none => rw [hc] at h; cases h
  | some c =>
    refine ⟨c, rfl, ?_⟩
    simp only [hc, Option.bind_eq_bind, Option.bind_some] at h
    split at h
    · rename_i hm
      simp only [Option.bind_eq_some_iff, Option.pure_def, Option.some.injEq] at h
      obtain ⟨g, hg, u, hu, f, hf, t, ht, rfl⟩ := h
      exact ⟨Or.inl ⟨hm, rfl⟩, hg, hu, hf, ht⟩
    · rename_i hm
      simp only [Option.bind_eq_some_iff, Option.map_eq_some_iff, Option.pure_def, Option.some.injEq] at h
      obtain ⟨mo, ⟨m, hml, rfl⟩, g, hg, u, hu, f, hf, t, ht, rfl⟩ := h
      exact ⟨Or.inr ⟨hm, m, hml, rfl⟩, hg, hu, hf, ht⟩

theorem linkLeaf_some {cells surfs : St} {l : Bool × Int} {x : Leaf} (h : linkLeaf cells surfs l = some x) :
    x.isCell = l.1 ∧ lookup (if l.1 then cells else surfs) l.2 = some x.target := by
  obtain ⟨t, ht, rfl⟩ := Option.map_eq_some_iff.mp h
  exact ⟨rfl, ht⟩

theorem linkSurf_some {surfs trs : St} {s : WSurf} {b : SurfL} (h : linkSurf surfs trs s = some b) :
    optBind s.tr (lookup trs) = some b.tr ∧ optBind s.per (lookup surfs) = some b.per := by
  simp only [linkSurf, Option.bind_eq_bind, Option.bind_eq_some_iff, Option.pure_def, Option.some.injEq] at h
  obtain ⟨t, ht, q, hq, rfl⟩ := h
  exact ⟨ht, hq⟩

theorem linkMat_some {mats : St} {m : WMat} {b : MatL} (h : linkMat mats m = some b) :
    optBind m.mt (lookup mats) = some b.mt := by
  simp only [linkMat, Option.bind_eq_bind, Option.bind_eq_some_iff, Option.pure_def, Option.some.injEq] at h
  obtain ⟨t, ht, rfl⟩ := h
  exact ht

/-! ### when linking one card succeeds -/

theorem linkCell_exists {wf : WFile} {cells surfs mats trs univs : St} {i : Nat} {c : WCell}
    (hc : wf.cells[i]? = some c)
    (hm : c.mat ≠ 0 → ∃ m, lookup mats c.mat = some m)
    (hg : ∀ l ∈ c.geom, ∃ t, lookup (if l.1 then cells else surfs) l.2 = some t)
    (hu : ∃ u, lookup univs (oldUniverseNumber wf i) = some u)
    (hf : ∀ f ∈ oldFillNumbers wf i, ∃ u, lookup univs f = some u)
    (ht : ∀ t, c.fillTr = some t → ∃ x, lookup trs t = some x) :
    ∃ b, linkCell wf cells surfs mats trs univs i = some b := by
  obtain ⟨g, hg'⟩ := mapM_exists (f := linkLeaf cells surfs) (fun l hl => by
    obtain ⟨t, ht⟩ := hg l hl
    exact ⟨{ isCell := l.1, target := t }, by rw [linkLeaf, ht]; rfl⟩)
  obtain ⟨u, hu'⟩ := hu
  obtain ⟨fl, hf'⟩ := mapM_exists hf
  obtain ⟨ft, ht'⟩ := optBind_exists (f := lookup trs) ht
  simp only [linkCell, hc, Option.bind_eq_bind, Option.bind_some, hg', hu', hf', ht']
  split
  · exact ⟨_, rfl⟩
  · rename_i hne
    obtain ⟨m, hm'⟩ := hm hne
    exact ⟨_, by rw [hm']; rfl⟩

theorem linkSurf_exists {surfs trs : St} {s : WSurf}
    (ht : ∀ t, s.tr = some t → ∃ x, lookup trs t = some x)
    (hp : ∀ t, s.per = some t → ∃ x, lookup surfs t = some x) : ∃ b, linkSurf surfs trs s = some b := by
  obtain ⟨a, ha⟩ := optBind_exists (f := lookup trs) ht
  obtain ⟨b, hb⟩ := optBind_exists (f := lookup surfs) hp
  exact ⟨_, by simp only [linkSurf, Option.bind_eq_bind, ha, hb, Option.bind_some]; rfl⟩

theorem linkMat_exists {mats : St} {m : WMat}
    (ht : ∀ t, m.mt = some t → ∃ x, lookup mats t = some x) : ∃ b, linkMat mats m = some b := by
  obtain ⟨a, ha⟩ := optBind_exists (f := lookup mats) ht
  exact ⟨_, by simp only [linkMat, Option.bind_eq_bind, ha, Option.bind_some]; rfl⟩

/-! ### what a successful `link` says -/

/-- the universes collection `link` builds -/
def univNums (wf : WFile) : List Int :=
  pushUniverses [] ((List.range wf.cells.length).map (oldUniverseNumber wf))

theorem univNums_nodup (wf : WFile) : (univNums wf).Nodup := pushUniverses_nodup _ [] List.nodup_nil

/-- `link wf = some p`, field by field -/
structure Linked (wf : WFile) (p : Prob) : Prop where
  cells : p.cells = mkColl (wf.cells.map (·.number))
  surfs : p.surfs = mkColl (wf.surfs.map (·.number))
  mats : p.mats = mkColl (wf.mats.map (·.number))
  trs : p.trs = mkColl wf.trs
  univs : p.univs = mkColl (univNums wf)
  cell : ∀ i, i < wf.cells.length → linkCell wf p.cells p.surfs p.mats p.trs p.univs i = some (p.cell i)
  surf : ∀ i s, wf.surfs[i]? = some s → linkSurf p.surfs p.trs s = some (p.surf i)
  mat : ∀ i m, wf.mats[i]? = some m → linkMat p.mats m = some (p.mat i)
  uData : p.uData = wf.uCard.isSome
  fillData : p.fillData = wf.fillCard.isSome

theorem link_linked {wf : WFile} {p : Prob} (h : link wf = some p) : Linked wf p := by
  simp only [link] at h
  split at h
  · rename_i cellL surfL matL hcl hsl hml
    cases h
    exact ⟨rfl, rfl, rfl, rfl, rfl, fun i hi => mapM_some_getD _ hcl (List.getElem?_range hi),
      fun i s hs => mapM_some_getD _ hsl hs, fun i m hm => mapM_some_getD _ hml hm, rfl, rfl⟩
  · cases h

/-- the caches of a freshly linked problem are empty -/
theorem Linked.cacheOK {wf : WFile} {p : Prob} (L : Linked wf p) (k : Kind) :
    CacheOK (p.coll k).cache (p.coll k).objs := by
  have : (p.coll k).cache = [] := by
    cases k <;> simp only [Prob.coll, L.cells, L.surfs, L.mats, L.trs, L.univs] <;> rfl
  rw [this]
  exact fun _ h => nomatch h

end MontePyVerif.Renumber
