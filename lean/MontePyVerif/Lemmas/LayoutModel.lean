import MontePyVerif.Lemmas.Layout
import MontePyVerif.Lemmas.Flatten
/-!
# Every valid rendering is a file on which the code's rules and MCNP's coincide (lemmas for C11_reader_layout_render)
-/
namespace MontePyVerif.LayoutModel
open MontePyVerif MontePyVerif.Spec MontePyVerif.Layout MontePyVerif.Refine MontePyVerif.Flatten MontePyVerif.LineFacts
open MontePyVerif.ListBasics
open MontePyVerif.Reader (pyIsSpace)

/-- what the *code* needs of a rendered data line beyond `DLineOK`; `noHash`: a `#` within columns 1-5 would start
    vertical format -/
structure DLineM (limit : Nat) (d : DLine) : Prop where
  first : ∀ c ∈ d.first, pyIsSpace c = false
  rest : ∀ p ∈ d.rest, ∀ c ∈ p.2, pyIsSpace c = false
  text : match d.tail with
    | .plain _ (some x) => OnlyBlanks x
    | .dollar _ x => OnlyBlanks x
    | _ => True
  fits : d.str.length < limit
  noHash : hashFirst d.str = false

structure CommentM (limit : Nat) (c : Nat × Line) : Prop where
  text : OnlyBlanks c.2
  fits : (commentLine c).length < limit

instance (y : Line) : Decidable (OnlyBlanks y) := by unfold OnlyBlanks; infer_instance

instance (limit : Nat) (d : DLine) : Decidable (DLineM limit d) :=
  have : Decidable (match d.tail with | .plain _ (some x) => OnlyBlanks x | .dollar _ x => OnlyBlanks x | _ => True) := by
    cases d.tail with
    | plain t dl => cases dl <;> infer_instance
    | amp => infer_instance
    | dollar => infer_instance
  decidable_of_iff ((∀ c ∈ d.first, pyIsSpace c = false) ∧ (∀ p ∈ d.rest, ∀ c ∈ p.2, pyIsSpace c = false) ∧
      (match d.tail with | .plain _ (some x) => OnlyBlanks x | .dollar _ x => OnlyBlanks x | _ => True) ∧
      d.str.length < limit ∧ hashFirst d.str = false)
    ⟨fun ⟨a, b, c, e, f⟩ => ⟨a, b, c, e, f⟩, fun ⟨a, b, c, e, f⟩ => ⟨a, b, c, e, f⟩⟩

instance (limit : Nat) (c : Nat × Line) : Decidable (CommentM limit c) :=
  decidable_of_iff (OnlyBlanks c.2 ∧ (commentLine c).length < limit) ⟨fun ⟨a, b⟩ => ⟨a, b⟩, fun ⟨a, b⟩ => ⟨a, b⟩⟩

theorem onlyBlanks_of_noSpace {w : Line} (h : ∀ c ∈ w, pyIsSpace c = false) : OnlyBlanks w := by
  intro c hc hs; rw [h c hc] at hs; exact absurd hs (by decide)

theorem onlyBlanks_str {limit : Nat} (d : DLine) (m : DLineM limit d) : OnlyBlanks d.str :=
  forall_mem_str d (fun _ => rfl) (by decide) (by decide) (onlyBlanks_of_noSpace m.first)
    (fun p hp => onlyBlanks_of_noSpace (m.rest p hp)) m.text

theorem no_dollar_of_amp (d : DLine) (hf : WordOK d.first) (hr : ∀ p ∈ d.rest, WordOK p.2) (ha : isAmp d.tail = true) :
    '$' ∉ d.str := by
  rw [dollar_mem_str d hf hr]
  cases htl : d.tail with
  | amp pre t => simp [tailStr]
  | plain t dl => rw [htl] at ha; nomatch ha
  | dollar p x => rw [htl] at ha; nomatch ha

theorem getLast?_append_blanks (A : Line) (k : Nat) : (A ++ List.replicate (k + 1) ' ').getLast? = some ' ' := by
  rw [List.replicate_succ', ← List.append_assoc, List.getLast?_append]; simp

theorem goodLine_data {limit : Nat} (d : DLine) (ok : DLineOK limit d) (m : DLineM limit d) : GoodLine limit d.str where
  onlyBlanks := onlyBlanks_str d m
  fits := m.fits
  noVertical := m.noHash
  noAmpDollar := by
    intro _ hd
    rw [endsAmp_str d ok.first ok.rest]
    cases ha : isAmp d.tail
    · rfl
    · exact absurd (by simpa using hd) (no_dollar_of_amp d ok.first ok.rest ha)
  hasWords := by intro _ _; rw [lineWords_str d ok.first ok.rest]; simp
  dollarSpaced := by
    intro _ pre post e hp
    have hdp := dataPart_append_dollar pre post hp
    rw [← e, dataPart_str d ok.first ok.rest] at hdp
    right
    rw [← hdp]
    cases htl : d.tail with
    | plain t dl =>
      cases dl with
      | none =>
        have hnd : '$' ∉ d.str := by rw [dollar_mem_str d ok.first ok.rest, htl]; simp [tailStr]
        exact absurd (e ▸ List.mem_append_right _ List.mem_cons_self) hnd
      | some x =>
        simp only [dataTail]
        exact getLast?_append_blanks _ _
    | amp p t =>
      exact absurd (e ▸ List.mem_append_right _ List.mem_cons_self) (no_dollar_of_amp d ok.first ok.rest (by rw [htl]; rfl))
    | dollar p x =>
      simp only [dataTail]
      exact getLast?_append_blanks _ _

theorem goodLine_comment {limit : Nat} (c : Nat × Line) (ok : CommentOK limit c) (m : CommentM limit c) :
    GoodLine limit (commentLine c) where
  onlyBlanks := forall_mem_commentLine c (fun _ => rfl) (by decide) m.text
  fits := m.fits
  noVertical := by
    obtain ⟨n, hn⟩ : ∃ n, Gen.blankSpaceContinue - c.1 = n + 1 :=
      ⟨4 - c.1, by have := ok.ind; simp only [Gen.blankSpaceContinue]; omega⟩
    unfold hashFirst commentLine
    rw [List.take_append, List.length_replicate, hn, List.dropWhile_append_of_pos
      (fun x hx => by simp [List.eq_of_mem_replicate (List.mem_of_mem_take hx)])]
    split <;> rfl
  noAmpDollar := by intro h; rw [isCommentLine_commentLine c ok.ind] at h; exact absurd h (by decide)
  hasWords := by intro _ h; rw [isCommentLine_commentLine c ok.ind] at h; exact absurd h (by decide)
  dollarSpaced := by intro h; rw [isCommentLine_commentLine c ok.ind] at h; exact absurd h (by decide)

def PLineOK (limit : Nat) (pl : PLine) : Prop :=
  match pl with
  | .data d => DLineOK limit d ∧ DLineM limit d
  | .comment c => CommentOK limit c ∧ CommentM limit c

instance (limit : Nat) : (pl : PLine) → Decidable (PLineOK limit pl)
  | .data d => inferInstanceAs (Decidable (DLineOK limit d ∧ DLineM limit d))
  | .comment c => inferInstanceAs (Decidable (CommentOK limit c ∧ CommentM limit c))

theorem kindOf_ne_blank (pl : PLine) : kindOf pl ≠ .blank := by
  cases pl <;> simp [kindOf]

theorem fileOK_render (limit : Nat) (pls : List PLine) (h : ∀ pl ∈ pls, PLineOK limit pl) :
    FileOK limit (pls.map (fun pl => pl.str ++ ['\n'])) (pls.map PLine.str) := by
  refine ⟨pls.map (fun pl => (pl.str, ['\n'])), ?_, ?_, ?_⟩
  · rw [List.map_map]; rfl
  · rw [List.map_map]; rfl
  · intro q hq
    obtain ⟨pl, hpl, rfl⟩ := List.mem_map.mp hq
    refine ⟨?_, Or.inr rfl⟩
    have := h pl hpl
    cases pl with
    | data d => exact goodLine_data d this.1 this.2
    | comment c => exact goodLine_comment c this.1 this.2

end MontePyVerif.LayoutModel
