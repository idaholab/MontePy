import MontePyVerif.Model.Reader
import MontePyVerif.Lemmas.ListBasics
/-! # `posixpath.join` / `dirname` keep absolute paths absolute (lemmas for C20_paths_cwd) -/
namespace MontePyVerif.Reader
open MontePyVerif.ListBasics

/-- an absolute path: the operating system resolves it without the working directory -/
def isAbs (p : Str) : Bool := startsWith p ['/']

theorem isAbs_iff (p : Str) : isAbs p = true ↔ ∃ t, p = '/' :: t := by
  cases p with
  | nil => simp [isAbs, startsWith]
  | cons c t => simp [isAbs, startsWith]

theorem isAbs_join (dir name : Str) (h : isAbs dir = true) : isAbs (joinPath dir name) = true := by
  obtain ⟨t, rfl⟩ := (isAbs_iff dir).mp h
  unfold joinPath
  split
  · assumption
  · split <;> simp [isAbs, startsWith]

theorem isAbs_dirname (p : Str) (h : isAbs p = true) : isAbs (dirname p) = true := by
  obtain ⟨t, rfl⟩ := (isAbs_iff p).mp h
  unfold dirname
  have hhead : (('/' :: t).reverse.dropWhile (· != '/')).reverse = '/' :: (t.reverse.dropWhile (· != '/')).reverse := by
    rw [List.reverse_cons, dropWhile_snoc _ _ _ (by decide)]
    simp
  simp only [hhead]
  generalize (t.reverse.dropWhile (· != '/')).reverse = h'
  split
  · rename_i hc
    rw [List.reverse_cons]
    by_cases hall : (h'.reverse.dropWhile (· == '/')) = []
    · exfalso
      have : ∀ x ∈ h', (x == '/') = true := by
        intro x hx
        exact ((dropWhile_eq_nil _ _).mp hall) x (List.mem_reverse.mpr hx)
      have h2 : h'.all (· == '/') = true := List.all_eq_true.mpr this
      simp [h2] at hc
    · rw [dropWhile_append_of_ne _ _ _ hall]
      simp [isAbs, startsWith]
  · simp [isAbs, startsWith]

theorem queueLoop_congr (ll : Nat) (fs1 fs2 : FS) (dir : Str) (hd : isAbs dir = true)
    (h : ∀ p, isAbs p = true → fs1 p = fs2 p) (fuel : Nat) (q : List QEntry) :
    queueLoop ll fs1 dir fuel q = queueLoop ll fs2 dir fuel q := by
  induction fuel generalizing q with
  | zero => cases q <;> rfl
  | succ n ih =>
    cases q with
    | nil => rfl
    | cons e rest =>
      simp only [queueLoop]
      rw [h _ (isAbs_join dir e.name hd)]
      cases fs2 (joinPath dir e.name) with
      | none => rfl
      | some bytes => simp only [ih]

end MontePyVerif.Reader
