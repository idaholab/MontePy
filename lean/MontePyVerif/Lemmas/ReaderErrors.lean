import MontePyVerif.Lemmas.Queue
/-!
# Which errors the per-file reader can raise (lemmas for C13_reader_total)

Read off `FileEvent`: the reader model is that of C11/C20 (`Model/Reader.lean`).
-/
namespace MontePyVerif.Reader

/-- the three errors `read_data` itself raises: malformed read input, read cycle, vertical format -/
def ReaderErr (e : Err) : Prop := e = .parsing ∨ e = .malformed ∨ e = .unsupported

instance (e : Err) : Decidable (ReaderErr e) := by unfold ReaderErr; exact inferInstance

def OnlyReaderErrs (evs : List Event) : Prop := ∀ e, Event.raise e ∈ evs → ReaderErr e

theorem ore_readData (cfg : Cfg) (ls : List Str) : OnlyReaderErrs (readData cfg ls) := by
  intro e h
  cases fileEvent_goLines cfg _ ls _ h with
  | parsing => exact .inl rfl
  | malformed => exact .inr (.inl rfl)
  | unsupported => exact .inr (.inr rfl)

end MontePyVerif.Reader
