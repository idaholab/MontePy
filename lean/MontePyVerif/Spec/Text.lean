/-!
# Spec.Text — MCNP's physical-line rules (reference semantics, independent of MontePy)

Written from the MCNP manual's input-file format rules (MCNP 6.2 manual, LA-UR-17-29981, section 2.x):

* a line is at most `limit` columns (80 up to MCNP 6.1, 128 from 6.2); what is beyond is not read;
* a *blank line* (blanks only) ends a block;
* a *comment line* has `c` or `C` somewhere in columns 1–5, only blanks before it, and a blank or the end of
  the line after it; it can stand anywhere and carries no data;
* on any other line a `$` starts a comment that runs to the end of the line;
* a line whose columns 1–5 are blank *continues* the input of the previous data line; so does the line after a
  line whose data end with `&`;
* the data of an input are its *words*: maximal runs of non-blank characters.

It shares no code with `Model/Wrap.lean` (it does not import it).
-/
namespace MontePyVerif.Spec.Text

abbrev Str := List Char

def isBlankLine (l : Str) : Bool := l.all (· == ' ')

def commentWithin : Nat → Str → Bool
  | 0, _ => false
  | _ + 1, [] => false
  | n + 1, c :: rest =>
    if c == ' ' then commentWithin n rest
    else (c == 'c' || c == 'C') && (match rest with | [] => true | d :: _ => d == ' ')

def isCommentLine (l : Str) : Bool := commentWithin 5 l

def commentLineText : Str → Str
  | [] => []
  | c :: rest => if c == ' ' then commentLineText rest else rest

def isContinuation (l : Str) : Bool := decide (5 ≤ l.length) && (l.take 5).all (· == ' ')

def splitDollar : Str → Str × Option Str
  | [] => ([], none)
  | c :: rest =>
    if c == '$' then ([], some rest)
    else let r := splitDollar rest; (c :: r.1, r.2)

def wordsAux : Str → Str → List Str
  | [], cur => if cur.isEmpty then [] else [cur.reverse]
  | c :: rest, cur =>
    if c == ' ' then (if cur.isEmpty then wordsAux rest [] else cur.reverse :: wordsAux rest [])
    else wordsAux rest (c :: cur)

def words (l : Str) : List Str := wordsAux l []

/-- comment text counts up to layout: only its non-blank characters -/
def squeeze (l : Str) : Str := l.filter (· != ' ')

inductive Line where
  | blank
  | comment (text : Str)
  | data (continuation : Bool) (words : List Str) (comment : Str)   -- comment: squeezed text behind `$`
  deriving Repr, DecidableEq

def classify (limit : Nat) (raw : Str) : Line :=
  let l := raw.take limit
  if isBlankLine l then .blank
  else if isCommentLine l then .comment (squeeze (commentLineText l))
  else
    let p := splitDollar l
    .data (isContinuation l) (words p.1) (match p.2 with | some t => squeeze t | none => [])

/-- a logical input: its data words, and all comment text found inside or in front of it -/
structure Input where
  words : List Str
  comment : Str
  deriving Repr, DecidableEq

/-- `done`: most recent first; `amp`: the last data line ended with `&` -/
structure St where
  done : List Input
  cur : Option Input
  amp : Bool
  deriving Repr, DecidableEq

def St.init : St := ⟨[], none, false⟩

def stripAmp (ws : List Str) : List Str × Bool :=
  match ws.getLast? with
  | some ['&'] => (ws.dropLast, true)
  | _ => (ws, false)

def step (limit : Nat) (st : St) (raw : Str) : St :=
  match classify limit raw with
  | .blank =>
    match st.cur with
    | some i => ⟨i :: st.done, none, false⟩
    | none => ⟨st.done, none, false⟩
  | .comment t =>
    match st.cur with
    | some i => ⟨st.done, some ⟨i.words, i.comment ++ t⟩, st.amp⟩
    | none => ⟨st.done, some ⟨[], t⟩, st.amp⟩
  | .data cont ws c =>
    let a := stripAmp ws
    -- a line without data words (only a `$` comment) does not interrupt an `&` continuation
    let amp' := if ws.isEmpty then st.amp else a.2
    match st.cur with
    | some i =>
      if cont || st.amp || i.words.isEmpty then
        -- an open input without words holds only leading comments
        ⟨st.done, some ⟨i.words ++ a.1, i.comment ++ c⟩, amp'⟩
      else ⟨i :: st.done, some ⟨a.1, c⟩, amp'⟩
    | none => ⟨st.done, some ⟨a.1, c⟩, amp'⟩

def finish (st : St) : List Input :=
  (match st.cur with | some i => i :: st.done | none => st.done).reverse

def logicalInputs (limit : Nat) (lines : List Str) : List Input :=
  finish (lines.foldl (step limit) St.init)

theorem foldl_step_append (limit : Nat) (st : St) (xs ys : List Str) :
    (xs ++ ys).foldl (step limit) st = ys.foldl (step limit) (xs.foldl (step limit) st) :=
  List.foldl_append ..

/-! `rw [String.toList_ofList]` first: decoding a string literal costs the kernel far more than the functions
    tested here -/
example : isCommentLine "c hello".toList = true := by
  rw [String.toList_ofList]
  decide +kernel
example : isCommentLine "    C".toList = true := by
  rw [String.toList_ofList]
  decide +kernel
example : isCommentLine "     c hello".toList = false := by
  rw [String.toList_ofList]
  decide +kernel
example : isCommentLine "cc hello".toList = false := by
  rw [String.toList_ofList]
  decide +kernel
example : words "1 0  -1 ".toList = ["1".toList, "0".toList, "-1".toList] := by
  repeat rw [String.toList_ofList]
  decide +kernel
example : logicalInputs 80 ["1 0 -1 $ a b".toList, "     imp:n=1".toList, "c x".toList, "2 0 1".toList]
    = [⟨["1".toList, "0".toList, "-1".toList, "imp:n=1".toList], "abx".toList⟩,
       ⟨["2".toList, "0".toList, "1".toList], []⟩] := by
  repeat rw [String.toList_ofList]
  decide +kernel

end MontePyVerif.Spec.Text
