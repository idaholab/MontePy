/-! # Spec.Card — the core grammar G of DESIGN.md section 5.2 as Lean data

Written from section 5.2 (which is written from the MCNP 6.2 manual), sharing no code with the model of
MontePy.

* The **pinned terminal sets** (keywords, particles, surface mnemonics with their arities, cell keywords,
  data-card names) are literals: deleting a keyword from MontePy's tables shrinks what MontePy accepts, not what
  G generates.
* G's card families are **inductive types with a well-formedness predicate**, each with `render` (the words of
  the sentence: section 5.2 is defined on words) and `classes` (the sentence as a string of token classes and
  literals, with the padding tokens of the layout of section 5.3 made explicit: `Gap`).

Token classes are the vocabulary in which MCNP's own lexical rules are usually stated (number, zero, jump,
repeat …); the names are spelled the way SLY spells them so that the class strings can be compared with what
the real lexer emits (correspondence unit U-lexclass) and consumed by the context-free theorem `C12_cfg`.
-/
namespace MontePyVerif.Spec.Card

/-! ## Pinned terminal sets -/

/-- keywords G uses in key position (lower case): the 18 cell parameters, the material keys, VOL's NO, the SDEF keys -/
def pinnedKeywords : List String :=
  ["imp", "vol", "u", "lat", "fill", "trcl", "tmp", "pwt", "cosy", "bflcl", "nonu", "ext", "fcl", "elpt", "unc",
   "wwn", "dxc", "pd",
   "nlib", "plib", "pnlib", "elib", "hlib", "alib", "slib", "tlib", "dlib",
   "gas", "estep", "hstep", "cond", "refi", "refc", "refs",
   "no",
   "cel", "sur", "erg", "tme", "dir", "vec", "nrm", "pos", "rad", "ext", "axs", "x", "y", "z", "ccc", "ara",
   "wgt", "tr", "eff", "par"]

/-- the letter particle designators of MCNP 6.2 table 2-2 (the special-character ones are excluded from G) -/
def pinnedParticles : List String :=
  ["n", "p", "e", "q", "u", "v", "f", "h", "l", "x", "y", "o", "g", "z", "k", "b", "c", "w", "d", "t", "s", "a"]

/-- the 40 surface mnemonics with the constant counts section 5.2 allows -/
def pinnedSurfaceArities : List (String × List Nat) :=
  [("p", [4, 9]), ("px", [1]), ("py", [1]), ("pz", [1]),
   ("so", [1]), ("s", [4]), ("sx", [2]), ("sy", [2]), ("sz", [2]),
   ("c/x", [3]), ("c/y", [3]), ("c/z", [3]), ("cx", [1]), ("cy", [1]), ("cz", [1]),
   ("k/x", [4, 5]), ("k/y", [4, 5]), ("k/z", [4, 5]), ("kx", [2, 3]), ("ky", [2, 3]), ("kz", [2, 3]),
   ("sq", [10]), ("gq", [10]), ("tx", [6]), ("ty", [6]), ("tz", [6]),
   ("x", [2, 4, 6]), ("y", [2, 4, 6]), ("z", [2, 4, 6]),
   ("box", [9, 12]), ("rpp", [6]), ("sph", [4]), ("rcc", [7]), ("rhp", [9, 15]), ("hex", [9, 15]),
   ("rec", [10, 12]), ("trc", [8]), ("ell", [7]), ("wed", [12]), ("arb", [30])]

def pinnedSurfaceTypes : List String := pinnedSurfaceArities.map (·.1)

/-- the cell parameters of G, as MCNP spells them -/
def pinnedCellKeywords : List String :=
  ["IMP", "VOL", "U", "LAT", "FILL", "TRCL", "TMP", "PWT", "COSY", "BFLCL", "NONU", "EXT", "FCL", "ELPT", "UNC",
   "WWN", "DXC", "PD"]

def pinnedDataNames : List String :=
  ["m", "mt", "tr", "mode", "imp", "vol", "u", "lat", "fill",
   "f", "fm", "sd", "e", "t", "c", "em", "tm", "cm", "de", "df", "fs", "fc",
   "sdef", "si", "sp", "sb", "ds", "sc", "ksrc", "kcode",
   "nps", "ctme", "print", "prdmp", "phys", "cut", "dbcn", "void", "totnu", "nonu", "area", "tmp", "thtme",
   "wwe", "wwn", "wwp", "esplt", "ext", "dxt", "pwt", "fcl", "bbrem", "lost", "idum", "rdum", "elpt", "pd", "dxc"]

def pinnedLibKeys : List String := ["nlib", "plib", "pnlib", "elib", "hlib", "alib", "slib", "tlib", "dlib"]
def pinnedNumKeys : List String := ["gas", "estep", "hstep", "cond", "refi", "refc", "refs"]
def pinnedSdefKeys : List String :=
  ["cel", "sur", "erg", "tme", "dir", "vec", "nrm", "pos", "rad", "ext", "axs", "x", "y", "z", "ccc", "ara",
   "wgt", "tr", "eff", "par"]

/-- mnemonics and keywords compare case-insensitively (ASCII) -/
def lowerAscii (s : String) : String := String.ofList (s.toList.map Char.toLower)

def arities (m : String) : List Nat :=
  match pinnedSurfaceArities.find? (·.1 == m) with
  | some (_, a) => a
  | none => []

def arityAllowed (m : String) (n : Nat) : Bool := (arities m).contains n

theorem pinnedSurfaceTypes_length : pinnedSurfaceTypes.length = 40 := by decide
theorem pinnedCellKeywords_length : pinnedCellKeywords.length = 18 := by decide
theorem every_mnemonic_has_an_arity : ∀ m ∈ pinnedSurfaceTypes, arities m ≠ [] := by
  intro m hm
  obtain ⟨ma, hma, rfl⟩ := List.mem_map.mp hm
  -- `decide` on the goal itself would run the 40 look-ups, comparing strings in the kernel
  have hall : ∀ e ∈ pinnedSurfaceArities, e.2 ≠ [] := by decide
  unfold arities
  cases h : pinnedSurfaceArities.find? (·.1 == ma.1) with
  | none => exact absurd (List.find?_eq_none.mp h ma hma) (by simp)
  | some e => exact hall e (List.mem_of_find?_eq_some h)

/-! ## Layout: what may stand in a gap between two words (section 5.3) -/

/-- one padding token: blanks (including a line break with its continuation blanks), a `$` comment, a `C`
    comment line, a continuation `&` -/
inductive PadTok
  | space | dollar | comment | amp
  deriving DecidableEq, Repr

def PadTok.cls : PadTok → String
  | .space => "SPACE" | .dollar => "DOLLAR_COMMENT" | .comment => "COMMENT" | .amp => "&"

/-- a (possibly empty) run of padding tokens; `&` cannot come first (it follows blanks) -/
abbrev Gap := List PadTok

def Gap.ok (g : Gap) : Bool := g.head? != some PadTok.amp
def Gap.cls (g : Gap) : List String := g.map PadTok.cls
/-- a gap that MCNP requires to be non-empty (between two words that would otherwise run together) -/
def Gap.req (g : Gap) : Bool := g.ok && !g.isEmpty

/-! ## Numbers -/

/-- a `Real`/`Int` word of G and whether its value is zero (MCNP reads a zero like any number; lexers of the
    SLY kind give it a class of its own, so the class string records it) -/
structure Num where
  text : String
  zero : Bool
  deriving DecidableEq, Repr

def Num.cls (n : Num) : String := if n.zero then "NULL" else "NUMBER"

/-! ## Geometry:  Union ::= Inter {":" Inter};  Inter ::= Factor {Factor};
    Factor ::= Atom | "#" CellNo | "#" "(" Union ")";  Atom ::= [sign] SurfNo | "(" Union ")"  -/

inductive Geom
  /-- `[+|-] SurfNo` -/
  | surf (text : String)
  /-- `"(" gap Union gap ")"` -/
  | paren (g1 : Gap) (e : Geom) (g2 : Gap)
  /-- `"#" CellNo` or `"#" "(" Union ")"`: the operand directly follows the `#` -/
  | compl (e : Geom)
  /-- juxtaposition -/
  | inter (l : Geom) (gap : Gap) (r : Geom)
  /-- `l gap ":" gap r` -/
  | union (l : Geom) (g1 g2 : Gap) (r : Geom)
  deriving Repr

namespace Geom

/-- 0 = Factor, 1 = Inter (two or more factors), 2 = Union (two or more intersections) -/
def level : Geom → Nat
  | surf _ => 0 | paren .. => 0 | compl _ => 0 | inter .. => 1 | union .. => 2

/-- what may directly follow `#`, and what may be juxtaposed without a blank -/
def isAtom : Geom → Bool
  | surf _ => true | paren .. => true | _ => false

def isCompl : Geom → Bool
  | compl _ => true | _ => false

def startsParen : Geom → Bool
  | paren .. => true | inter l _ _ => l.startsParen | union l _ _ _ => l.startsParen | _ => false

def endsParen : Geom → Bool
  | paren .. => true | compl e => e.endsParen | inter _ _ r => r.endsParen | union _ _ _ r => r.endsParen | _ => false

/-- well-formedness = membership in G: operands at the right grammar level, gaps legal, a blank between
    factors unless a parenthesis separates them -/
def WF : Geom → Bool
  | surf _ => true
  | paren g1 e g2 => g1.ok && g2.ok && e.WF
  | compl e => e.isAtom && e.WF
  | inter l gap r =>
      l.WF && r.WF && decide (l.level ≤ 1) && decide (r.level = 0) && gap.ok &&
      (!gap.isEmpty || (r.isAtom && (l.endsParen || r.startsParen)) || (r.isCompl && l.endsParen))
  | union l g1 g2 r => l.WF && r.WF && decide (r.level ≤ 1) && g1.ok && g2.ok

def render : Geom → List String
  | surf t => [t]
  | paren _ e _ => ["("] ++ e.render ++ [")"]
  | compl e => ["#"] ++ e.render
  | inter l _ r => l.render ++ r.render
  | union l _ _ r => l.render ++ [":"] ++ r.render

def classes : Geom → List String
  | surf _ => ["NUMBER"]
  | paren g1 e g2 => ["("] ++ g1.cls ++ e.classes ++ g2.cls ++ [")"]
  | compl e => ["COMPLEMENT"] ++ e.classes
  | inter l gap r => l.classes ++ gap.cls ++ r.classes
  | union l g1 g2 r => l.classes ++ g1.cls ++ [":"] ++ g2.cls ++ r.classes

def leaves : Geom → Nat
  | surf _ => 1 | paren _ e _ => e.leaves | compl e => e.leaves
  | inter l _ r => l.leaves + r.leaves | union l _ _ r => l.leaves + r.leaves

end Geom

/-! ## Entries:  Entry ::= Real | Jump | Real Repeat | Real Multiply | Real Interp Real -/

inductive Entry
  | real (n : Num)
  /-- `[N] "J"` -/
  | jump (text : String) (counted : Bool)
  /-- `Real gap [N] "R"` -/
  | rep (n : Num) (gap : Gap) (text : String) (counted : Bool)
  /-- `Real gap Real"M"` -/
  | mul (n : Num) (gap : Gap) (text : String)
  /-- `Real gap [N] ("I"|"ILOG") gap Real` -/
  | interp (a : Num) (g1 : Gap) (text : String) (counted log : Bool) (g2 : Gap) (b : Num)
  deriving Repr

namespace Entry

def WF : Entry → Bool
  | real _ => true
  | jump _ _ => true
  | rep _ gap _ _ => gap.req
  | mul _ gap _ => gap.req
  | interp _ g1 _ _ _ g2 _ => g1.req && g2.req

def render : Entry → List String
  | real n => [n.text]
  | jump t _ => [t]
  | rep n _ t _ => [n.text, t]
  | mul n _ t => [n.text, t]
  | interp a _ t _ _ _ b => [a.text, t, b.text]

def classes : Entry → List String
  | real n => [n.cls]
  | jump _ c => [if c then "NUM_JUMP" else "JUMP"]
  | rep n gap _ c => [n.cls] ++ gap.cls ++ [if c then "NUM_REPEAT" else "REPEAT"]
  | mul n gap _ => [n.cls] ++ gap.cls ++ ["NUM_MULTIPLY"]
  | interp a g1 _ c lg g2 b =>
      [a.cls] ++ g1.cls ++
      [match c, lg with
        | true, true => "NUM_LOG_INTERPOLATE" | false, true => "LOG_INTERPOLATE"
        | true, false => "NUM_INTERPOLATE" | false, false => "INTERPOLATE"] ++ g2.cls ++ [b.cls]

/-- the end value of an interpolation is a number different from zero.  No theorem assumes it (MontePy's grammar
    derives `a nI 0` since e8e6f87); it classifies sentences for the generator's coverage counters. -/
def interpEndNonzero : Entry → Bool
  | interp _ _ _ _ _ _ b => !b.zero
  | _ => true

end Entry

/-- a sequence of entries, each followed by its gap -/
abbrev Entries := List (Entry × Gap)

namespace Entries
def WF (es : Entries) : Bool := es.all (fun eg => eg.1.WF && eg.2.ok)
/-- G additionally needs a blank between two entries (not needed for derivability) -/
def separated : Entries → Bool
  | [] => true
  | [_] => true
  | (_, g) :: rest => !g.isEmpty && separated rest
def render (es : Entries) : List String := es.flatMap (fun eg => eg.1.render)
def classes (es : Entries) : List String := es.flatMap (fun eg => eg.1.classes ++ eg.2.cls)
def interpEndNonzero (es : Entries) : Bool := es.all (fun eg => eg.1.interpEndNonzero)
end Entries

/-! ## Classifiers and key/value separators -/

/-- the first word of a data card or of a parameter: `["*"] Name [Number] [":" PL]`.
    `nameCls` is the class of the mnemonic: a keyword, a particle letter (`f`, `e`, `t`, `c` …) or other text. -/
structure Classifier where
  star : Bool
  /-- the class of the `*`: a literal in a cell card; the data-card lexer has a class for special characters -/
  starCls : String := "*"
  name : String
  nameCls : String
  number : Option String
  particles : List String
  deriving Repr

namespace Classifier
def WF (c : Classifier) : Bool :=
  ["TEXT", "KEYWORD", "PARTICLE"].contains c.nameCls && ["*", "PARTICLE_SPECIAL"].contains c.starCls
def particleClasses : List String → List String
  | [] => []
  | _ :: rest => [":", "PARTICLE"] ++ rest.flatMap (fun _ => [",", "PARTICLE"])
def numberClasses : Option String → List String
  | some _ => ["NUMBER"]
  | none => []
def classes (c : Classifier) : List String :=
  (if c.star then [c.starCls] else []) ++ [c.nameCls] ++ numberClasses c.number ++ particleClasses c.particles
def render (c : Classifier) : List String :=
  [(if c.star then "*" else "") ++ c.name ++ (c.number.getD "") ++
    (match c.particles with | [] => "" | p :: ps => ":" ++ p ++ String.join (ps.map ("," ++ ·)))]
end Classifier

/-- `sep`: blank(s), `=`, or both -/
structure Sep where
  before : Gap
  eq : Bool
  after : Gap
  deriving Repr

namespace Sep
def WF (s : Sep) : Bool := s.before.ok && s.after.ok && (s.eq || !s.before.isEmpty) && (s.eq || s.after.isEmpty)
def classes (s : Sep) : List String := s.before.cls ++ (if s.eq then ["="] else []) ++ s.after.cls
end Sep

/-! ## Cell cards -/

/-- the value of a cell parameter -/
inductive PVal
  /-- one or more entries: `IMP:N=1`, `U=-2`, `FILL=3`, `TRCL=5` … -/
  | nums (es : Entries)
  /-- `FILL = UnivNo "(" … ")" gap` -/
  | numsParen (es : Entries) (opened : Gap) (inner : Entries) (after : Gap)
  /-- `TRCL = "(" … ")" gap` -/
  | paren (opened : Gap) (inner : Entries) (after : Gap)
  /-- `FILL = i:j k:l m:n UnivNo+`: three ranges (each `Int ":" Int gap`), then the universes -/
  | lattice (r1a : Num) (r1b : Num) (g1 : Gap) (r2a : Num) (r2b : Num) (g2 : Gap) (r3a : Num) (r3b : Num) (g3 : Gap)
      (us : Entries)
  deriving Repr

namespace PVal
def WF : PVal → Bool
  | nums es => es.WF && !es.isEmpty
  | numsParen es opened inner after => es.WF && !es.isEmpty && opened.ok && inner.WF && !inner.isEmpty && after.ok
  | paren opened inner after => opened.ok && inner.WF && !inner.isEmpty && after.ok
  | lattice _ _ g1 _ _ g2 _ _ g3 us => g1.req && g2.req && g3.req && us.WF && !us.isEmpty
def render : PVal → List String
  | nums es => es.render
  | numsParen es _ inner _ => es.render ++ ["("] ++ inner.render ++ [")"]
  | paren _ inner _ => ["("] ++ inner.render ++ [")"]
  | lattice a b _ c d _ e f _ us =>
      [a.text, ":", b.text, c.text, ":", d.text, e.text, ":", f.text] ++ us.render
def classes : PVal → List String
  | nums es => es.classes
  | numsParen es opened inner after => es.classes ++ ["("] ++ opened.cls ++ inner.classes ++ [")"] ++ after.cls
  | paren opened inner after => ["("] ++ opened.cls ++ inner.classes ++ [")"] ++ after.cls
  | lattice a b g1 c d g2 e f g3 us =>
      [a.cls, ":", b.cls] ++ g1.cls ++ [c.cls, ":", d.cls] ++ g2.cls ++ [e.cls, ":", f.cls] ++ g3.cls ++ us.classes
def interpEndNonzero : PVal → Bool
  | nums es => es.interpEndNonzero
  | numsParen es _ inner _ => es.interpEndNonzero && inner.interpEndNonzero
  | paren _ inner _ => inner.interpEndNonzero
  | lattice _ _ _ _ _ _ _ _ _ us => us.interpEndNonzero
end PVal

structure CellParam where
  key : Classifier
  sep : Sep
  val : PVal
  deriving Repr

namespace CellParam
def WF (p : CellParam) : Bool := p.key.WF && p.sep.WF && p.val.WF
def render (p : CellParam) : List String := p.key.render ++ p.val.render
def classes (p : CellParam) : List String := p.key.classes ++ p.sep.classes ++ p.val.classes
end CellParam

/-- `Cell ::= CellNo Mat Geometry {CellParam}` with `Mat ::= "0" | MatNo Density` -/
structure CellCard where
  lead : Gap
  number : String
  g0 : Gap
  /-- `none` = void (`0`); `some (matNo, gap, density)` -/
  material : Option (String × Gap × String)
  matZero : String := "0"
  g1 : Gap
  geometry : Geom
  /-- the gap between the geometry and the first parameter (or the end of the card) -/
  g2 : Gap
  params : List CellParam
  deriving Repr

namespace CellCard
def WF (c : CellCard) : Bool :=
  c.lead.ok && c.g0.req && c.g1.req && c.g2.ok && c.geometry.WF &&
  (match c.material with | some (_, g, _) => g.req | none => true) &&
  c.params.all CellParam.WF && (c.params.isEmpty || !c.g2.isEmpty)
def render (c : CellCard) : List String :=
  [c.number] ++ (match c.material with | some (m, _, d) => [m, d] | none => [c.matZero]) ++ c.geometry.render ++
    c.params.flatMap CellParam.render
def classes (c : CellCard) : List String :=
  c.lead.cls ++ ["NUMBER"] ++ c.g0.cls ++
    (match c.material with | some (_, g, _) => ["NUMBER"] ++ g.cls ++ ["NUMBER"] | none => ["NULL"]) ++ c.g1.cls ++
    c.geometry.classes ++ c.g2.cls ++ c.params.flatMap CellParam.classes
def interpEndNonzero (c : CellCard) : Bool := c.params.all (fun p => p.val.interpEndNonzero)
end CellCard

/-! ## Surface cards:  Surface ::= ["*"|"+"] SurfNo [ ["-"] PosInt ] Mnemonic Constants -/

structure SurfaceCard where
  lead : Gap
  /-- `"*"` is a token of its own; a `+` belongs to the number word -/
  star : Bool
  number : String
  g0 : Gap
  pointer : Option (String × Gap)
  mnemonic : String
  g1 : Gap
  constants : Entries
  deriving Repr

namespace SurfaceCard
def WF (s : SurfaceCard) : Bool :=
  s.lead.ok && s.g0.req && s.g1.req && (match s.pointer with | some (_, g) => g.req | none => true) &&
  s.constants.WF && !s.constants.isEmpty && pinnedSurfaceTypes.contains (lowerAscii s.mnemonic)
def render (s : SurfaceCard) : List String :=
  [(if s.star then "*" else "") ++ s.number] ++ (match s.pointer with | some (p, _) => [p] | none => []) ++
    [s.mnemonic] ++ s.constants.render
def classes (s : SurfaceCard) : List String :=
  s.lead.cls ++ (if s.star then ["*"] else []) ++ ["NUMBER"] ++ s.g0.cls ++
    (match s.pointer with | some (_, g) => ["NUMBER"] ++ g.cls | none => []) ++ ["SURFACE_TYPE"] ++ s.g1.cls ++
    s.constants.classes
end SurfaceCard

/-! ## Data cards: number lists, M, MT, MODE -/

/-- a material parameter: `LibKey sep LibId` (a number directly followed by letters) or `NumKey sep Real+` -/
inductive MatParamVal
  | lib (text : String) (after : Gap)
  | nums (es : Entries)
  deriving Repr

structure MatParam where
  key : Classifier
  sep : Sep
  val : MatParamVal
  deriving Repr

namespace MatParam
def WF (p : MatParam) : Bool :=
  p.key.WF && p.sep.WF && (match p.val with | .lib _ a => a.ok | .nums es => es.WF && !es.isEmpty)
def render (p : MatParam) : List String :=
  p.key.render ++ (match p.val with | .lib t _ => [t] | .nums es => es.render)
def classes (p : MatParam) : List String :=
  p.key.classes ++ p.sep.classes ++ (match p.val with | .lib _ a => ["NUMBER_WORD"] ++ a.cls | .nums es => es.classes)
end MatParam

inductive DataBody
  /-- `GenericEntries`, data-block IMP/VOL/U/LAT/FILL, TR, KCODE, KSRC, E/T/C/… bins: numbers, jumps, shortcuts
      (possibly none), optionally preceded by a keyword (`VOL NO`) -/
  | numbers (keyword : Option (String × Gap)) (es : Entries)
  /-- `M`: `(Zaid Real)+ {param}`; each fraction is `(zaid, gap, fraction, gap)` with a library-qualified ZAID -/
  | material (fractions : List (String × Gap × Num × Gap)) (params : List MatParam)
  /-- `MT`: `Law+` -/
  | thermal (laws : List (String × Gap))
  /-- `MODE`: `Particle+` -/
  | mode (particles : List (String × Gap))
  deriving Repr

structure DataCard where
  lead : Gap
  classifier : Classifier
  g0 : Gap
  body : DataBody
  deriving Repr

namespace DataCard
def WF (d : DataCard) : Bool :=
  d.lead.ok && d.g0.ok && d.classifier.WF &&
  (match d.body with
   | .numbers kw es => es.WF && (match kw with | some (_, g) => g.req && !d.g0.isEmpty | none => true) &&
        (es.isEmpty || !d.g0.isEmpty)
   | .material fr ps => !fr.isEmpty && !d.g0.isEmpty && fr.all (fun f => f.2.1.req && f.2.2.2.ok && !f.2.2.1.zero) &&
        ps.all MatParam.WF
   | .thermal laws => !laws.isEmpty && !d.g0.isEmpty && laws.all (fun l => l.2.ok)
   | .mode ps => !ps.isEmpty && !d.g0.isEmpty && ps.all (fun p => p.2.ok))
def render (d : DataCard) : List String :=
  d.classifier.render ++
  (match d.body with
   | .numbers kw es => (match kw with | some (k, _) => [k] | none => []) ++ es.render
   | .material fr ps => fr.flatMap (fun f => [f.1, f.2.2.1.text]) ++ ps.flatMap MatParam.render
   | .thermal laws => laws.map (·.1)
   | .mode ps => ps.map (·.1))
def classes (d : DataCard) : List String :=
  d.lead.cls ++ d.classifier.classes ++ d.g0.cls ++
  (match d.body with
   | .numbers kw es => (match kw with | some (_, g) => ["KEYWORD"] ++ g.cls | none => []) ++ es.classes
   | .material fr ps =>
       fr.flatMap (fun f => ["ZAID"] ++ f.2.1.cls ++ ["NUMBER"] ++ f.2.2.2.cls) ++ ps.flatMap MatParam.classes
   | .thermal laws => laws.flatMap (fun l => ["THERMAL_LAW"] ++ l.2.cls)
   | .mode ps => ps.flatMap (fun p => ["PARTICLE"] ++ p.2.cls))
def interpEndNonzero (d : DataCard) : Bool :=
  match d.body with
  | .numbers _ es => es.interpEndNonzero
  | .material _ ps => ps.all (fun p => match p.val with | .nums es => es.interpEndNonzero | _ => true)
  | _ => true
end DataCard

/-! ## Tally, FS, SDEF and SI/SP/SB/DS cards (section 5.2: Tally, Source)

    Tally  ::= ["*"] "F" TallyNo ":" PL TallyBins          TallyBins ::= { PosInt | "(" PosInt+ ")" }+ ["T"]
             | "FS" PosInt {["-"] PosInt} ["T"]
    Source ::= "SDEF" { SdefKey sep (Real{1|3} | "D" PosInt | Particle) }
             | ("SI"|"SP"|"SB"|"DS") PosInt OptLetter GenericEntries

  A single letter (`t`, `d`, an option letter, a particle) is a word of its own; every such letter of G is a
  particle designator of table 2-2, so its class is PARTICLE (`d1` is the two tokens PARTICLE NUMBER). -/

inductive TallyItem
  /-- bins outside a group: one or more entries -/
  | bins (es : Entries)
  /-- `"(" gap PosInt+ ")" gap` -/
  | group (opened : Gap) (es : Entries) (after : Gap)
  deriving Repr

namespace TallyItem
def WF : TallyItem → Bool
  | bins es => es.WF && !es.isEmpty
  | group opened es after => opened.ok && es.WF && !es.isEmpty && after.ok
def render : TallyItem → List String
  | bins es => es.render
  | group _ es _ => ["("] ++ es.render ++ [")"]
def classes : TallyItem → List String
  | bins es => es.classes
  | group opened es after => ["("] ++ opened.cls ++ es.classes ++ [")"] ++ after.cls
end TallyItem

inductive SdefVal
  | nums (es : Entries)
  /-- `"D" PosInt`: the letter and the number are two tokens -/
  | dist (letter : String) (number : String) (after : Gap)
  | particle (word : String) (after : Gap)
  deriving Repr

def SdefVal.classes : SdefVal → List String
  | .nums es => es.classes
  | .dist _ _ after => ["PARTICLE", "NUMBER"] ++ after.cls
  | .particle _ after => ["PARTICLE"] ++ after.cls
def SdefVal.WF : SdefVal → Bool
  | .nums es => es.WF && !es.isEmpty
  | .dist _ _ after => after.ok
  | .particle _ after => after.ok

structure SdefParam where
  key : String
  sep : Sep
  val : SdefVal
  deriving Repr

namespace SdefParam
def WF (p : SdefParam) : Bool := p.sep.WF && p.val.WF
def render (p : SdefParam) : List String :=
  [p.key] ++ (match p.val with | .nums es => es.render | .dist l n _ => [l ++ n] | .particle w _ => [w])
def classes (p : SdefParam) : List String :=
  ["KEYWORD"] ++ p.sep.classes ++ p.val.classes
end SdefParam

inductive XBody
  /-- F: bins and groups, optional total `T` -/
  | tally (items : List TallyItem) (total : Option (String × Gap))
  /-- FS: segments, optional `T` -/
  | segments (es : Entries) (total : Option (String × Gap))
  /-- SDEF: key/value pairs (possibly none) -/
  | sdef (params : List SdefParam)
  /-- SI / SP / SB / DS with an option letter -/
  | lettered (letter : String) (g : Gap) (es : Entries)
  deriving Repr

structure XCard where
  lead : Gap
  classifier : Classifier
  g0 : Gap
  body : XBody
  deriving Repr

namespace XCard
def totalWF : Option (String × Gap) → Bool
  | some (_, g) => g.ok
  | none => true
def totalClasses : Option (String × Gap) → List String
  | some (_, g) => ["PARTICLE"] ++ g.cls
  | none => []
def totalRender : Option (String × Gap) → List String
  | some (t, _) => [t]
  | none => []
def WF (d : XCard) : Bool :=
  d.lead.ok && d.g0.ok && d.classifier.WF &&
  (match d.body with
   | .tally items total => !items.isEmpty && !d.g0.isEmpty && items.all TallyItem.WF && totalWF total
   | .segments es total => es.WF && !es.isEmpty && !d.g0.isEmpty && totalWF total
   | .sdef ps => ps.all SdefParam.WF && (ps.isEmpty || !d.g0.isEmpty)
   | .lettered _ g es => g.req && es.WF && !es.isEmpty && !d.g0.isEmpty)
def render (d : XCard) : List String :=
  d.classifier.render ++
  (match d.body with
   | .tally items total => items.flatMap TallyItem.render ++ totalRender total
   | .segments es total => es.render ++ totalRender total
   | .sdef ps => ps.flatMap SdefParam.render
   | .lettered l _ es => [l] ++ es.render)
def classes (d : XCard) : List String :=
  d.lead.cls ++ d.classifier.classes ++ d.g0.cls ++
  (match d.body with
   | .tally items total => items.flatMap TallyItem.classes ++ totalClasses total
   | .segments es total => es.classes ++ totalClasses total
   | .sdef ps => ps.flatMap SdefParam.classes
   | .lettered _ g es => ["PARTICLE"] ++ g.cls ++ es.classes)
end XCard

/-! ## Sanity examples (the readings the manual gives) -/

example : (Geom.union (.inter (.surf "1") [.space] (.surf "-2")) [] [] (.compl (.paren [] (.surf "3") []))).render
    = ["1", "-2", ":", "#", "(", "3", ")"] := by decide
example : (Geom.inter (.paren [] (.union (.surf "1") [] [] (.surf "2")) []) [] (.paren [] (.surf "3") [])).WF = true := by
  decide
/-- `(1:2)#3`: a parenthesis separates, no blank needed; `1#3` needs one -/
example : (Geom.inter (.paren [] (.union (.surf "1") [] [] (.surf "2")) []) [] (.compl (.surf "3"))).WF = true := by decide
example : (Geom.inter (.surf "1") [] (.compl (.surf "3"))).WF = false := by decide
/-- `1 -2` without the blank is not a sentence -/
example : (Geom.inter (.surf "1") [] (.surf "-2")).WF = false := by decide
/-- an intersection under a union needs no parentheses, a union under an intersection does -/
example : (Geom.inter (.union (.surf "1") [] [] (.surf "2")) [.space] (.surf "3")).WF = false := by decide
example : arityAllowed "k/x" 5 = true ∧ arityAllowed "k/x" 6 = false ∧ arityAllowed "nosuch" 1 = false := by decide +kernel

end MontePyVerif.Spec.Card
