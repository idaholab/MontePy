import MontePyVerif.Lemmas.Write
import MontePyVerif.Spec.Blocks
/-!
# C15 — write_to_file never destroys or half-writes the destination

Statements about `Model/Write.lean` (the repaired `MCNP_Problem.write_to_file` / `MCNP_InputFile`), for
**every** problem (any number of objects, any of them raising), every prior state of the destination,
either value of `overwrite`, and every fault plan (`Fault`: creating the temporary, the k-th
`format_for_mcnp_input`, the k-th `fh.write` after any prefix of its text, close, `os.replace`,
`_handle_warnings`).  The statement order of the writer and the guards of `open` come from the generated
table `Gen/WriteOrder.lean`; the block-order theorems are judged by the independent reader `Spec/Blocks.lean`.
-/
namespace MontePyVerif.Write
open MontePyVerif.Gen.WriteOrder (Seg)
open MontePyVerif.Spec.Blocks

/-! ## the two halves of `MCNP_InputFile`: open and exit -/

theorem openW_cases (d : Dest) (ow : Bool) (plan : Fault) :
    (∃ e, openW ⟨d, none⟩ ow plan = (⟨d, none⟩, some e)) ∨ openW ⟨d, none⟩ ow plan = (⟨d, some []⟩, none) := by
  unfold openW fsCreateTmp
  cases d <;> dsimp only <;> (repeat' split) <;> first | exact .inl ⟨_, rfl⟩ | exact .inr rfl

theorem openW_pass {d : Dest} {ow : Bool} (hd : d = .absent ∨ (∃ c, d = .file c) ∧ ow = true) (plan : Fault) :
    openW ⟨d, none⟩ ow plan = if plan = .openTmp then (⟨d, none⟩, some .osError) else (⟨d, some []⟩, none) := by
  rcases hd with rfl | ⟨⟨c, rfl⟩, rfl⟩ <;> simp [openW, fsCreateTmp]

theorem fsReplace_eq_some {fs fs' : FS} (h : fsReplace fs = some fs') :
    ∃ c, fs.tmp = some c ∧ fs' = ⟨.file c, none⟩ := by
  unfold fsReplace at h
  split at h <;> cases h <;> exact ⟨_, ‹_›, rfl⟩

theorem closeW_cases (w : W) (plan : Fault) :
    (∃ n c, plan = .close n c ∧ closeW w plan = (fsFlushTmp w.fs (flushPrefix w.buf n c), some .osError)) ∨
    (∀ n c, plan ≠ .close n c) ∧ closeW w plan = (fsFlushTmp w.fs w.buf, none) := by
  unfold closeW
  split
  · exact .inl ⟨_, _, rfl, rfl⟩
  · exact .inr ⟨‹_›, rfl⟩

theorem exitW_cases (w : W) (exc : Option Err) (plan : Fault) :
    (∃ e, exitW w exc plan = (⟨w.fs.dest, none⟩, some e)) ∨
    exc = none ∧ (∀ n c, plan ≠ .close n c) ∧
      ∃ c, accepted w = some c ∧ exitW w exc plan = (⟨.file c, none⟩, none) := by
  unfold exitW
  rcases closeW_cases w plan with ⟨n, c, rfl, h⟩ | ⟨hclose, h⟩ <;> rw [h] <;> dsimp only
  · exact .inl ⟨_, rfl⟩
  · cases exc
    · dsimp only
      split
      · exact .inl ⟨_, rfl⟩
      · split
        · next fs' hrep =>
          obtain ⟨c, hc, rfl⟩ := fsReplace_eq_some hrep
          exact .inr ⟨rfl, hclose, c, (fsFlushTmp_buf w).symm.trans hc, rfl⟩
        · exact .inl ⟨_, rfl⟩
    · exact .inl ⟨_, rfl⟩

theorem exitW_clean {w : W} {c : List String} (hc : accepted w = some c) (hd : w.fs.dest ≠ .dir) (plan : Fault) :
    exitW w none plan = match plan with
      | .close .. | .replace => (⟨w.fs.dest, none⟩, some .osError)
      | _ => (⟨.file c, none⟩, none) := by
  obtain ⟨⟨d, tmp⟩, buf⟩ := w
  cases tmp <;> cases hc
  cases plan <;> cases d <;> first | rfl | exact absurd rfl hd

/-! ## the `with` block between them, for any statement sequence -/

theorem complete_eq_some {p : Problem} {seq : List Seg} {out : List String} :
    complete p seq = some out ↔ renderSeq p seq = some out ∧ out.all encodable = true := by
  unfold complete
  cases renderSeq p seq with
  | none => simp
  | some o =>
    dsimp only
    split
    · next h => exact ⟨fun e => by cases e; exact ⟨rfl, h⟩, fun e => e.1⟩
    · next h => exact ⟨nofun, fun e => by cases e.1; exact absurd e.2 h⟩

/-- what one call on the destination `d`, with `text` the complete text of its problem, may return and leave
    behind (`err` excepts `_handle_warnings`: it raises after the commit) -/
structure Atomic (d : Dest) (text : Option (List String)) (plan : Fault) (r : Option Err × FS) : Prop where
  tmp : r.2.tmp = none
  dest : r.2.dest = d ∨ ∃ out, text = some out ∧ r.2.dest = .file out
  ok : r.1 = none → ∃ out, text = some out ∧ r.2.dest = .file out
  err : r.1 ≠ none → (∀ e, plan ≠ .warn e) → r.2.dest = d
  close : ∀ n c, plan = .close n c → r.1 ≠ none

theorem Atomic.rolledBack {d : Dest} {text : Option (List String)} {plan : Fault} {e : Err} :
    Atomic d text plan (some e, ⟨d, none⟩) :=
  ⟨rfl, .inl rfl, nofun, fun _ _ => rfl, fun _ _ _ => nofun⟩

theorem Atomic.committed {d : Dest} {text : Option (List String)} {plan : Fault} {o : Option Err} {out : List String}
    (ht : text = some out) (hclose : ∀ n c, plan ≠ .close n c) (ho : o ≠ none → ∃ e, plan = .warn e) :
    Atomic d text plan (o, ⟨.file out, none⟩) :=
  ⟨rfl, .inr ⟨out, ht, rfl⟩, fun _ => ⟨out, ht, rfl⟩, fun h hw => let ⟨e, he⟩ := ho h; absurd he (hw e),
    fun n c h => absurd h (hclose n c)⟩

theorem atomic_seq (seq : List Seg) (p : Problem) (d : Dest) (ow : Bool) (plan : Fault) (sched : Nat → Bool) :
    Atomic d (complete p seq) plan (writeToFileSeq seq p ⟨d, none⟩ ow plan sched) := by
  unfold writeToFileSeq writeToFileWith
  rcases openW_cases d ow plan with ⟨e, h⟩ | h <;> rw [h]
  · exact .rolledBack
  · dsimp only
    generalize hr : runSeq plan p _ seq = r
    have hrun := hr ▸ runSeq_writes plan p _ seq
    rcases exitW_cases r.1 r.2 plan with ⟨e, hx⟩ | ⟨hexc, hclose, c, hc, hx⟩ <;> rw [hx]
    · rw [hrun.dest]
      exact .rolledBack
    · obtain ⟨out, hren, henc, hacc⟩ := hrun.ok hexc
      -- the body starts on an empty temporary with an empty buffer, so what was accepted is `out`
      cases Option.some.inj (hacc.symm.trans hc)
      have hcomp := complete_eq_some.2 ⟨hren, henc⟩
      dsimp only
      split
      · exact .committed hcomp hclose fun _ => ⟨_, rfl⟩
      · exact .committed hcomp hclose fun h => absurd rfl h

theorem outcome_seq (seq : List Seg) (p : Problem) (d : Dest) (ow : Bool) (out : List String)
    (sched : Nat → Bool) (plan : Fault) (hp : plan.sparesBody)
    (hd : d = .absent ∨ (∃ c, d = .file c) ∧ ow = true) (h : complete p seq = some out) :
    writeToFileSeq seq p ⟨d, none⟩ ow plan sched = match plan with
      | .none => (none, ⟨.file out, none⟩)
      | .warn e => (some e, ⟨.file out, none⟩)
      | _ => (some .osError, ⟨d, none⟩) := by
  obtain ⟨hren, henc⟩ := complete_eq_some.1 h
  unfold writeToFileSeq writeToFileWith
  rw [openW_pass hd]
  by_cases hopen : plan = .openTmp
  · subst hopen; rfl
  · rw [if_neg hopen]
    dsimp only
    generalize hr : runSeq plan p _ seq = r
    have hrun := hr ▸ runSeq_writes plan p _ seq
    have hnone := hrun.live hp out hren henc
    obtain ⟨out', ho, -, hacc⟩ := hrun.ok hnone
    cases hren.symm.trans ho
    have hdir : r.1.fs.dest ≠ .dir := by
      rw [hrun.dest]
      rcases hd with rfl | ⟨⟨c, rfl⟩, -⟩ <;> nofun
    rw [hnone, exitW_clean (c := out) hacc hdir, hrun.dest]
    cases plan <;> first | rfl | exact hp.elim | exact absurd rfl hopen

/-! ## the problem of the non-vacuity examples -/

/-- a message block, two cells, one surface, one data card, one modifier card that goes to the data block -/
def demo : Problem :=
  { message := some (.lines ["MESSAGE: outp=o", ""]), title := .lines ["demo"],
    cells := [.lines ["1 0 -1"], .lines ["2 0 1", "     imp:n=0"]], surfaces := [.lines ["1 so 1"]],
    dataInputs := [.lines ["mode n"]], modifiers := [.lines ["imp:n 1 0"]] }

/-- the same problem with a new cell that has no geometry (`validate()` raises IllegalState) -/
def demoInvalid : Problem := { demo with cells := demo.cells ++ [.raises .illegalState] }

def demoText : List String :=
  ["MESSAGE: outp=o", "", "demo", "1 0 -1", "2 0 1", "     imp:n=0", "", "1 so 1", "", "mode n", "imp:n 1 0", ""]

theorem render_demo : render demo = some demoText := by decide +kernel

/-! ## block order: the complete text in closed form (cited by other properties as C15_order_*) -/

/-- **C15_order_sequence** — the order in which `write_to_file` of the working tree writes its segments
    (observed by the translator on a probe problem, on every run): message, title, cells, blank, surfaces,
    blank, data inputs, the modifier cards of the data block, and only then the blank line that ends the
    data block. -/
theorem C15_order_sequence :
    MontePyVerif.Gen.WriteOrder.sequence
      = [.message, .title, .cells, .blank, .surfaces, .blank, .dataInputs, .modifiers, .blank] ∧
    MontePyVerif.Gen.WriteOrder.recognised = true := by decide

/-- **C15_commit_table** — `MCNP_InputFile` commits with `os.replace` and cleans up with `os.remove`;
    `open` has both guards; the handle is ASCII (tables observed on the working tree on every run). -/
theorem C15_commit_table :
    "replace" ∈ MontePyVerif.Gen.WriteOrder.exitOsCalls ∧ "remove" ∈ MontePyVerif.Gen.WriteOrder.exitOsCalls ∧
    MontePyVerif.Gen.WriteOrder.openGuards = ["FileExistsError", "IsADirectoryError"] ∧
    MontePyVerif.Gen.WriteOrder.openEncoding = "ascii" :=
  ⟨.tail _ (.head _), .head _, rfl, rfl⟩

/-- **C15_order_closed_form** — the complete text is: message lines, title, the cells' lines, one
    empty line, the surfaces' lines, one empty line, the data inputs' lines, the modifier cards' lines,
    one empty line — and nothing else. -/
theorem C15_order_closed_form (p : Problem) (out : List String) (h : render p = some out) :
    ∃ msg title cells surfs data mods,
      segLines p .message = some msg ∧ linesOf [p.title] = some title ∧ linesOf p.cells = some cells ∧
      linesOf p.surfaces = some surfs ∧ linesOf p.dataInputs = some data ∧ linesOf p.modifiers = some mods ∧
      out = msg ++ title ++ cells ++ [""] ++ surfs ++ [""] ++ data ++ mods ++ [""] := by
  have h0 := (complete_eq_some.1 h).1
  simp only [C15_order_sequence.1, renderSeq_cons] at h0
  obtain ⟨msg, r1, hm, h1, rfl⟩ := cat_eq_some h0
  obtain ⟨title, r2, ht, h2, rfl⟩ := cat_eq_some h1
  obtain ⟨cells, r3, hc, h3, rfl⟩ := cat_eq_some h2
  obtain ⟨b1, r4, hb1, h4, rfl⟩ := cat_eq_some h3
  obtain ⟨surfs, r5, hs, h5, rfl⟩ := cat_eq_some h4
  obtain ⟨b2, r6, hb2, h6, rfl⟩ := cat_eq_some h5
  obtain ⟨data, r7, hd, h7, rfl⟩ := cat_eq_some h6
  obtain ⟨mods, r8, hmo, h8, rfl⟩ := cat_eq_some h7
  obtain ⟨b3, r9, hb3, h9, rfl⟩ := cat_eq_some h8
  cases hb1; cases hb2; cases hb3; cases h9
  exact ⟨msg, title, cells, surfs, data, mods, hm, ht, hc, hs, hd, hmo, by simp [List.append_assoc]⟩

/-- **C15_order_terminator_last** — the last line written is the blank line that ends the data block:
    no card follows it. -/
theorem C15_order_terminator_last (p : Problem) (out : List String) (h : render p = some out) :
    ∃ body, out = body ++ [""] := by
  obtain ⟨msg, title, cells, surfs, data, mods, -, -, -, -, -, -, rfl⟩ := C15_order_closed_form p out h
  exact ⟨_, rfl⟩

example : render demo = some demoText := render_demo

/-! ## the obligations of DESIGN.md section 6, C15 -/

/-- **C15_guards** — the truth table of the guards: an existing file is not replaced without
    `overwrite=True` (FileExistsError), a directory is never written to (IsADirectoryError); in both cases
    nothing at all happens to the file system, whatever the problem, the fault plan and the buffering. -/
theorem C15_guards (p : Problem) (plan : Fault) (sched : Nat → Bool) :
    (∀ c, writeToFile p ⟨.file c, none⟩ false plan sched = (some .fileExists, ⟨.file c, none⟩)) ∧
    (∀ ow, writeToFile p ⟨.dir, none⟩ ow plan sched = (some .isADirectory, ⟨.dir, none⟩)) := by
  have h1 : "FileExistsError" ∈ MontePyVerif.Gen.WriteOrder.openGuards := .head _
  have h2 : "IsADirectoryError" ∈ MontePyVerif.Gen.WriteOrder.openGuards := .tail _ (.head _)
  constructor
  · intro c
    simp [writeToFile, writeToFileSeq, writeToFileWith, openW, h1]
  · intro ow
    simp [writeToFile, writeToFileSeq, writeToFileWith, openW, h2]

example : writeToFile demo ⟨.file ["the original"], none⟩ false .none = (some .fileExists, ⟨.file ["the original"], none⟩) :=
  (C15_guards demo .none noAutoFlush).1 _

/-- the statement of C15 at full strength: every problem, every prior state of the destination, either
    flag, every fault plan (a failing close after **any prefix** of the buffered text included), and
    every buffering policy of the handle -/
def C15_atomic_statement : Prop :=
  ∀ (p : Problem) (d : Dest) (ow : Bool) (plan : Fault) (sched : Nat → Bool),
    ((writeToFile p ⟨d, none⟩ ow plan sched).2.dest = d ∨
      ∃ out, render p = some out ∧ (writeToFile p ⟨d, none⟩ ow plan sched).2.dest = .file out) ∧
    ((writeToFile p ⟨d, none⟩ ow plan sched).1 = none →
      ∃ out, render p = some out ∧ (writeToFile p ⟨d, none⟩ ow plan sched).2.dest = .file out)

/-- **C15_atomic** — afterwards the destination is exactly what it was or the complete text of the
    problem; and a call that returns normally has left the complete text. -/
theorem C15_atomic : C15_atomic_statement := by
  intro p d ow plan sched
  have h := atomic_seq MontePyVerif.Gen.WriteOrder.sequence p d ow plan sched
  exact ⟨h.dest, h.ok⟩

/-- **C15_atomic_written** — the same for the writer as it is now (trailing blanks of every formatted
    line are dropped before it is written), over the four-operation file interface (write into the
    buffer, flush of any prefix, `os.replace`, remove): for every fault plan — in particular
    `Fault.close n c`, a close that fails after `n` lines and `c` characters of the buffer reached the
    file — and every buffering policy, no temporary is left and the destination is what it was or the
    complete text.  It holds because `exitW` closes *before* it renames. -/
theorem C15_atomic_written (p : Problem) (d : Dest) (ow : Bool) (plan : Fault) (sched : Nat → Bool) :
    (writeToFileNow p ⟨d, none⟩ ow plan sched).2.tmp = none ∧
    ((writeToFileNow p ⟨d, none⟩ ow plan sched).2.dest = d ∨
      ∃ ls, renderNow p = some ls ∧ (writeToFileNow p ⟨d, none⟩ ow plan sched).2.dest = .file ls) := by
  have h := atomic_seq MontePyVerif.Gen.WriteOrder.sequence p.strip d ow plan sched
  exact ⟨h.tmp, h.dest⟩

/-- **C15_no_temp_left** — on every path (normal return or any exception) no temporary file remains. -/
theorem C15_no_temp_left (p : Problem) (d : Dest) (ow : Bool) (plan : Fault) (sched : Nat → Bool) :
    (writeToFile p ⟨d, none⟩ ow plan sched).2.tmp = none :=
  (atomic_seq MontePyVerif.Gen.WriteOrder.sequence p d ow plan sched).tmp

/-- **C15_error_unchanged** — if the call raises (and the exception does not come from the warning
    report that follows the commit) the destination is exactly what it was. -/
theorem C15_error_unchanged (p : Problem) (d : Dest) (ow : Bool) (plan : Fault) (sched : Nat → Bool)
    (herr : (writeToFile p ⟨d, none⟩ ow plan sched).1 ≠ none) (hw : ∀ e, plan ≠ .warn e) :
    (writeToFile p ⟨d, none⟩ ow plan sched).2.dest = d :=
  (atomic_seq MontePyVerif.Gen.WriteOrder.sequence p d ow plan sched).err herr hw

/-- **C15_close_fault_unchanged** — a close that fails, after whatever prefix of the buffered text it
    flushed, makes the call raise and leaves the destination exactly as it was. -/
theorem C15_close_fault_unchanged (p : Problem) (d : Dest) (ow : Bool) (n c : Nat) (sched : Nat → Bool) :
    (writeToFile p ⟨d, none⟩ ow (.close n c) sched).1 ≠ none ∧
    (writeToFile p ⟨d, none⟩ ow (.close n c) sched).2.dest = d :=
  have h := atomic_seq MontePyVerif.Gen.WriteOrder.sequence p d ow (.close n c) sched
  have hne := h.close n c rfl
  ⟨hne, h.err hne nofun⟩

-- non-vacuity: an invalid new cell and an existing destination (the witness of the defect before the repair)
example : writeToFile demoInvalid ⟨.file ["the original"], none⟩ true .none
    = (some .illegalState, ⟨.file ["the original"], none⟩) := by decide +kernel
-- a full disk in the middle of the sixth line
example : writeToFile demo ⟨.file ["the original"], none⟩ true (.write 5 3)
    = (some .osError, ⟨.file ["the original"], none⟩) := by decide +kernel
-- a close that fails after 4 lines and 2 characters of the buffer reached the temporary
example : writeToFile demo ⟨.file ["the original"], none⟩ true (.close 4 2)
    = (some .osError, ⟨.file ["the original"], none⟩) :=
  outcome_seq _ demo _ true demoText _ (.close 4 2) trivial (.inr ⟨⟨_, rfl⟩, rfl⟩) render_demo
-- the same with a buffer that is written out after every third write call
example : writeToFile demo ⟨.file ["the original"], none⟩ true (.close 1 0) (fun k => k % 3 == 2)
    = (some .osError, ⟨.file ["the original"], none⟩) :=
  outcome_seq _ demo _ true demoText _ (.close 1 0) trivial (.inr ⟨⟨_, rfl⟩, rfl⟩) render_demo
-- a failure after the commit: the call raises, the destination is complete
example : writeToFile demo ⟨.file ["the original"], none⟩ true (.warn (.other "AttributeError"))
    = (some (.other "AttributeError"), ⟨.file demoText, none⟩) :=
  outcome_seq _ demo _ true demoText _ (.warn _) trivial (.inr ⟨⟨_, rfl⟩, rfl⟩) render_demo

/-- the statement of C15 for the order *rename first, close afterwards* (`exitWRenameFirst`) -/
def C15_atomic_rename_first_statement : Prop :=
  ∀ (p : Problem) (d : Dest) (ow : Bool) (plan : Fault) (sched : Nat → Bool),
    (writeToFileRenameFirst p ⟨d, none⟩ ow plan sched).2.dest = d ∨
      ∃ out, renderNow p = some out ∧ (writeToFileRenameFirst p ⟨d, none⟩ ow plan sched).2.dest = .file out

/-- **C15_atomic_rename_first_refuted** — renaming the temporary onto the destination *before* it is
    closed (the `os.fsync; os.replace; close` order without a flush) destroys the destination: the close
    flushes Python's buffer into the file that already has the destination's name, and when it fails
    the original is gone and a truncated file is left.  Witness: the demo problem over an existing file,
    close failing before anything was flushed — the destination is an empty file. -/
theorem C15_atomic_rename_first_refuted : ¬ C15_atomic_rename_first_statement := by
  intro h
  have h1 := h demo (.file ["the original"]) true (.close 0 0) noAutoFlush
  have hv : writeToFileRenameFirst demo ⟨.file ["the original"], none⟩ true (.close 0 0) noAutoFlush
      = (some .osError, ⟨.file [], none⟩) := by decide +kernel
  rw [hv] at h1
  rcases h1 with h1 | ⟨out, hr, h1⟩
  · cases h1
  · -- the complete text is never empty: it ends with the terminator
    cases h1
    obtain ⟨body, hb⟩ := C15_order_terminator_last _ _ hr
    cases body <;> cases hb

-- the refuted order with a failing close after 5 lines: a truncated problem where the original was
example : writeToFileRenameFirst demo ⟨.file ["the original"], none⟩ true (.close 5 0)
    = (some .osError, ⟨.file ["MESSAGE: outp=o", "", "demo", "1 0 -1", "2 0 1"], none⟩) := by decide +kernel

/-- **C15_complete_when_no_fault** — the writer does write: with no fault, a destination that passes
    the guards and a problem whose objects all format into lines the handle can encode, the call returns
    normally and the destination is the complete text (so `C15_atomic` is not satisfied by never committing). -/
theorem C15_complete_when_no_fault (p : Problem) (d : Dest) (ow : Bool) (out : List String) (sched : Nat → Bool)
    (hd : d = .absent ∨ (∃ c, d = .file c) ∧ ow = true) (h : render p = some out) :
    writeToFile p ⟨d, none⟩ ow .none sched = (none, ⟨.file out, none⟩) :=
  outcome_seq _ p d ow out sched .none trivial hd h

example : writeToFile demo ⟨.file ["the original"], none⟩ true .none = (none, ⟨.file demoText, none⟩) :=
  C15_complete_when_no_fault demo _ true demoText noAutoFlush (Or.inr ⟨⟨_, rfl⟩, rfl⟩) render_demo

/-! ## histories: any sequence of calls on the same path -/

structure Call where
  problem : Problem
  overwrite : Bool
  plan : Fault
  sched : Nat → Bool := noAutoFlush

/-- the user's script: one `write_to_file` after the other on the same path -/
def runHistory (fs : FS) : List Call → FS
  | [] => fs
  | c :: t => runHistory (writeToFile c.problem fs c.overwrite c.plan c.sched).2 t

/-- **C15_history** — after any history of calls (each with its own problem, flag, fault and buffering)
    the destination is what it was at the start or the complete text of one of the problems written,
    and no temporary file is left. -/
theorem C15_history (calls : List Call) (d : Dest) :
    (runHistory ⟨d, none⟩ calls).tmp = none ∧
    ((runHistory ⟨d, none⟩ calls).dest = d ∨
      ∃ c ∈ calls, ∃ out, render c.problem = some out ∧ (runHistory ⟨d, none⟩ calls).dest = .file out) := by
  induction calls generalizing d with
  | nil => exact ⟨rfl, .inl rfl⟩
  | cons c t ih =>
    have h := atomic_seq MontePyVerif.Gen.WriteOrder.sequence c.problem d c.overwrite c.plan c.sched
    rw [runHistory, writeToFile]
    generalize writeToFileSeq _ c.problem _ c.overwrite c.plan c.sched = r at h ⊢
    obtain ⟨e, d', tmp⟩ := r
    obtain rfl : tmp = none := h.tmp
    refine ⟨(ih d').1, ?_⟩
    rcases (ih d').2 with h2 | ⟨c', hc', hout⟩
    · rcases h.dest with hd | ⟨out, ho, hd⟩
      · exact .inl (h2.trans hd)
      · exact .inr ⟨c, List.mem_cons_self, out, ho, h2.trans hd⟩
    · exact .inr ⟨c', List.mem_cons_of_mem _ hc', hout⟩

example : (runHistory ⟨.absent, none⟩
    [⟨demo, false, .none, noAutoFlush⟩, ⟨demoInvalid, true, .none, noAutoFlush⟩, ⟨demo, false, .none, noAutoFlush⟩,
     ⟨demo, true, .write 2 1, noAutoFlush⟩, ⟨demo, true, .close 3 1, noAutoFlush⟩]).dest
    = .file demoText := by decide +kernel

/-! ## block order, judged by MCNP's own reading of the file (`Spec/Blocks.lean`) -/

theorem splitAtBlank_append (xs rest : List String) (h : xs.all (fun l => !isBlank l) = true) :
    splitAtBlank (xs ++ "" :: rest) = (xs, some rest) := by
  induction xs with
  | nil => simp [splitAtBlank, show isBlank "" = true by decide]
  | cons x t ih =>
    simp only [List.all_cons, Bool.and_eq_true, Bool.not_eq_eq_eq_not, Bool.not_true] at h
    simp only [List.cons_append, splitAtBlank, h.1, Bool.false_eq_true, ↓reduceIte]
    rw [ih (by simpa using h.2)]

theorem readBody_blocks (t : String) (cells surfs data rest : List String)
    (hc : cells.all (fun l => !isBlank l) = true) (hs : surfs.all (fun l => !isBlank l) = true)
    (hd : data.all (fun l => !isBlank l) = true) :
    readBody (t :: (cells ++ "" :: (surfs ++ "" :: (data ++ "" :: rest))))
      = ⟨[], some t, cells, surfs, data, 3, rest⟩ := by
  simp only [readBody, splitAtBlank_append _ _ hc, splitAtBlank_append _ _ hs, splitAtBlank_append _ _ hd]

theorem readBlocks_message (l : String) (m rest : List String) (hl : startsMessage l = true)
    (hm : (l :: m).all (fun l => !isBlank l) = true) :
    readBlocks (l :: m ++ "" :: rest) = { readBody rest with message := l :: m } := by
  rw [List.cons_append, readBlocks, if_pos hl, ← List.cons_append, splitAtBlank_append _ _ hm]

/-- every formatted card line is a non-blank line -/
def cardsOk (os : List Fmt) : Bool :=
  os.all fun o => match o with
    | .lines ls => ls.all (fun l => !isBlank l)
    | .raises _ => true

/-- the message block is `MESSAGE: …`, non-blank continuation lines and its blank delimiter -/
def messageOk (p : Problem) : Bool :=
  match p.message with
  | none => true
  | some (.lines (l :: t)) => startsMessage l && t.getLast? = some "" && (l :: t).dropLast.all (fun l => !isBlank l)
  | some _ => false

/-- the title is one line, and without a message block it does not announce one -/
def titleOk (p : Problem) : Bool :=
  match p.title with
  | .lines [t] => p.message.isSome || !startsMessage t
  | _ => false

/-- the named, decidable hypothesis of `C15_order_blocks`: what C10 (physical lines) guarantees about the
    formatted objects — no blank line inside a block, a one-line title, a well-formed message block -/
def LinesOk (p : Problem) : Bool :=
  messageOk p && titleOk p && cardsOk p.cells && cardsOk p.surfaces && cardsOk p.dataInputs && cardsOk p.modifiers

theorem linesOf_noBlank {os : List Fmt} {out : List String} (h : linesOf os = some out) (hok : cardsOk os = true) :
    out.all (fun l => !isBlank l) = true := by
  induction os generalizing out with
  | nil => simp only [linesOf, Option.some.injEq] at h; subst h; rfl
  | cons o t ih =>
    obtain ⟨ls, rest, ho, hr, rfl⟩ := cat_eq_some (linesOf_cons o t ▸ h)
    cases o <;> cases ho
    simp only [cardsOk, List.all_cons, Bool.and_eq_true] at hok
    rw [List.all_append, hok.1, ih hr hok.2]
    rfl

theorem titleOk_lines {p : Problem} (h : titleOk p = true) :
    ∃ t, p.title = .lines [t] ∧ (p.message.isSome || !startsMessage t) = true := by
  unfold titleOk at h
  split at h
  · exact ⟨_, ‹_›, h⟩
  · cases h

theorem messageOk_cases {p : Problem} (h : messageOk p = true) :
    p.message = none ∧ segLines p .message = some [] ∨
    ∃ l m, p.message.isSome = true ∧ segLines p .message = some (l :: m ++ [""]) ∧ startsMessage l = true ∧
      (l :: m).all (fun l => !isBlank l) = true := by
  unfold messageOk at h
  split at h
  · next hnone => exact .inl ⟨hnone, by simp [segLines, segObjects, hnone, linesOf]⟩
  · next l tl hsome =>
    simp only [Bool.and_eq_true, decide_eq_true_eq] at h
    obtain ⟨⟨hstart, hlast⟩, hnb⟩ := h
    cases tl with
    | nil => cases hlast
    | cons x tl =>
      have hne := List.cons_ne_nil x tl
      have hsplit := List.dropLast_concat_getLast hne
      rw [← Option.some.inj (hlast.symm.trans (List.getLast?_eq_some_getLast hne))] at hsplit
      exact .inr ⟨l, (x :: tl).dropLast, by rw [hsome]; rfl,
        by simp [segLines, segObjects, hsome, linesOf, hsplit], hstart, hnb⟩
  · cases h

/-- **C15_order_blocks** — MCNP's block reader applied to the complete text finds the title, exactly the
    cells' lines in the cell block, exactly the surfaces' lines in the surface block, the data inputs'
    lines *followed by the modifier cards' lines* in the data block, three blank-line delimiters, and
    nothing after the terminator. -/
theorem C15_order_blocks (p : Problem) (out : List String) (hok : LinesOk p = true) (h : render p = some out) :
    ∃ msg t cells surfs data mods,
      segLines p .message = some (if p.message.isSome then msg ++ [""] else []) ∧ p.title = .lines [t] ∧
      linesOf p.cells = some cells ∧ linesOf p.surfaces = some surfs ∧
      linesOf p.dataInputs = some data ∧ linesOf p.modifiers = some mods ∧
      readBlocks out = { message := msg, title := some t, cells := cells, surfaces := surfs,
                         data := data ++ mods, delimiters := 3, ignored := [] } := by
  obtain ⟨msg, title, cells, surfs, data, mods, hm, ht, hc, hs, hd, hmo, rfl⟩ := C15_order_closed_form p out h
  simp only [LinesOk, Bool.and_eq_true] at hok
  obtain ⟨⟨⟨⟨⟨hmsg, htitle⟩, hcells⟩, hsurfs⟩, hdata⟩, hmods⟩ := hok
  have nd : (data ++ mods).all (fun l => !isBlank l) = true := by
    rw [List.all_append, linesOf_noBlank hd hdata, linesOf_noBlank hmo hmods]; rfl
  obtain ⟨t, hpt, hstart⟩ := titleOk_lines htitle
  obtain rfl : [t] = title := by simpa [hpt, linesOf] using ht
  have hbody := readBody_blocks t cells surfs (data ++ mods) []
    (linesOf_noBlank hc hcells) (linesOf_noBlank hs hsurfs) nd
  simp only [List.append_assoc, List.cons_append, List.nil_append] at hbody ⊢
  rcases messageOk_cases hmsg with ⟨hnone, hseg⟩ | ⟨l, m, hsome, hseg, hl, hnb⟩ <;> cases hm.symm.trans hseg
  · simp only [hnone, Option.isSome_none, Bool.false_or, Bool.not_eq_eq_eq_not, Bool.not_true] at hstart
    refine ⟨[], t, cells, surfs, data, mods, by rw [hnone]; exact hseg, hpt, hc, hs, hd, hmo, ?_⟩
    rw [List.nil_append, readBlocks, if_neg (by simp [hstart]), hbody]
  · refine ⟨l :: m, t, cells, surfs, data, mods, by rw [hsome]; exact hseg, hpt, hc, hs, hd, hmo, ?_⟩
    rw [List.append_assoc, List.singleton_append]
    exact (readBlocks_message l m _ hl hnb).trans (by rw [hbody])

/-- **C15_order_nothing_lost** — corollary: MCNP ignores no card of a file written by `write_to_file`. -/
theorem C15_order_nothing_lost (p : Problem) (out : List String) (hok : LinesOk p = true) (h : render p = some out) :
    lostLines (readBlocks out) = [] ∧ (readBlocks out).delimiters = 3 := by
  obtain ⟨msg, t, cells, surfs, data, mods, -, -, -, -, -, -, hrb⟩ := C15_order_blocks p out hok h
  rw [hrb]; exact ⟨rfl, rfl⟩

-- non-vacuity: the demo problem satisfies the hypothesis, and MCNP finds the modifier card in the data block
example : LinesOk demo = true := by decide +kernel
example : (readBlocks demoText).data = ["mode n", "imp:n 1 0"] ∧ (readBlocks demoText).ignored = [] := by decide +kernel

/-- the order of the code before the repair (terminator first, modifier cards after it): refuted by the
    same Spec — kept as the witness of defect DESIGN 7.3 #7 -/
theorem C15_order_before_repair_refuted :
    ∃ out, complete demo [.message, .title, .cells, .blank, .surfaces, .blank, .dataInputs, .blank, .modifiers, .blank] = some out ∧
      lostLines (readBlocks out) = ["imp:n 1 0"] :=
  ⟨["MESSAGE: outp=o", "", "demo", "1 0 -1", "2 0 1", "     imp:n=0", "", "1 so 1", "", "mode n", "", "imp:n 1 0", ""],
   by decide +kernel⟩

end MontePyVerif.Write
