import MontePyVerif.Lemmas.LinksLoad
/-!
# C16 — forward links and reverse look-ups of the object graph always agree

Property (fixed text, properties.jsonl): after reading, and after any sequence of edits, a cell's surfaces
and complements contain every divider its geometry uses; surface.cells, material.cells, universe.cells and
cells_complementing_this yield exactly the cells whose forward links point at that object; every cell is in
exactly one universe; every object held by a problem's collections is linked to that problem.

Model: `Model/Links.lean` (the repaired code).  Where the code refutes the full statement there is a `_refuted`
theorem with a concrete witness history and a `_partial` theorem with an extra hypothesis
(`UnivOK`, `st.mlink m = true`).

The invariants and the relation `Step` under which they are stable are in `Lemmas/LinksStep.lean`: every operation
(`step_spec`) and every history (`run_spec`) is a `Step`; so is `load` into a problem whose members are linked
(`Lemmas/LinksLoad.lean`, `load_step`).  The step, history and load theorems here are their corollaries.
-/
namespace MontePyVerif.Links

/-! ## containment: `leaves (c.geometry) ⊆ c.surfaces ∪ c.complements` -/

/-- every modelled operation (geometry assignment, `&=`, `|=`, in-place `&=`/`|=` through an alias, divider / left /
    right replacement, material, universe, claim, fill, renumbering, collection insertion and removal, the materials /
    cells setters, `add_cell_children_to_problem`, `remove_duplicate_surfaces` without duplicates) keeps
    `leaves ⊆ surfaces ∪ complements` for every cell, *also when the edit raises*.  No side condition: since the
    identity repairs an equal copy of a surface is just another surface (it is registered, or the edit is refused). -/
theorem C16_contain_step (st : St) (op : Op) (h : InvContain st) : InvContain (step st op).1 :=
  (step_spec st op).2 h

/-- induction over edit histories: from any state that satisfies the invariant (the empty pool: `C16_contain_blank`;
    the cells of a file after `load`: `C16_load_contain`) every history of operations leads to a state that satisfies
    it. -/
theorem C16_contain (ops : List Op) : ∀ (st : St), InvContain st → InvContain (run st ops) :=
  fun st => (run_spec ops st).2

/-- the pool before anything is read or assigned satisfies the invariant -/
theorem C16_contain_blank (cnum snum mnum unum tnum : ObjId → Int)
    (strans : ObjId → Option ObjId) (other : Kind → ObjId → Bool) :
    InvContain (St.blank cnum snum mnum unum tnum strans other) :=
  fun _ _ hg => nomatch hg

/-! ### non-vacuity; an equal copy is registered or refused -/

def demoOps : List Op :=
  [.setGeometry 0 (.bin false (.leaf false 0 true none) (.leaf false 1 false none) none),
   .setDivider 0 [true] false 2]

/-- three surfaces; with `clones`, surface `2` has the number of surface `0` (an equal copy, or any other
    surface with that number: since the identity repairs there is no difference) -/
def demo (clones : Bool) : St :=
  St.blank (fun o => o + 1) (fun o => if clones && o == 2 then 1 else o + 1) (fun o => o + 1) (fun o => o)
    (fun o => o + 1) (fun _ => none)

theorem demo_inv (b : Bool) : InvContain (demo b) := C16_contain_blank _ _ _ _ _ _ _

/-- a non-trivial history (assignment, then replacement of a leaf's divider by a third surface) reaches a
    state where the containers really were extended -/
example : ((run (demo false) demoOps).cellOf 0).surfs = [0, 1, 2] := by decide

/-- the history of finding C16-F1a, which refuted the statement before the identity repairs: the copy with the taken
    number is *refused*, the geometry keeps its old divider -/
example : (step (step (demo true) demoOps[0]).1 demoOps[1]).2 = some .numberConflict ∧
    ((run (demo true) demoOps).cellOf 0).geom =
      some (.bin false (.leaf false 0 true (some 0)) (.leaf false 1 false (some 0)) (some 0)) := by decide

/-! ## reverse look-ups -/

/-- the shape of the four generators: nothing for an object that is not linked, else a filter of `problem.cells` -/
theorem mem_ite_filter {b : Bool} {p : ObjId → Bool} {l : List ObjId} {d : ObjId} :
    d ∈ (if b = true then l.filter p else []) ↔ b = true ∧ d ∈ l ∧ p d = true := by
  cases b <;> simp [List.mem_filter]

/-- `surface.cells` is exactly the filter the generator computes. -/
theorem C16_reverse_surface (st : St) (s d : ObjId) :
    d ∈ surfaceCells st s ↔ st.slink s = true ∧ d ∈ st.cells ∧ memS st s (st.cellOf d).surfs = true :=
  mem_ite_filter

/-- … stated against the forward links of the *geometry*:
    a cell of the problem whose geometry uses `s` is in `s.cells` (needs the containment invariant). -/
theorem C16_reverse_surface_geometry (st : St) (s d : ObjId) (g : HS) (h : InvContain st)
    (hl : st.slink s = true) (hd : d ∈ st.cells) (hg : (st.cellOf d).geom = some g) (hs : s ∈ g.surfs) :
    d ∈ surfaceCells st s :=
  (C16_reverse_surface st s d).mpr ⟨hl, hd, memS_iff.mpr ((h d g hg).2.1 s hs)⟩

theorem C16_reverse_surface_exact (st : St) (s d : ObjId) :
    d ∈ surfaceCells st s ↔ st.slink s = true ∧ d ∈ st.cells ∧ s ∈ (st.cellOf d).surfs := by
  rw [C16_reverse_surface, memS_iff]

/-- repaired code: `cell.material is self` -/
theorem C16_reverse_material (st : St) (m d : ObjId) :
    d ∈ materialCells st m ↔ st.mlink m = true ∧ d ∈ st.cells ∧ (st.cellOf d).mat = some m := by
  refine mem_ite_filter.trans ?_
  generalize (st.cellOf d).mat = o
  cases o <;> simp

/-- `==` on universes is identity -/
theorem C16_reverse_universe (st : St) (u d : ObjId) :
    d ∈ universeCells st u ↔ st.ulink u = true ∧ d ∈ st.cells ∧ (st.cellOf d).univ = some u := by
  refine mem_ite_filter.trans ?_
  rw [beq_iff_eq]

theorem C16_reverse_complement (st : St) (c d : ObjId) :
    d ∈ cellsComplementing st c ↔ (st.cellOf c).link = true ∧ d ∈ st.cells ∧ d ≠ c ∧ c ∈ (st.cellOf d).comps := by
  refine mem_ite_filter.trans ?_
  simp

theorem C16_reverse_complement_geometry (st : St) (c d : ObjId) (g : HS) (h : InvContain st)
    (hl : (st.cellOf c).link = true) (hd : d ∈ st.cells) (hne : d ≠ c)
    (hg : (st.cellOf d).geom = some g) (hc : c ∈ g.comps) : d ∈ cellsComplementing st c :=
  (C16_reverse_complement st c d).mpr ⟨hl, hd, hne, (h d g hg).2.2 c hc⟩

/-- history used by the refutation: a cell from scratch complements another cell from scratch and is then
    appended to the problem; the complemented cell never is -/
def orphanOps : List Op := [.setGeometry 1 (.compl (.leaf true 0 true none) none), .append .cell 1]

/-- "exactly the cells whose forward links point at that object" fails for a
    target that is not linked to the problem: the generators search through `self._problem`.  Since the repair
    fccf732 a material / universe / surface a linked cell points at always is linked; what is left is a
    *complemented cell* that is not itself part of the problem (known finding C16-F2a). -/
theorem C16_reverse_refuted :
    ¬ (∀ (st : St) (c d : ObjId), d ∈ st.cells → d ≠ c → c ∈ (st.cellOf d).comps → d ∈ cellsComplementing st c) := by
  intro hall
  have := hall (run (demo false) orphanOps) 0 1 (by decide) (by decide) (by decide)
  revert this
  decide

/-- the repaired setter: assigning a material to a cell that is linked to the problem links the material, so its
    reverse look-up yields the cell at once. -/
theorem C16_reverse_setMaterial (st : St) (c m : ObjId) (hl : (st.cellOf c).link = true) (hc : c ∈ st.cells) :
    c ∈ materialCells (setMaterial st c (some m)).1 m := by
  rw [C16_reverse_material]
  exact ⟨by simp [setMaterial, hl], hc, by simp [setMaterial]⟩

/-- for a linked material `material.cells` does yield every cell of the problem whose material it is. -/
theorem C16_reverse_partial (st : St) (m d : ObjId) (hl : st.mlink m = true) (hd : d ∈ st.cells)
    (hm : (st.cellOf d).mat = some m) : d ∈ materialCells st m :=
  (C16_reverse_material st m d).mpr ⟨hl, hd, hm⟩

example : ∃ (st : St) (m d : ObjId), st.mlink m = true ∧ d ∈ st.cells ∧ (st.cellOf d).mat = some m :=
  ⟨run (demo false) [.append .cell 0, .append .material 1, .setMaterial 0 (some 1)], 1, 0, by decide, by decide, by decide⟩

/-! ## universes -/

/-- a cell is in at most one universe's `.cells`. -/
theorem C16_universe_unique (st : St) (u u' d : ObjId) (h : d ∈ universeCells st u) (h' : d ∈ universeCells st u') :
    u = u' := by
  rw [C16_reverse_universe] at h h'
  exact Option.some.inj (h.2.2.symm.trans h'.2.2)

/-- every cell of the problem has a universe, and that universe is linked to the problem -/
def UnivOK (st : St) : Prop := ∀ d ∈ st.cells, ∃ u, (st.cellOf d).univ = some u ∧ st.ulink u = true

/-- under `UnivOK` the `.cells` of the universes partition the cells of the problem: every cell is in exactly one. -/
theorem C16_universe_partial (st : St) (h : UnivOK st) (d : ObjId) (hd : d ∈ st.cells) :
    ∃ u, d ∈ universeCells st u ∧ ∀ u', d ∈ universeCells st u' → u' = u := by
  obtain ⟨u, hu, hl⟩ := h d hd
  have hmem := (C16_reverse_universe st u d).mpr ⟨hl, hd, hu⟩
  exact ⟨u, hmem, fun u' h' => C16_universe_unique st u' u d h' hmem⟩

/-- `UnivOK` is not an invariant of the code: a `Cell()` appended to the problem
    has no universe (known finding C16-F3), and a universe that was never appended to `problem.universes`
    is not linked (known finding C16-F2b). -/
theorem C16_universe_refuted :
    ¬ (∀ (st : St) (ops : List Op), UnivOK st → UnivOK (run st ops)) := by
  intro hall
  have h := hall (demo false) [.append .cell 0] (fun _ hd => nomatch hd)
  obtain ⟨u, hu, _⟩ := h 0 (by decide)
  have hnone : ((run (demo false) [.append .cell 0]).cellOf 0).univ = none := by decide
  rw [hnone] at hu
  cases hu

/-- assigning a universe to a cell keeps `UnivOK` when the universe is linked or — repaired setter — the cell
    is (the universe is linked by the assignment): `claim` on the cells of a problem can no longer break it -/
theorem C16_universe_setUniverse (st : St) (c u : ObjId) (h : UnivOK st)
    (hl : st.ulink u = true ∨ (st.cellOf c).link = true) : UnivOK (setUniverse st c u).1 := by
  intro d hd
  obtain ⟨u', hu', hl'⟩ := h d hd
  have hraise : ∀ x, st.ulink x = true → (setUniverse st c u).1.ulink x = true := fun _ hx => ite_true_of hx
  refine upd_cases (k := c) (v := { st.cellOf c with univ := some u })
    (P := fun x (r : CellSt) => (∃ u', (st.cellOf x).univ = some u' ∧ st.ulink u' = true) →
      ∃ u', r.univ = some u' ∧ (setUniverse st c u).1.ulink u' = true)
    (fun _ => ⟨u, rfl, ?_⟩) (fun _ _ ⟨u', hu', hl'⟩ => ⟨u', hu', hraise u' hl'⟩) d ⟨u', hu', hl'⟩
  rcases hl with hl | hl
  · exact hraise u hl
  · exact if_pos (by rw [hl]; exact beq_self_eq_true u)

example : UnivOK (run (demo false) [.append .universe 3, .append .cell 0, .setUniverse 0 3]) := by
  intro d hd
  have hcells : (run (demo false) [.append .universe 3, .append .cell 0, .setUniverse 0 3]).cells = [0] := by decide
  have : d = 0 := by rw [hcells] at hd; simpa using hd
  rw [this]
  exact ⟨3, by decide, by decide⟩

/-! ## members of the problem's collections are linked to the problem -/

/-- every edit keeps "members are linked", also when it raises: collection insertion links the new member, the repaired
    `materials` setter and `add_cell_children_to_problem` link every member of the collections they install, nothing
    ever clears a `_problem` pointer. -/
theorem C16_linked_step (st : St) (op : Op) (h : InvLinked st) : InvLinked (step st op).1 :=
  h.edit (step_spec st op).1

/-- over every history of edits, from the empty problem (or any state in which the members are linked, e.g. the one
    `load` produces: `C16_init`). -/
theorem C16_linked (ops : List Op) : ∀ (st : St), InvLinked st → InvLinked (run st ops) :=
  fun st h => h.edit (run_spec ops st).1

theorem C16_linked_blank (cnum snum mnum unum tnum : ObjId → Int)
    (strans : ObjId → Option ObjId) (other : Kind → ObjId → Bool) :
    InvLinked (St.blank cnum snum mnum unum tnum strans other) := by
  intro k o ho
  cases k <;> cases ho

/-- non-vacuity: a history that inserts, rebuilds the collections and inserts again ends with linked members -/
example : (run (demo false) [.append .cell 0, .setGeometry 0 (.leaf false 1 true none), .addCellChildren,
    .append .surface 2]).surfaces = [1, 2] ∧
    (run (demo false) [.append .cell 0, .setGeometry 0 (.leaf false 1 true none), .addCellChildren,
    .append .surface 2]).slink 2 = true := by decide

/-! ## directly after reading -/

/-- after the model's `load` (every input appended to its collection, then `Cells.update_pointers`, then the universe
    and fill cards pushed to the cells), for every cell of the file the containers hold *exactly* the dividers of the
    geometry: `leaves (c.geometry) = c.surfaces ∪ c.complements` as sets of objects, and every node of the geometry
    points at the cell.  `UniqS st`: the problem read into has no two surfaces with one number (the blank pool: none at
    all); the proof does not need it (`load_exact`). -/
theorem C16_load (st : St) (pcs : List PCell) (nS nM nT : Nat) (nextU : ObjId) (hu : UniqS st)
    (h : (load st pcs nS nM nT nextU).1.2 = none) :
    ∀ c, c < pcs.length → Exact (load st pcs nS nM nT nextU).1.1 c :=
  load_exact st pcs nS nM nT nextU h

/-- the containment invariant holds for the cells of the file directly after reading -/
theorem C16_load_contain (st : St) (pcs : List PCell) (nS nM nT : Nat) (nextU : ObjId) (hu : UniqS st)
    (h : (load st pcs nS nM nT nextU).1.2 = none) (c : ObjId) (hc : c < pcs.length) :
    Contain (load st pcs nS nM nT nextU).1.1 c :=
  (load_exact st pcs nS nM nT nextU h c hc).contain

/-- non-vacuity: a two-cell file (`1 0 -1 2`, `2 0 #1 1 1`) loads, cell 1 shares a surface and complements cell 0 -/
def demoFile : List PCell :=
  [{ num := 1, mat := 0, geom := .bin false (.leaf false 1 false) (.leaf false 2 true), univ := none, fill := none },
   { num := 2, mat := 0, geom := .bin false (.compl (.leaf true 1 true)) (.bin false (.leaf false 1 true) (.leaf false 1 true)),
     univ := some 5, fill := none }]

example : (load (demo false) demoFile 2 0 0 0).1.2 = none ∧
    ((load (demo false) demoFile 2 0 0 0).1.1.cellOf 1).surfs = [0] ∧
    ((load (demo false) demoFile 2 0 0 0).1.1.cellOf 1).comps = [0] := by decide

example : UniqS (demo false) := List.nodup_nil

/-! ## after `add_cell_children_to_problem` -/

theorem setAdd_spec (acc : List ObjId) (o : ObjId) :
    o ∈ setAdd (fun x y => x == y) acc o ∧ ∀ x ∈ acc, x ∈ setAdd (fun x y => x == y) acc o := by
  unfold setAdd
  split
  · rename_i h
    obtain ⟨x, hx, he⟩ := List.any_eq_true.mp h
    exact ⟨beq_iff_eq.mp he ▸ hx, fun _ h => h⟩
  · exact ⟨List.mem_append_right _ (List.mem_singleton_self o), fun _ h => List.mem_append_left _ h⟩

theorem setAdd_fold_spec : ∀ (l acc : List ObjId),
    (∀ x ∈ acc, x ∈ l.foldl (setAdd (fun x y => x == y)) acc) ∧
    (∀ o ∈ l, o ∈ l.foldl (setAdd (fun x y => x == y)) acc) := by
  intro l
  induction l with
  | nil => intro acc; exact ⟨fun _ h => h, fun _ ho => nomatch ho⟩
  | cons a t ih =>
    intro acc
    obtain ⟨h1, h2⟩ := ih (setAdd (fun x y => x == y) acc a)
    obtain ⟨ha, hsub⟩ := setAdd_spec acc a
    exact ⟨fun x hx => h1 x (hsub x hx), fun o ho => (List.mem_cons.mp ho).elim (fun e => e ▸ h1 a ha) (h2 o)⟩

theorem collect_spec (items : ObjId → List ObjId) : ∀ (cells acc : List ObjId),
    (∀ x ∈ acc, x ∈ collect (fun x y => x == y) items cells acc) ∧
    (∀ c ∈ cells, ∀ o ∈ items c, o ∈ collect (fun x y => x == y) items cells acc) := by
  intro cells
  induction cells with
  | nil => intro acc; exact ⟨fun _ h => h, fun _ hc => nomatch hc⟩
  | cons a t ih =>
    intro acc
    obtain ⟨h1, h2⟩ := ih ((items a).foldl (setAdd (fun x y => x == y)) acc)
    obtain ⟨hf1, hf2⟩ := setAdd_fold_spec (items a) acc
    exact ⟨fun x hx => h1 x (hf1 x hx), fun c hc o ho => (List.mem_cons.mp hc).elim
      (fun e => h1 o (hf2 o (e ▸ ho))) (fun ht => h2 c ht o ho)⟩

/-- after a successful `add_cell_children_to_problem`, for every cell of the problem: every surface in `cell.surfaces`
    is a member of `problem.surfaces` (what `write_to_file` iterates for the surface block) and is linked; the
    transform of such a surface is a member of `problem.transforms`, is in `data_inputs` (what `write_to_file` iterates
    for the data block) and is linked; the cell's material is a member of `problem.materials`, is in `data_inputs` and
    is linked.  Object identity throughout, no side condition (repaired code: collected by identity; two objects with
    one number make the call raise, `C16_children_conflict`). -/
theorem C16_children (st : St) (hok : (addCellChildren st).2 = none) (c : ObjId) (hc : c ∈ st.cells) :
    c ∈ (addCellChildren st).1.cells ∧
    (∀ s ∈ ((addCellChildren st).1.cellOf c).surfs,
      s ∈ (addCellChildren st).1.surfaces ∧ (addCellChildren st).1.slink s = true ∧
      ∀ t, st.strans s = some t → t ∈ (addCellChildren st).1.transforms ∧ t ∈ (addCellChildren st).1.dataT ∧
        (addCellChildren st).1.tlink t = true) ∧
    (∀ m, ((addCellChildren st).1.cellOf c).mat = some m →
      m ∈ (addCellChildren st).1.materials ∧ m ∈ (addCellChildren st).1.dataM ∧
      (addCellChildren st).1.mlink m = true) := by
  unfold addCellChildren at hok ⊢
  dsimp only at hok ⊢
  split at hok
  · cases hok
  · rename_i hcond
    rw [if_neg hcond]
    refine ⟨hc, fun s hsm => ?_, fun m hmat => ?_⟩
    · have hx := (collect_spec (fun c => (st.cellOf c).surfs) st.cells st.surfaces).2 c hc s hsm
      refine ⟨(mem_sortByNum _ _ _).mpr hx, if_pos (List.contains_iff_mem.mpr hx), fun t ht => ?_⟩
      have hy := (collect_spec (fun c => (st.cellOf c).surfs.filterMap st.strans) st.cells st.transforms).2 c hc t
        (List.mem_filterMap.mpr ⟨s, hsm, ht⟩)
      exact ⟨(mem_sortByNum _ _ _).mpr hy, (setAdd_fold_spec _ st.dataT).2 t hy, if_pos (List.contains_iff_mem.mpr hy)⟩
    · have hx := (collect_spec (fun c => (st.cellOf c).mat.toList) st.cells st.materials).2 c hc m
        (hmat ▸ List.mem_singleton_self m)
      exact ⟨(mem_sortByNum _ _ _).mpr hx, (setAdd_fold_spec _ st.dataM).2 m hx, if_pos (List.contains_iff_mem.mpr hx)⟩

/-- … and against the forward links of the *geometry* (with the containment invariant): every surface the
    geometry of a cell of the problem uses is a member of `problem.surfaces` and linked afterwards. -/
theorem C16_children_geometry (st : St) (hok : (addCellChildren st).2 = none) (hi : InvContain st)
    (c : ObjId) (hc : c ∈ st.cells) (g : HS)
    (hg : (st.cellOf c).geom = some g) (s : ObjId) (hsg : s ∈ g.surfs) :
    s ∈ (addCellChildren st).1.surfaces ∧ (addCellChildren st).1.slink s = true := by
  have h := (C16_children st hok c hc).2.1 s (by
    rw [((addCellChildren_book st).same c).2.1]; exact (hi c g hg).2.1 s hsg)
  exact ⟨h.1, h.2.1⟩

theorem refused_unchanged {C : Prop} [Decidable C] {st st' : St} {e : Err}
    (h : (if C then (st, some e) else (st', none) : Res).2 ≠ none) :
    (if C then (st, some e) else (st', none) : Res).1 = st := by
  by_cases hC : C
  · rw [if_pos hC]
  · rw [if_neg hC] at h; exact absurd rfl h

/-- a refused rebuild (two different objects with one number) changes nothing -/
theorem C16_children_conflict (st : St) (h : (addCellChildren st).2 ≠ none) : (addCellChildren st).1 = st :=
  refused_unchanged h

/-- non-vacuity: a cell from scratch with a new surface and a new material; afterwards the surface is a member,
    the material is in `data_inputs`, and both are linked -/
example :
    let st := run (demo false) [.append .cell 0, .setGeometry 0 (.leaf false 1 true none), .setMaterial 0 (some 2)]
    (addCellChildren st).2 = none ∧ (addCellChildren st).1.surfaces = [1] ∧ (addCellChildren st).1.dataM = [2] ∧
    (addCellChildren st).1.slink 1 = true ∧ (addCellChildren st).1.mlink 2 = true := by decide

/-! ## the whole-history invariant -/

/-- every modelled operation preserves the invariant `Reach`, also when it raises. -/
theorem C16_step (st : St) (op : Op) (h : Reach st) : Reach (step st op).1 :=
  h.step (step_spec st op)

/-- induction over ALL histories of modelled operations, from any state that satisfies `Reach`: the empty pool
    (`C16_reach_blank`) and every state `load` produces (`C16_init`). -/
theorem C16_reachable (ops : List Op) : ∀ (st : St), Reach st → Reach (run st ops) :=
  fun st h => h.step (run_spec ops st)

theorem C16_reach_blank (cnum snum mnum unum tnum : ObjId → Int) (strans : ObjId → Option ObjId)
    (other : Kind → ObjId → Bool) : Reach (St.blank cnum snum mnum unum tnum strans other) :=
  ⟨C16_contain_blank _ _ _ _ _ _ _, C16_linked_blank _ _ _ _ _ _ _, fun _ hd => nomatch hd⟩

/-! ## `load` produces a state that satisfies the invariant -/

theorem appendAll_uniqS (k : Kind) (l : List ObjId) (st : St) (h : UniqS st) : UniqS (appendAll k l st).1 :=
  appendAll_induct k (fun st o => collAppend_uniq st k o) l st h

/-- every state that the model's `load` produces from the empty pool satisfies `Reach`: containment for every cell
    object (exactly, for the cells of the file: `C16_load`), every member of the five collections linked, and the
    surfaces, material and universe of every cell of the problem linked. -/
theorem C16_init (cnum snum mnum unum tnum : ObjId → Int) (strans : ObjId → Option ObjId)
    (other : Kind → ObjId → Bool) (pcs : List PCell) (nS nM nT : Nat) (nextU : ObjId)
    (h : (load (St.blank cnum snum mnum unum tnum strans other) pcs nS nM nT nextU).1.2 = none) :
    Reach (load (St.blank cnum snum mnum unum tnum strans other) pcs nS nM nT nextU).1.1 :=
  load_reach _ pcs nS nM nT nextU (C16_reach_blank cnum snum mnum unum tnum strans other) h

/-! ## what the invariant gives: the reverse look-ups are exact in every reachable state -/

theorem and_iff_of_imp {l m f : Prop} (h : m → f → l) : l ∧ m ∧ f ↔ m ∧ f :=
  ⟨And.right, fun ⟨hm, hf⟩ => ⟨h hm hf, hm, hf⟩⟩

/-- in a state that satisfies `Reach`, `surface.cells` is exactly the cells of the problem that hold the surface (no
    link hypothesis: a surface a problem cell holds is linked). -/
theorem C16_exact_surface (st : St) (h : Reach st) (s d : ObjId) :
    d ∈ surfaceCells st s ↔ d ∈ st.cells ∧ s ∈ (st.cellOf d).surfs :=
  (C16_reverse_surface_exact st s d).trans (and_iff_of_imp fun hd hs => (h.good d hd).2.1 s hs)

/-- … in particular every cell of the problem whose *geometry* uses `s` -/
theorem C16_exact_surface_geometry (st : St) (h : Reach st) (s d : ObjId) (g : HS) (hd : d ∈ st.cells)
    (hg : (st.cellOf d).geom = some g) (hs : s ∈ g.surfs) : d ∈ surfaceCells st s :=
  (C16_exact_surface st h s d).mpr ⟨hd, (h.contain d g hg).2.1 s hs⟩

theorem C16_exact_material (st : St) (h : Reach st) (m d : ObjId) :
    d ∈ materialCells st m ↔ d ∈ st.cells ∧ (st.cellOf d).mat = some m :=
  (C16_reverse_material st m d).trans (and_iff_of_imp fun hd hm => (h.good d hd).2.2.1 m hm)

theorem C16_exact_universe (st : St) (h : Reach st) (u d : ObjId) :
    d ∈ universeCells st u ↔ d ∈ st.cells ∧ (st.cellOf d).univ = some u :=
  (C16_reverse_universe st u d).trans (and_iff_of_imp fun hd hu => (h.good d hd).2.2.2 u hu)

/-- named exclusion (known finding C16-F2a): the complemented cell itself is linked to the problem — it is for
    every cell of the problem and for every cell a problem cell started to complement while it was in the problem -/
def CompLinked (st : St) (c : ObjId) : Prop := (st.cellOf c).link = true

theorem C16_exact_complement (st : St) (c d : ObjId) (hc : CompLinked st c) :
    d ∈ cellsComplementing st c ↔ d ∈ st.cells ∧ d ≠ c ∧ c ∈ (st.cellOf d).comps :=
  (C16_reverse_complement st c d).trans (and_iff_of_imp fun _ _ => hc)

theorem compLinked_of_member (st : St) (h : Reach st) (c : ObjId) (hc : c ∈ st.cells) : CompLinked st c :=
  h.linked .cell c hc

/-- named exclusion (known finding C16-F3): the cell has a universe (every cell that was read has; a `Cell()`
    made from scratch has none until one is assigned) -/
def HasUniverse (st : St) (d : ObjId) : Prop := ∃ u, (st.cellOf d).univ = some u

/-- every cell of the problem that has a universe is in exactly one universe's `.cells` (`C16_universe_partial` without
    `UnivOK`: the universe is linked by the invariant). -/
theorem C16_exact_partition (st : St) (h : Reach st) (d : ObjId) (hd : d ∈ st.cells) (hu : HasUniverse st d) :
    ∃ u, d ∈ universeCells st u ∧ ∀ u', d ∈ universeCells st u' → u' = u := by
  obtain ⟨u, hu⟩ := hu
  have hmem := (C16_exact_universe st h u d).mpr ⟨hd, hu⟩
  exact ⟨u, hmem, fun u' h' => C16_universe_unique st u' u d h' hmem⟩

/-- the property over inputs and histories: read any file (the model's `load` from the empty pool does not raise),
    apply any sequence of the modelled operations: the resulting state satisfies `Reach`, hence containment and the
    exact reverse look-ups above. -/
theorem C16_main (cnum snum mnum unum tnum : ObjId → Int) (strans : ObjId → Option ObjId)
    (other : Kind → ObjId → Bool) (pcs : List PCell) (nS nM nT : Nat) (nextU : ObjId) (ops : List Op)
    (h : (load (St.blank cnum snum mnum unum tnum strans other) pcs nS nM nT nextU).1.2 = none) :
    Reach (run (load (St.blank cnum snum mnum unum tnum strans other) pcs nS nM nT nextU).1.1 ops) :=
  C16_reachable ops _ (C16_init cnum snum mnum unum tnum strans other pcs nS nM nT nextU h)

/-- non-vacuity: the two-cell file loads; after an edit history both cells have a universe, cell 0 is linked and
    complemented by cell 1, and the reverse look-ups are non-empty -/
example :
    let st := run (load (demo false) demoFile 2 0 0 0).1.1
      [.setGeometry 0 (.bin true (.leaf false 2 true none) (.leaf false 0 false none) none), .setMaterial 1 (some 2)]
    (load (demo false) demoFile 2 0 0 0).1.2 = none ∧ st.cells = [0, 1] ∧
    (st.cellOf 0).univ = some 0 ∧ (st.cellOf 1).univ = some 1 ∧ (st.cellOf 0).link = true ∧
    surfaceCells st 2 = [0] ∧ surfaceCells st 0 = [0, 1] ∧ materialCells st 2 = [1] ∧
    universeCells st 1 = [1] ∧ cellsComplementing st 0 = [1] := by decide

/-! ## identity of the link target: entering a problem re-links -/

theorem linkOf_here {st : St} {k : Kind} {o : ObjId} (h : st.linked k o = true) : st.linkOf k o = some .here :=
  if_pos h

/-- in a state that satisfies the invariant the `_problem` of every member of the five collections is THIS problem —
    not merely "some problem": an object that came in linked to another problem (`other`: a deepcopy of a member, an
    object of a second problem) has been re-linked. -/
theorem C16_linked_here (st : St) (h : InvLinked st) (k : Kind) (o : ObjId) (ho : o ∈ st.members k) :
    st.linkOf k o = some .here :=
  linkOf_here (h k o ho)

theorem setLinked_members (st : St) (k k' : Kind) (o : ObjId) : (st.setLinked k o).members k' = st.members k' := by
  cases k <;> rfl

/-- the entry door `append`: whatever the new member was linked to before -/
theorem C16_relink_append (st : St) (k : Kind) (o : ObjId) (hok : (collAppend st k o).2 = none) :
    o ∈ (collAppend st k o).1.members k ∧ (collAppend st k o).1.linkOf k o = some .here := by
  unfold collAppend at hok ⊢
  split
  · rename_i hc; rw [if_pos hc] at hok; cases hok
  · refine ⟨?_, linkOf_here (setLinked_spec _ k o).2.1⟩
    rw [setLinked_members, setMembers_members, if_pos rfl]
    exact List.mem_append_right _ (List.mem_singleton_self o)

/-- the entry doors `extend` and `+=` -/
theorem C16_relink_extend (st : St) (k : Kind) (os : List ObjId) (hok : (collExtend st k os).2 = none)
    (o : ObjId) (ho : o ∈ os) :
    o ∈ (collExtend st k os).1.members k ∧ (collExtend st k os).1.linkOf k o = some .here := by
  unfold collExtend at hok ⊢
  split
  · refine ⟨?_, linkOf_here ((setLinkedFold_spec k os _).2 o ho).1⟩
    have hm : ∀ (l : List ObjId) (s : St), (l.foldl (fun s o => s.setLinked k o) s).members k = s.members k := by
      intro l
      induction l with
      | nil => intro s; rfl
      | cons a t ih => intro s; exact (ih _).trans (setLinked_members s k k a)
    rw [hm, setMembers_members, if_pos rfl]
    exact List.mem_append_right _ ho
  · rename_i hc; rw [if_neg hc] at hok; cases hok

/-- the entry door "assigned as the material of a cell of the problem" -/
theorem C16_relink_pointee (st : St) (c m : ObjId) (hl : (st.cellOf c).link = true) :
    (setMaterial st c (some m)).1.linkOf .material m = some .here :=
  linkOf_here (if_pos (by rw [hl]; exact beq_self_eq_true (some m)))

/-- non-vacuity: material `1` comes in linked to another problem; after `append` it is linked here -/
example :
    let st := St.blank (fun o => o + 1) (fun o => o + 1) (fun o => o + 1) (fun o => o) (fun o => o + 1) (fun _ => none)
      (fun k o => k == .material && o == 1)
    st.linkOf .material 1 = some .elsewhere ∧ (collAppend st .material 1).2 = none ∧
    (collAppend st .material 1).1.linkOf .material 1 = some .here := by decide

end MontePyVerif.Links
