import MontePyVerif.Model.FileWrite
import MontePyVerif.Props.SpecFile
/-!
# C01 (block structure): what the block-wise writer emits is read back by MCNP's rules as the same
cards, in the same blocks, in the same order — and nothing lands after a block terminator.

The model of `write_to_file`'s line order (`Model/FileWrite.lean`) against the independent reader
(`Spec/File.lean`), for every problem whose cards satisfy `CardOK` (what `format_for_mcnp_input` +
wrapping must deliver; C10 is about that).  Its clauses are the ways a written card can break the
block structure: a blank line inside a card, a first line that is a comment card or starts after
column 5, a continuation line that is neither indented nor a comment card nor preceded by `&`, a
last data line ending in `&` (it would swallow the next card).
-/
namespace MontePyVerif.FileWrite
open MontePyVerif.Spec.File

/-- the lines of a card after the first; `amp`: the data line before ended in `&` -/
def ContOK : Bool → List Str → Prop
  | amp, [] => amp = false
  | amp, l :: t => isBlankLine l = false ∧
      (if isCommentCard l = true then ContOK amp t
       else (amp = true ∨ isIndented l = true) ∧ ContOK (startCard l).2 t)

def CardOK (c : WCard) : Prop :=
  isBlankLine c.first = false ∧ isCommentCard c.first = false ∧ isIndented c.first = false ∧
    ContOK (startCard c.first).2 c.rest

def HeadOK (h : List Str) : Prop := ∀ l ∈ h, isBlankLine l = false ∧ isCommentCard l = true

/-- what MCNP's rules read in the lines of one card, taken by itself -/
def readCard (c : WCard) : Card := (c.rest.foldl contStep (startCard c.first)).1

theorem fold_cont (rest : List Str) : ∀ (r : RS) (k : Card) (amp : Bool), r.block < 3 → r.cur = some k →
    r.amp = amp → ContOK amp rest →
    rest.foldl stepLine r = { r with cur := some (rest.foldl contStep (k, amp)).1, amp := false } := by
  induction rest with
  | nil =>
    intro r k amp _ hc ha hok
    subst ha
    cases r
    simp_all [ContOK]
  | cons l t ih =>
    intro r k amp hb hc ha hok
    subst ha
    obtain ⟨hnb, hrest⟩ := hok
    have hcond : (isCommentCard l || r.amp || isIndented l) = true := by
      by_cases hcm : isCommentCard l = true
      · rw [hcm]; rfl
      · rw [if_neg hcm] at hrest
        rcases hrest.1 with h | h <;> simp [h]
    have hamp : ContOK (contStep (k, r.amp) l).2 t := by
      by_cases hcm : isCommentCard l = true
      · rw [if_pos hcm] at hrest; rw [contStep, if_pos hcm]; exact hrest
      · rw [if_neg hcm] at hrest; rw [contStep, if_neg hcm]; exact hrest.2
    rw [List.foldl_cons, stepLine_cont r l k hb hnb hc hcond, ih _ _ _ ?_ ?_ ?_ hamp, List.foldl_cons]
    · exact hb
    · rfl
    · rfl

theorem closeCur_spec (r : RS) (h : r.amp = false) :
    (closeCur r).cur = none ∧ (closeCur r).amp = false ∧ (closeCur r).block = r.block ∧
      (closeCur r).heads = r.heads := by
  unfold closeCur
  split
  · rename_i hc; exact ⟨hc, h, rfl, rfl⟩
  · exact ⟨rfl, rfl, rfl, rfl⟩

theorem fold_card (c : WCard) (r : RS) (hb : r.block < 3) (ha : r.amp = false) (hok : CardOK c) :
    c.lines.foldl stepLine r =
      { block := r.block, cur := some (readCard c), amp := false, done := (closeCur r).done, heads := r.heads } := by
  obtain ⟨hnb, hncm, hni, hcont⟩ := hok
  obtain ⟨-, -, cc3, cc4⟩ := closeCur_spec r ha
  rw [WCard.lines, List.foldl_cons, stepLine_start r c.first hb hnb hncm (Or.inr ⟨ha, hni⟩),
    fold_cont c.rest _ _ _ ?_ ?_ ?_ hcont, cc3, cc4]
  · rfl
  · exact cc3 ▸ hb
  · rfl
  · rfl

theorem fold_cards (cs : List WCard) : ∀ (r : RS), r.block < 3 → r.amp = false → (∀ c ∈ cs, CardOK c) →
    ((cs.map WCard.lines).flatten ++ [[]]).foldl stepLine r =
      { block := r.block + 1, cur := none, amp := false,
        done := (cs.map (fun c => (r.block, readCard c))).reverse ++ (closeCur r).done, heads := r.heads } := by
  induction cs with
  | nil =>
    intro r hb ha _
    obtain ⟨cc1, cc2, cc3, cc4⟩ := closeCur_spec r ha
    rw [List.map_nil, List.flatten_nil, List.nil_append, List.foldl_cons, List.foldl_nil,
      stepLine_blank r [] hb rfl, cc3, ← cc1, ← cc2, ← cc4]
    rfl
  | cons c t ih =>
    intro r hb ha hok
    rw [List.map_cons, List.flatten_cons, List.append_assoc, List.foldl_append,
      fold_card c r hb ha (hok c List.mem_cons_self), ih _ ?_ ?_ fun x hx => hok x (List.mem_cons_of_mem _ hx)]
    · simp [closeCur]
    · exact hb
    · rfl

theorem fold_head (h : List Str) : ∀ (r : RS), r.block < 3 → r.cur = none → HeadOK h →
    h.foldl stepLine r = { r with heads := (h.map (fun l => (r.block, commentText l))).reverse ++ r.heads } := by
  induction h with
  | nil => intro r _ _ _; simp
  | cons l t ih =>
    intro r hb hc hok
    have hl := hok l List.mem_cons_self
    rw [List.foldl_cons, stepLine_head r l hb hl.1 hc hl.2, ih _ ?_ ?_ fun x hx => hok x (List.mem_cons_of_mem _ hx)]
    · simp
    · exact hb
    · exact hc

theorem fold_block (h : List Str) (cs : List WCard) (r : RS) (hb : r.block < 3) (hc : r.cur = none)
    (ha : r.amp = false) (hh : HeadOK h) (hok : ∀ c ∈ cs, CardOK c) :
    (writeBlock h cs).foldl stepLine r =
      { block := r.block + 1, cur := none, amp := false,
        done := (cs.map (fun c => (r.block, readCard c))).reverse ++ r.done,
        heads := (h.map (fun l => (r.block, commentText l))).reverse ++ r.heads } := by
  rw [writeBlock, List.append_assoc, List.foldl_append, fold_head h r hb hc hh, fold_cards cs _ ?_ ?_ hok]
  · simp [closeCur, hc]
  · exact hb
  · exact ha

/-! ### the Boolean checkers used by the driver decide the predicates -/

theorem contOKb_iff (rest : List Str) : ∀ amp, contOKb amp rest = true ↔ ContOK amp rest := by
  induction rest with
  | nil => intro amp; cases amp <;> simp [contOKb, ContOK]
  | cons l t ih =>
    intro amp
    simp only [contOKb, ContOK, Bool.and_eq_true, Bool.not_eq_true']
    by_cases hc : isCommentCard l = true
    · simp [hc, ih]
    · simp [hc, ih]

theorem cardOKb_iff (c : WCard) : cardOKb c = true ↔ CardOK c := by
  simp [cardOKb, CardOK, contOKb_iff, and_assoc]

theorem headOKb_iff (h : List Str) : headOKb h = true ↔ HeadOK h := by
  simp [headOKb, HeadOK]

/-! ### the whole file -/

theorem splitMessage_append (ms rest : List Str) (h : ∀ l ∈ ms, isBlankLine l = false) :
    splitMessage (ms ++ [] :: rest) = (ms, rest) := by
  induction ms with
  | nil => simp [splitMessage, isBlankLine]
  | cons m t ih =>
    have hm := h m List.mem_cons_self
    simp only [List.cons_append, splitMessage, hm, Bool.false_eq_true, if_false]
    rw [ih (fun l hl => h l (List.mem_cons_of_mem _ hl))]

theorem tagged_map_same (k : Nat) (f : β → α) (l : List β) :
    tagged k (l.map (fun c => (k, f c))) = l.map f := by
  induction l with
  | nil => rfl
  | cons a t ih =>
    simp only [tagged] at ih ⊢
    simp [ih]

theorem tagged_map_other (k j : Nat) (hkj : j ≠ k) (f : β → α) (l : List β) :
    tagged k (l.map (fun c => (j, f c))) = [] := by
  induction l with
  | nil => rfl
  | cons a t ih =>
    simp only [tagged] at ih ⊢
    simp [hkj, ih]

theorem tagged_append (k : Nat) (a b : List (Nat × α)) : tagged k (a ++ b) = tagged k a ++ tagged k b := by
  simp [tagged]

structure WProblem.OK (limit : Nat) (p : WProblem) : Prop where
  /-- every written line is a physical line as is: no CR/LF/tab inside, within the column limit -/
  phys : ∀ l ∈ writeLines p, physical limit l = l
  msgStart : ∀ m t, p.message = m :: t → startsWithMessage m = true
  msgNoBlank : ∀ l ∈ p.message, isBlankLine l = false
  /-- without a message block the title must not look like one -/
  noMsg : p.message = [] → startsWithMessage p.title = false
  cellsHead : HeadOK p.cellsHead
  surfHead : HeadOK p.surfHead
  dataHead : HeadOK p.dataHead
  cells : ∀ c ∈ p.cells, CardOK c
  surfaces : ∀ c ∈ p.surfaces, CardOK c
  data : ∀ c ∈ p.data, CardOK c

theorem tagged_blocks (f : β → α) (a b c : List β) (l : List (Nat × α))
    (hl : l = (c.map (fun x => (2, f x))).reverse ++ ((b.map (fun x => (1, f x))).reverse ++
      ((a.map (fun x => (0, f x))).reverse ++ []))) :
    tagged 0 l.reverse = a.map f ∧ tagged 1 l.reverse = b.map f ∧ tagged 2 l.reverse = c.map f := by
  subst hl
  simp only [List.reverse_append, List.reverse_reverse, List.reverse_nil, List.nil_append, tagged_append]
  refine ⟨?_, ?_, ?_⟩ <;> simp [tagged_map_same, tagged_map_other]

theorem readBody_blocks (p : WProblem) (limit : Nat) (h : p.OK limit) (extra : List Str) :
    readBody (writeBlock p.cellsHead p.cells ++ writeBlock p.surfHead p.surfaces ++ writeBlock p.dataHead p.data ++
        extra) =
      { block := 3, cur := none, amp := false,
        done := (p.data.map (fun c => (2, readCard c))).reverse ++
          ((p.surfaces.map (fun c => (1, readCard c))).reverse ++
            ((p.cells.map (fun c => (0, readCard c))).reverse ++ [])),
        heads := (p.dataHead.map (fun l => (2, commentText l))).reverse ++
          ((p.surfHead.map (fun l => (1, commentText l))).reverse ++
            ((p.cellsHead.map (fun l => (0, commentText l))).reverse ++ [])) } := by
  rw [readBody, List.foldl_append, List.foldl_append, List.foldl_append,
    fold_block p.cellsHead p.cells rs0 (by decide) rfl rfl h.cellsHead h.cells,
    fold_block p.surfHead p.surfaces _ ?_ ?_ ?_ h.surfHead h.surfaces,
    fold_block p.dataHead p.data _ ?_ ?_ ?_ h.dataHead h.data,
    after_terminator_ignored _ extra (Nat.le_refl 3)]
  · rfl
  · exact (by decide : 2 < 3)
  · rfl
  · rfl
  · exact (by decide : 1 < 3)
  · rfl
  · rfl

theorem splitFront_writeLines (p : WProblem) (limit : Nat) (h : p.OK limit) (extra : List Str) :
    splitFront (writeLines p ++ extra) =
      (p.message, p.title,
        writeBlock p.cellsHead p.cells ++ writeBlock p.surfHead p.surfaces ++ writeBlock p.dataHead p.data ++ extra) := by
  unfold writeLines splitFront
  cases hm : p.message with
  | nil => simp [h.noMsg hm]
  | cons m t =>
    have hs := h.msgStart m t hm
    have hnb : ∀ l ∈ m :: t, isBlankLine l = false := fun l hl => h.msgNoBlank l (hm ▸ hl)
    have hsplit := splitMessage_append (m :: t)
      (p.title :: ((writeBlock p.cellsHead p.cells ++ writeBlock p.surfHead p.surfaces ++ writeBlock p.dataHead p.data) ++ extra)) hnb
    simp only [List.isEmpty_cons, Bool.false_eq_true, if_false, List.cons_append, List.append_assoc,
      List.nil_append, hs, if_true] at hsplit ⊢
    rw [hsplit]

/-- **C01_blocks_general** — for every well-formed problem, MCNP's rules read in the written lines
    exactly the message, the title and the cards that were written, each card in the block it was
    written in, in order: no card is lost, fused with its neighbour or split — and whatever lines
    `extra` (each unchanged by `physical limit`) follow the blank line that terminates the data block are **not read at all**. -/
theorem C01_blocks_general (limit : Nat) (p : WProblem) (extra : List Str) (h : p.OK limit)
    (hx : ∀ l ∈ extra, physical limit l = l) :
    (blocks limit (writeLines p ++ extra)).message = p.message.map rstrip ∧
    (blocks limit (writeLines p ++ extra)).title = rstrip p.title ∧
    (blocks limit (writeLines p ++ extra)).cells = p.cells.map readCard ∧
    (blocks limit (writeLines p ++ extra)).surfaces = p.surfaces.map readCard ∧
    (blocks limit (writeLines p ++ extra)).data = p.data.map readCard ∧
    (blocks limit (writeLines p ++ extra)).head = p.cellsHead.map commentText ∧
    (blocks limit (writeLines p ++ extra)).surfHead = p.surfHead.map commentText ∧
    (blocks limit (writeLines p ++ extra)).dataHead = p.dataHead.map commentText := by
  have hphys : (writeLines p ++ extra).map (physical limit) = writeLines p ++ extra := by
    conv => rhs; rw [← List.map_id (writeLines p ++ extra)]
    exact List.map_congr_left fun l hl => (List.mem_append.mp hl).elim (h.phys l) (hx l)
  obtain ⟨c0, c1, c2⟩ := tagged_blocks readCard p.cells p.surfaces p.data _ rfl
  obtain ⟨h0, h1, h2⟩ := tagged_blocks commentText p.cellsHead p.surfHead p.dataHead _ rfl
  rw [blocks, hphys, splitFront_writeLines p limit h extra]
  dsimp only
  rw [readBody_blocks p limit h extra]
  exact ⟨rfl, rfl, c0, c1, c2, h0, h1, h2⟩

/-- **C01_blocks** — the same without trailing lines. -/
theorem C01_blocks (limit : Nat) (p : WProblem) (h : p.OK limit) :
    (blocks limit (writeLines p)).message = p.message.map rstrip ∧
    (blocks limit (writeLines p)).title = rstrip p.title ∧
    (blocks limit (writeLines p)).cells = p.cells.map readCard ∧
    (blocks limit (writeLines p)).surfaces = p.surfaces.map readCard ∧
    (blocks limit (writeLines p)).data = p.data.map readCard ∧
    (blocks limit (writeLines p)).head = p.cellsHead.map commentText ∧
    (blocks limit (writeLines p)).surfHead = p.surfHead.map commentText ∧
    (blocks limit (writeLines p)).dataHead = p.dataHead.map commentText := by
  have := C01_blocks_general limit p [] h (by intro l hl; cases hl)
  simpa using this

/-- **C01_write_file** — the same, less the three comment heads, for `write_to_file` itself, which drops the trailing blanks of
    every line the objects format to: the hypothesis is about the lines as they reach the file. -/
theorem C01_write_file (limit : Nat) (p : WProblem) (h : p.strip.OK limit) :
    (blocks limit (writeFile p)).cells = p.strip.cells.map readCard ∧
    (blocks limit (writeFile p)).surfaces = p.strip.surfaces.map readCard ∧
    (blocks limit (writeFile p)).data = p.strip.data.map readCard ∧
    (blocks limit (writeFile p)).title = rstrip p.strip.title ∧
    (blocks limit (writeFile p)).message = p.strip.message.map rstrip := by
  obtain ⟨hmessage, htitle, hcells, hsurfaces, hdata, -⟩ := C01_blocks limit p.strip h
  exact ⟨hcells, hsurfaces, hdata, htitle, hmessage⟩

/-! ### Non-vacuity: a concrete non-trivial problem satisfies `WProblem.OK` -/

def exProblem : WProblem :=
  { message := ["message: outp=x".toList], title := "a title".toList,
    cellsHead := ["c cells".toList],
    cells := [⟨"1 0 -1 &".toList, ["c inside".toList, "2 imp:n=1 $ note".toList]⟩, ⟨"2 0 1".toList, ["     imp:n=0".toList, "c trailing".toList]⟩],
    surfHead := [], surfaces := [⟨"1 so 5".toList, []⟩],
    dataHead := [], data := [⟨"mode n".toList, []⟩, ⟨"imp:n 1 0".toList, []⟩] }

example : exProblem.OK 128 :=
  -- one evaluation for all fields, on character lists: the kernel is slow at decoding string literals
  have h : (∀ l ∈ writeLines exProblem, physical 128 l = l) ∧
      (∀ l ∈ exProblem.message, startsWithMessage l = true ∧ isBlankLine l = false) ∧
      headOKb exProblem.cellsHead = true ∧ (∀ c ∈ exProblem.cells, cardOKb c = true) ∧
      (∀ c ∈ exProblem.surfaces, cardOKb c = true) ∧ (∀ c ∈ exProblem.data, cardOKb c = true) := by
    unfold exProblem
    repeat rw [String.toList_ofList]
    decide +kernel
  { phys := h.1
    msgStart := fun m t hm => (h.2.1 m (hm ▸ List.mem_cons_self)).1
    msgNoBlank := fun l hl => (h.2.1 l hl).2
    noMsg := fun hm => by cases hm
    cellsHead := (headOKb_iff _).mp h.2.2.1
    surfHead := nofun
    dataHead := nofun
    cells := fun c hc => (cardOKb_iff c).mp (h.2.2.2.1 c hc)
    surfaces := fun c hc => (cardOKb_iff c).mp (h.2.2.2.2.1 c hc)
    data := fun c hc => (cardOKb_iff c).mp (h.2.2.2.2.2 c hc) }

/-- what MCNP reads in the first card of the example: both data lines joined, both comments kept apart -/
example : readCard ⟨"1 0 -1 &".toList, ["c inside".toList, "2 imp:n=1 $ note".toList]⟩ =
    ⟨"1 0 -1  2 imp:n=1 ".toList, ["note".toList], ["inside".toList]⟩ := by
  have : ∀ a b : Card, a.text = b.text ∧ a.dollar = b.dollar ∧ a.ccomments = b.ccomments → a = b := by
    intro a b h; cases a; cases b; simp_all
  repeat rw [String.toList_ofList]
  exact this _ _ (by decide +kernel)

end MontePyVerif.FileWrite
