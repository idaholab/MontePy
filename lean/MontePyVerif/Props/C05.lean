import MontePyVerif.Lemmas.Pick
import MontePyVerif.Lemmas.Text
import MontePyVerif.Lemmas.ReadBack
import MontePyVerif.Lemmas.TransformWrite
import MontePyVerif.Lemmas.ValueFormat
/-!
# C05 — numbers set through the API are written without loss

Model: `Model/ValueFormat.lean` (the repaired `ValueNode.format`, `fortran_float`, CPython's `format` on exact
rationals).  Spec: `Spec/Number.lean` (how MCNP reads a number, the tolerance).

A formatted number is a `Dec` (sign, digits, digits after the point, exponent) that is then laid out as text; the
arithmetic theorems are proved on the `Dec` level.  Every layout (`renderPy`, `renderSci`: sign style, zero fill, point,
divider or none, exponent padding) is a well-formed `Spelling` of exactly `Dec.value` between blanks
(`Lemmas/ReadBack.lean`), and the Spec and the model's `fortranFloat` read every such spelling — the `Real` rule of
DESIGN.md §5.2 included — as the same number (`Lemmas/Readers.lean`).  So `C05_float_full`, `C05_end_to_end`,
`C05_end_to_end_new`, `C05_changed_float_signed` and `C05_default_node` carry no hypothesis about any reader.  The only
named assumption is `ReprExact` (CPython's `repr`), used by `C05_default_node`.
-/
namespace MontePyVerif.C05
open MontePyVerif.ValueFormat

/-! ## rounding error of CPython's `format` -/

/-- `.{p}f`: absolute error at most half a unit of the p-th decimal; `.{p}e` and `.{p}g`: relative error at most
    half a unit of the last significant digit (`p + 1` digits for `e`, `max p 1` for `g`) -/
theorem C05_pyformat_error (x : Num) (hx : 0 ≤ x.mag) (p : Nat) :
    |(decF x p).value - x.toRat| ≤ 1 / 2 * (10 : ℚ) ^ (-(p : Int)) ∧
    |(decE x p).value - x.toRat| ≤ 1 / 2 * (10 : ℚ) ^ (-(p : Int)) * x.mag ∧
    |(decG x p).value - x.toRat| ≤ 1 / 2 * (10 : ℚ) ^ (-(((if p = 0 then 1 else p) - 1 : Nat) : Int)) * x.mag :=
  ⟨C05_pyformat_error_f x hx p, C05_pyformat_error_e x hx p, C05_pyformat_error_g x hx p⟩

example : (0 : ℚ) ≤ (⟨false, 11 / 4, false⟩ : Num).mag := by norm_num

/-! ## floats -/

/-- the candidate `_format_float` returns either passed the read-back check, which by `fortran_reads_candidate` read
    exactly the value of its `Dec`, or is the last one, with 17 significant digits -/
theorem formatFloat_chosen (n : Node) (x : Num) (hx : 0 ≤ x.mag) :
    ∃ sp ∈ floatStyles n, formatFloat n x = formatFloatAs n.fmt x sp ∧ Spec.isClose (decOf x sp).value x.toRat := by
  obtain ⟨hne, hlast⟩ := floatStyles_last n
  have hne' : (floatStyles n).map (formatFloatAs n.fmt x) ≠ [] := fun h => hne (List.map_eq_nil_iff.mp h)
  unfold formatFloat
  obtain ⟨hmem, h | h⟩ := pickFirst_spec x _ hne'
  · obtain ⟨sp, hsp, heq⟩ := List.mem_map.mp hmem
    refine ⟨sp, hsp, heq.symm, spec_of_model_isClose _ _ ?_⟩
    rwa [← heq, readsBack, fortran_reads_candidate] at h
  · exact ⟨(floatStyles n).getLast hne, List.getLast_mem hne, by rw [h, List.getLast_map], enough_close x hx _ hlast⟩

/-- **C05_float** (on the structured level).  Whatever the node (token spelling, padding, reverse-engineered
    formatter, history) and whatever the new value, the text `_format_float` returns is one of the candidate
    renderings, and either it passed the read-back check (`fortran_float` of it is within the tolerance of the
    value) or it is the rendering of a `Dec` whose value is within the tolerance (the 17-digit fallback). -/
theorem C05_float (n : Node) (x : Num) (hx : 0 ≤ x.mag) :
    ∃ sp ∈ floatStyles n, formatFloat n x = formatFloatAs n.fmt x sp ∧
      ((∃ y, fortranFloat (formatFloat n x) = some y ∧ Spec.isClose y x.toRat) ∨
        Spec.isClose (decOf x sp).value x.toRat) := by
  obtain ⟨sp, hsp, heq, hc⟩ := formatFloat_chosen n x hx
  exact ⟨sp, hsp, heq, Or.inr hc⟩

/-- **C05_default_node_spelling** (tie to the source, re-checked against the regenerated constant on every run):
    a node made from a value at write time, with no token at all (`MCNP_Object._generate_default_node(float, v)`:
    `Transform._update_values` makes one for every rotation entry the TR input did not hold), is given Python's
    `str(v)` as its token, or the value itself when that is `None`/a jump. `str` of a float is `repr`, the shortest
    decimal that reads back as exactly `v` (CPython `float_repr_style = 'short'`, David Gay's algorithm: trusted, not
    modelled; sampled by unit U-repr of the check). Any other spelling (a `%g`/`:g` format keeps 6 digits) re-opens
    this obligation. -/
theorem C05_default_node_spelling : Gen.defaultNodeSpellings = ["default", "str(default)"] := by decide

/-- a node created from scratch: `ValueNode(None, float)` -/
def newNode : Node :=
  { token := .none, ty := .float, padding := none, neverPad := false, value := none, ogValue := none,
    isNegId := false, isNegVal := false, isNeg := none, fmt := floatDefaults, isReversed := false }

example : mkNode .none .float none = some newNode := rfl
example : floatStyles newNode ≠ [] := by decide

/-- **C05_new_node**: an object created from scratch (no token) is never reverse engineered and is written in
    Python's general format, starting from the default precision; `C05_float` applies to it as to any node. -/
theorem C05_new_node (n : Node) (h : n.token = .none) (hr : n.isReversed = false) :
    reverseEngineerFormatting n = n ∧ ∀ sp ∈ floatStyles n, sp.1 = FStyle.g ∧ n.fmt.precision ≤ sp.2 := by
  constructor
  · unfold reverseEngineerFormatting; simp [h, hr]
  · intro sp hsp
    unfold floatStyles at hsp
    simp only [hr, Bool.not_false, if_true, List.mem_map] at hsp
    obtain ⟨q, hq, rfl⟩ := hsp
    refine ⟨rfl, ?_⟩
    unfold pyRange at hq
    have := List.mem_range'_1.mp hq
    exact this.1

/-! ## integers -/

/-- **C05_int** (value level): an integer is written as the `Dec` with no fraction and no exponent whose value
    is exactly that integer, for every sign style and zero padding -/
theorem C05_int_value (k : Int) : (⟨decide (k < 0), k.natAbs, 0, none⟩ : Dec).value = (k : ℚ) := by
  rw [Dec.value_eq]
  show sgnQ (decide (k < 0)) * (((k.natAbs : ℕ) : ℚ) * (10 : ℚ) ^ ((0 : ℤ) - ((0 : ℕ) : ℤ))) = (k : ℚ)
  rw [Nat.cast_zero, sub_zero, zpow_zero, mul_one, sgnQ_mul, ← Int.cast_natCast]
  by_cases hk : k < 0
  · rw [if_pos (decide_eq_true hk), Int.ofNat_natAbs_of_nonpos (Int.le_of_lt hk), Int.cast_neg, neg_neg]
  · rw [if_neg (fun h => hk (of_decide_eq_true h)), Int.natAbs_of_nonneg (Int.not_lt.mp hk)]

/-- an int-typed node writes `int(value)` with `d`: no rounding, no precision -/
theorem C05_int_branch (n : Node) (x : Num) (h : n.ty = .int) :
    formatTemp n x = renderPy n.fmt.sign n.fmt.zeroPadding ⟨decide (x.trunc < 0), x.trunc.natAbs, 0, none⟩ := by
  unfold formatTemp fmtD; simp [h]

/-- `int(x)` of an integer is that integer -/
theorem C05_trunc_ofInt (k : Int) : (Num.ofInt k).trunc = k := by
  unfold Num.trunc Num.ofInt
  simp only [Rat.num_natCast, Rat.den_natCast, Nat.cast_one, Int.ediv_one]
  by_cases hk : k < 0
  · rw [if_pos (decide_eq_true hk)]; omega
  · rw [if_neg (fun h => hk (of_decide_eq_true h))]; omega

/-! ## unchanged values -/

/-- **C05_unchanged**: a value that was not changed is written as its token followed by its padding, verbatim -/
theorem C05_unchanged (n : Node) (h : valueChanged n = false) :
    (format n).2 = n.token.text ++ (match n.padding with | some p => padFormat p | none => []) ∧ (format n).1 = n := by
  rw [format_unchanged n h]; exact ⟨rfl, rfl⟩

example : ∃ n, mkNode .jump .float (some [.spaces 2]) = some n ∧ valueChanged n = false := ⟨_, rfl, rfl⟩

/-- what `format` writes for a changed value: the number, left-justified in the token's width, then the padding -/
theorem C05_format_changed (n : Node) (h : valueChanged n = true) (x : Num)
    (hx : printValue (reverseEngineerFormatting n) = some x) (hv : n.value.isSome = true) :
    (format n).2 =
      ljust (formatTemp (reverseEngineerFormatting n) x) (reverseEngineerFormatting n).fmt.valueLength
        ++ (padStrings (reverseEngineerFormatting n) (formatTemp (reverseEngineerFormatting n) x).length).1
        ++ (padStrings (reverseEngineerFormatting n) (formatTemp (reverseEngineerFormatting n) x).length).2 :=
  format_changed n h x hx hv

/-! ## no fusion with the next word -/

/-- a padding whose first item separates words: blanks (at least one; a following run of blanks is not empty
    either), a line break, or a `$` comment -/
inductive PadOK : List PadItem → Prop
  | spaces (k : Nat) (rest : List PadItem) : 1 ≤ k → (∀ j r, rest = .spaces j :: r → 1 ≤ j) → PadOK (.spaces k :: rest)
  | newline (rest : List PadItem) : PadOK (.newline :: rest)
  | comment (c : Text) (rest : List PadItem) : PadOK (.comment ('$' :: c) :: rest)

theorem padFormat_startsSep {items : List PadItem} (hok : PadOK items) : StartsSep (padFormat items) := by
  cases hok with
  | spaces k rest hk _ => exact replicate_startsSep k hk _
  | newline rest => exact ⟨'\n', padFormat rest, rfl, Or.inr (Or.inl rfl)⟩
  | comment c rest => exact ⟨'$', c ++ padFormat rest, rfl, Or.inr (Or.inr rfl)⟩

/-- **C05_separated**: whenever the node's padding separates words, what `format` writes after the number
    (however long the new number is) starts with a blank, a line break or a `$`: the number cannot fuse with
    the next word -/
theorem C05_separated (n : Node) (temp : Text) (items : List PadItem) (hp : n.padding = some items) (hok : PadOK items) :
    ljust temp n.fmt.valueLength ++ (padStrings n temp.length).1 ++ (padStrings n temp.length).2
      = temp ++ (List.replicate (n.fmt.valueLength - temp.length) ' ' ++ (padStrings n temp.length).1 ++ (padStrings n temp.length).2)
    ∧ StartsSep (List.replicate (n.fmt.valueLength - temp.length) ' ' ++ (padStrings n temp.length).1 ++ (padStrings n temp.length).2) := by
  refine ⟨by unfold ljust; simp only [List.append_assoc], ?_⟩
  by_cases hlen : 1 ≤ n.fmt.valueLength - temp.length
  · rw [List.append_assoc]; exact replicate_startsSep _ hlen _
  · have hge : decide (temp.length ≥ n.fmt.valueLength) = true := decide_eq_true (by omega)
    rw [show n.fmt.valueLength - temp.length = 0 by omega, List.replicate_zero, List.nil_append]
    unfold padStrings
    rw [hp]
    cases hok with
    | newline rest => exact padFormat_startsSep (.newline rest)
    | comment c rest => exact padFormat_startsSep (.comment c rest)
    | spaces k rest hk hrest =>
      -- the number fills the token's width: a blank is written unless blanks or a line break follow anyway
      cases rest with
      | nil => exact ⟨' ', [], by simp only [hge]; rfl, Or.inl rfl⟩
      | cons it r =>
        cases it with
        | spaces j =>
          simp only [Bool.not_true, Bool.and_false, Bool.false_eq_true, if_false]
          exact replicate_startsSep j (hrest j r rfl) _
        | newline =>
          simp only [Bool.not_true, Bool.and_false, Bool.false_eq_true, if_false]
          exact padFormat_startsSep (.newline r)
        | comment c => exact ⟨' ', padFormat (.comment c :: r), by simp only [hge]; rfl, Or.inl rfl⟩

example : PadOK [.spaces 1, .comment "$ hi".toList, .newline] :=
  PadOK.spaces 1 _ (by decide) (by intro j r h; cases h)

/-! ## floats, text level -/

open MontePyVerif.Spec

/-- **C05_candidate_text**: for every formatter (sign style, zero padding, divider, exponent padding), value, style and
    precision, and whatever follows (nothing, or something starting with a blank, a line break or `$`): the Spec reads
    the first word of the candidate's text as exactly the value of the candidate's `Dec` -/
theorem C05_candidate_text (f : Formatter) (x : Num) (sp : FStyle × Nat) (tail : Text) (ht : tail = [] ∨ StartsSep tail) :
    parseChars (firstWord (formatFloatAs f x sp ++ tail)) = some (decOf x sp).value :=
  (candidate_spells f x sp).spec_reads tail ht

/-- **C05_float_text**: for every node and value, MCNP (the Spec) reads the first word of what `_format_float` returns
    as the value `v` of the chosen candidate's `Dec`; and `v` is within the tolerance of the value set (17-digit
    fallback), or the text passed the model's own read-back check (`fortran_float(text)` within the tolerance).
    By `formatFloat_chosen` the first alternative always holds (`C05_float_full`). -/
theorem C05_float_text (n : Node) (x : Num) (hx : 0 ≤ x.mag) (tail : Text) (ht : tail = [] ∨ StartsSep tail) :
    ∃ sp ∈ floatStyles n, ∃ v, parseChars (firstWord (formatFloat n x ++ tail)) = some v ∧ v = (decOf x sp).value ∧
      (Spec.isClose v x.toRat ∨ ∃ y, fortranFloat (formatFloat n x) = some y ∧ Spec.isClose y x.toRat) := by
  obtain ⟨sp, hsp, heq, hc⟩ := formatFloat_chosen n x hx
  exact ⟨sp, hsp, _, heq ▸ C05_candidate_text n.fmt x sp tail ht, rfl, Or.inl hc⟩

/-- a float written as an integer (`_can_float_to_int_happen`) is within the tolerance of its nearest integer, which
    `C05_int` shows is what MCNP reads -/
theorem C05_float_as_int (n : Node) (v : Num) (hv : n.value = some v) (h : canFloatToIntHappen n = true) :
    Spec.isClose (v.round : ℚ) v.toRat := by
  unfold canFloatToIntHappen at h
  split at h
  · exact absurd h (by simp)
  · rw [hv] at h
    exact spec_of_model_isClose _ _ h

/-! ## integers, text level -/

/-- **C05_int** (text level): for every sign style, zero padding and integer `k`, and whatever follows (nothing, or
    something that starts with a blank, a line break or `$`), the Spec reads the first word of what an int node
    writes as exactly `k` -/
theorem C05_int (sign : Char) (width : Nat) (k : Int) (tail : Text) (ht : tail = [] ∨ StartsSep tail) :
    parseChars (firstWord (fmtD sign width k ++ tail)) = some (k : ℚ) :=
  C05_int_value k ▸ spec_reads_renderPy sign width _ tail ht

example : StartsSep " 2".toList := ⟨' ', ['2'], rfl, Or.inl rfl⟩

/-! ## full strength: no hypothesis about the model's reader -/

/-- **C05_float_full**: for every node (token spelling, padding, reverse-engineered formatter, history), every value
    and whatever follows the number (nothing, or something that starts with a blank, a line break or `$`): MCNP (the
    Spec) reads the first word of what `_format_float` writes as a value within the library tolerance of the value set.
    The acceptance test of a candidate before the 17-digit fallback is the model's `fortran_float`; by
    `fortran_reads_candidate` it returns the value the Spec reads. -/
theorem C05_float_full (n : Node) (x : Num) (hx : 0 ≤ x.mag) (tail : Text) (ht : tail = [] ∨ StartsSep tail) :
    ∃ v, parseChars (firstWord (formatFloat n x ++ tail)) = some v ∧ Spec.isClose v x.toRat := by
  obtain ⟨sp, _, heq, hc⟩ := formatFloat_chosen n x hx
  exact ⟨_, heq ▸ C05_candidate_text n.fmt x sp tail ht, hc⟩

/-! ## the original token -/

theorem ofRat_toRat (q : ℚ) : (Num.ofRat q).toRat = q := by
  unfold Num.ofRat Num.toRat ratAbs
  by_cases h : q < 0
  · simp only [h, decide_true, if_true, neg_neg]
  · simp only [h, decide_false, if_false, Bool.false_eq_true]

theorem ofRat_mag_nonneg (q : ℚ) : 0 ≤ (Num.ofRat q).mag := by
  show 0 ≤ if q < 0 then -q else q
  split
  · exact neg_nonneg.mpr (le_of_lt ‹_›)
  · exact not_lt.mp ‹_›

/-- **C05_token_reading**: `ValueNode.__init__` (`fortran_float`) reads every original token that is a well-formed
    spelling — in particular every token of the `Real` rule of DESIGN.md §5.2 — as exactly the number MCNP reads -/
theorem C05_token_reading (sp : Spelling) (wf : sp.WF) (pad : Option (List PadItem)) (np : Bool) :
    parseChars sp.text = some sp.value ∧
    mkNode (.str sp.text) .float pad np = some
      { token := .str sp.text, ty := .float, padding := pad, neverPad := np, value := some (Num.ofRat sp.value),
        ogValue := some (Num.ofRat sp.value), isNegId := false, isNegVal := false, isNeg := none,
        fmt := floatDefaults, isReversed := false } := by
  obtain ⟨h1, h2⟩ := readers_agree sp wf
  refine ⟨h2, ?_⟩
  unfold mkNode
  simp only []
  rw [h1, h2]
  rfl

theorem C05_token_reading_G (sp : Spelling) (g : sp.IsGReal) :
    fortranFloat sp.text = parseChars sp.text ∧ parseChars sp.text = some sp.value := readers_agree sp g.wf

/-- `1.5-3` is a spelling of the `Real` rule -/
example : (⟨[], "1".toList, true, "5".toList, some ⟨[], ['-'], "3".toList⟩⟩ : Spelling).IsGReal := by
  refine ⟨⟨Or.inl rfl, ?_, ?_, Or.inl (by simp), ?_, ?_⟩, ?_⟩
  · intro c hc; simp at hc; subst hc; decide
  · intro c hc; simp at hc; subst hc; decide
  · intro h; cases h
  · intro x hx; cases hx
    refine ⟨Or.inl rfl, Or.inr (Or.inr rfl), ?_, by simp, by intro _; simp⟩
    intro c hc; simp at hc; subst hc; decide
  · intro x hx; cases hx; exact ⟨by decide, fun _ => rfl⟩


/-! ## paddings that keep the number a word of its own -/

def PadSep (pad : Option (List PadItem)) : Prop :=
  pad = none ∨ pad = some [] ∨ ∃ items, pad = some items ∧ PadOK items

theorem padSep_tail (n : Node) (temp : Text) (h : PadSep n.padding) :
    ∃ tail, ljust temp n.fmt.valueLength ++ (padStrings n temp.length).1 ++ (padStrings n temp.length).2 = temp ++ tail ∧
      (tail = [] ∨ StartsSep tail) := by
  have hnone : (padStrings n temp.length = ([], [])) → ∃ tail,
      ljust temp n.fmt.valueLength ++ (padStrings n temp.length).1 ++ (padStrings n temp.length).2 = temp ++ tail ∧
        (tail = [] ∨ StartsSep tail) := fun hps =>
    ⟨List.replicate (n.fmt.valueLength - temp.length) ' ' ++ [], by rw [hps, ljust]; simp only [List.append_nil],
      blanks_sep _ [] (Or.inl rfl)⟩
  rcases h with h | h | ⟨items, h, hok⟩
  · exact hnone (by unfold padStrings; rw [h])
  · exact hnone (by unfold padStrings; rw [h])
  · obtain ⟨h1, h2⟩ := C05_separated n temp items h hok
    exact ⟨_, h1, Or.inr h2⟩

/-- `PaddingNode.format()` of an optional padding -/
def padText (pad : Option (List PadItem)) : Text :=
  match pad with
  | some p => padFormat p
  | none => []

theorem padText_sep (pad : Option (List PadItem)) (h : PadSep pad) : padText pad = [] ∨ StartsSep (padText pad) := by
  rcases h with rfl | rfl | ⟨items, rfl, hok⟩
  · exact Or.inl rfl
  · exact Or.inl rfl
  · exact Or.inr (padFormat_startsSep hok)

theorem unchanged_token_reads (sp : Spelling) (wf : sp.WF) (n : Node) (htok : n.token = .str sp.text)
    (hpad : PadSep n.padding) (hch : valueChanged n = false) :
    (format n).2 = sp.text ++ padText n.padding ∧ parseChars (firstWord (format n).2) = some sp.value := by
  have ht : (format n).2 = sp.text ++ padText n.padding := by rw [(C05_unchanged n hch).1, htok]; rfl
  exact ⟨ht, ht ▸ wf.spells.spec_reads _ (padText_sep _ hpad)⟩

/-! ## values of float nodes, changed or kept, with or without a sign flag (cell densities, negatable identifiers' float cousins) -/

theorem negate_mag (v : Num) : v.negate.mag = v.mag := by
  unfold Num.negate; split <;> rfl

theorem round_close_of_mag (v y : Num) (h : y.mag = v.mag) (hc : Spec.isClose (v.round : ℚ) v.toRat) :
    Spec.isClose (y.round : ℚ) y.toRat := by
  unfold Num.round Num.toRat at hc ⊢
  rw [h]
  cases hv : v.neg <;> cases hy : y.neg <;> simp only [hv, Bool.false_eq_true, if_false, if_true] at hc ⊢
  · exact hc
  · have := isClose_neg _ _ hc
    simpa using this
  · have := isClose_neg _ _ hc
    simpa using this
  · exact hc

theorem formatTemp_float_reads (n : Node) (hty : n.ty = .float) (v y : Num) (hv : n.value = some v)
    (hmag : y.mag = v.mag) (hx : 0 ≤ v.mag) (tail : Text) (hsep : tail = [] ∨ StartsSep tail) :
    ∃ w, parseChars (firstWord (formatTemp n y ++ tail)) = some w ∧ Spec.isClose w y.toRat := by
  unfold formatTemp
  rw [if_neg (by rw [hty]; exact Ty.noConfusion)]
  split
  · exact ⟨_, C05_int _ _ _ tail hsep, round_close_of_mag v y hmag (C05_float_as_int n v hv ‹_›)⟩
  · exact C05_float_full n y (hmag ▸ hx) tail hsep

/-- every float node that holds a value — negatable or not, whatever its token, formatter and history — whose padding
    keeps words apart: what is written is the print value `y` (the magnitude `value` with the sign `is_negative`), and
    MCNP reads the first word of `format()` as a value within the tolerance of `y`.  A value that counts as unchanged is
    written as the token, verbatim: only then does the token matter, and it has to spell the original value. -/
theorem float_node_written (n : Node) (hty : n.ty = .float) (v : Num) (hv : n.value = some v) (hx : 0 ≤ v.mag)
    (hpad : PadSep n.padding)
    (htok : valueChanged n = false → ∃ (sp : Spelling) (og : Num),
      sp.WF ∧ n.token = .str sp.text ∧ n.ogValue = some og ∧ og.toRat = sp.value) :
    ∃ y, printValue n = some y ∧ y.mag = v.mag ∧
      ∃ w, parseChars (firstWord (format n).2) = some w ∧ Spec.isClose w y.toRat := by
  obtain ⟨y, hy, hmag⟩ : ∃ y, printValue n = some y ∧ y.mag = v.mag := by
    unfold printValue
    rw [hv]
    split
    · exact ⟨v.negate, rfl, negate_mag v⟩
    · exact ⟨v, rfl, rfl⟩
  refine ⟨y, hy, hmag, ?_⟩
  cases hch : valueChanged n with
  | true =>
    -- value, sign flags, type and padding of the reverse-engineered node are those of `n`
    obtain ⟨f, r, hre⟩ := reverse_shape n
    have hpv : printValue (reverseEngineerFormatting n) = printValue n := by rw [hre]; rfl
    obtain ⟨tail, htail, hsep⟩ := padSep_tail (reverseEngineerFormatting n) (formatTemp (reverseEngineerFormatting n) y)
      (by rw [hre]; exact hpad)
    rw [C05_format_changed n hch y (hpv ▸ hy) (by rw [hv]; rfl), htail]
    exact formatTemp_float_reads (reverseEngineerFormatting n) (by rw [hre]; exact hty) v y (by rw [hre]; exact hv) hmag hx tail hsep
  | false =>
    obtain ⟨sp, og, wf, htk, hog, hval⟩ := htok hch
    refine ⟨sp.value, (unchanged_token_reads sp wf n htk hpad hch).2, ?_⟩
    -- unchanged: the print value is within the tolerance of the original value, which the token spells
    have hcl : ValueFormat.isClose y.toRat og.toRat = true := by
      simpa [valueChanged, hv, hog, hy] using hch
    exact hval ▸ isClose_symm _ _ (spec_of_model_isClose _ _ hcl)

/-- **C05_changed_float_signed**: for *every* float node, negatable or not, whose value differs from the original one
    and whose padding keeps words apart: what is written is the print value `y` (the magnitude `value` with the sign
    `is_negative`), and MCNP reads the first word of `format()` as a value within the tolerance of `y` -/
theorem C05_changed_float_signed (n : Node) (hty : n.ty = .float) (v : Num) (hv : n.value = some v) (hx : 0 ≤ v.mag)
    (hch : valueChanged n = true) (hpad : PadSep n.padding) :
    ∃ y, printValue n = some y ∧ y.mag = v.mag ∧
      ∃ w, parseChars (firstWord (format n).2) = some w ∧ Spec.isClose w y.toRat :=
  float_node_written n hty v hv hx hpad (fun h => Bool.noConfusion (hch.symm.trans h))

/-- **C05_changed_float**: for every float node that is not negatable — whatever its token (spelled, jump, none),
    formatter and history — whose value `x` differs from the original one and whose padding keeps words apart, MCNP
    reads the first word of what `format()` writes as a value within the tolerance of `x` -/
theorem C05_changed_float (n : Node) (hty : n.ty = .float) (hneg : isNegative n = none) (x : Num)
    (hv : n.value = some x) (hx : 0 ≤ x.mag) (hch : valueChanged n = true) (hpad : PadSep n.padding) :
    ∃ v, parseChars (firstWord (format n).2) = some v ∧ Spec.isClose v x.toRat := by
  have hpv : printValue n = some x := by unfold printValue; rw [hneg]; exact hv
  obtain ⟨y, hy, _, h⟩ := C05_changed_float_signed n hty x hv hx hch hpad
  rw [hpv] at hy
  cases hy
  exact h

/-! ## end to end: token spelling × padding × new value -/

/-- **C05_end_to_end**: for every original token that is a well-formed spelling (the `Real` rule of DESIGN.md §5.2 and
    more: leading zeros, explicit `+`, exponent with or without letter), every padding that keeps words apart and every
    new value `x` set through `value = x`: MCNP (the Spec) reads the first word of what `format()` writes as a value
    within the library tolerance of `x` — whether the token is kept verbatim (value unchanged within the tolerance)
    or a new number is written in the reverse-engineered style with as many digits as needed -/
theorem C05_end_to_end (sp : Spelling) (wf : sp.WF) (pad : Option (List PadItem)) (hpad : PadSep pad) (np : Bool)
    (x : Num) (hx : 0 ≤ x.mag) :
    ∃ n0, mkNode (.str sp.text) .float pad np = some n0 ∧
      ∃ v, parseChars (firstWord (format (setValue n0 (some x))).2) = some v ∧ Spec.isClose v x.toRat := by
  refine ⟨_, (C05_token_reading sp wf pad np).2, ?_⟩
  -- `setValue` on a node that is not negatable and has a value only replaces the value
  obtain ⟨y, hy, _, h⟩ := float_node_written
    { token := .str sp.text, ty := .float, padding := pad, neverPad := np, value := some x,
      ogValue := some (Num.ofRat sp.value), isNegId := false, isNegVal := false, isNeg := none,
      fmt := floatDefaults, isReversed := false } rfl x rfl hx hpad
    (fun _ => ⟨sp, _, wf, rfl, rfl, ofRat_toRat _⟩)
  cases hy
  exact h

/-- **C05_end_to_end_new**: an object created from scratch (a node without token) whose value is set to `x`: MCNP
    reads the first word of what `format()` writes as a value within the tolerance of `x` -/
theorem C05_end_to_end_new (pad : Option (List PadItem)) (hpad : PadSep pad) (np : Bool) (x : Num) (hx : 0 ≤ x.mag) :
    ∃ n0, mkNode .none .float pad np = some n0 ∧
      ∃ v, parseChars (firstWord (format (setValue n0 (some x))).2) = some v ∧ Spec.isClose v x.toRat := by
  refine ⟨_, rfl, C05_changed_float _ rfl rfl x rfl hx rfl ?_⟩
  -- `_check_if_needs_end_padding`: a node that had no value and may be padded gets one blank when it has no padding
  cases np
  · rcases hpad with rfl | rfl | ⟨items, rfl, hok⟩
    · exact Or.inr (Or.inr ⟨_, rfl, PadOK.spaces 1 [] (by decide) (fun j r h => nomatch h)⟩)
    · exact Or.inr (Or.inl rfl)
    · exact Or.inr (Or.inr ⟨items, rfl, hok⟩)
  · exact hpad

/-! ## a node made at write time from a value (`_generate_default_node(float, v)`: token `str(v)`) -/

/-- **ReprExact** (named assumption; CPython's `repr` guarantee, in the trusted base, not modelled): `t` is what
    `str(v)` returns for a finite float `v` — a decimal literal (digits, optional point, optional `e±dd`: a well-formed
    spelling) that denotes exactly `v` in the model's number abstraction (in CPython: the shortest decimal whose nearest
    double is `v`, DESIGN.md §1.3) -/
def ReprExact (t : Text) (v : ℚ) : Prop := ∃ sp : Spelling, sp.WF ∧ t = sp.text ∧ sp.value = v

theorem isClose_self (a : ℚ) : ValueFormat.isClose a a = true := by
  unfold ValueFormat.isClose; simp

/-- **C05_default_node**: under `ReprExact t v`, the node `ValueNode(str(v), float, padding)` that
    `_generate_default_node` makes at write time holds exactly `v`, counts as unchanged, is written verbatim
    (`str(v)` followed by its padding), and MCNP reads the first word of it as exactly `v` -/
theorem C05_default_node (t : Text) (v : ℚ) (h : ReprExact t v) (pad : Option (List PadItem)) (hpad : PadSep pad)
    (np : Bool) :
    ∃ n, mkNode (.str t) .float pad np = some n ∧ n.value = some (Num.ofRat v) ∧ valueChanged n = false ∧
      (format n).2 = t ++ padText pad ∧ parseChars (firstWord (format n).2) = some v := by
  obtain ⟨sp, wf, rfl, rfl⟩ := h
  have hch : valueChanged
      { token := .str sp.text, ty := .float, padding := pad, neverPad := np, value := some (Num.ofRat sp.value),
        ogValue := some (Num.ofRat sp.value), isNegId := false, isNegVal := false, isNeg := none,
        fmt := floatDefaults, isReversed := false } = false := by
    simp [valueChanged, printValue, isNegative, isClose_self]
  exact ⟨_, (C05_token_reading sp wf pad np).2, rfl, hch, unchanged_token_reads sp wf _ rfl hpad hch⟩

/-- `str(0.1) = "0.1"` denotes 1/10 -/
example : ReprExact "0.1".toList (1 / 10) := by
  refine ⟨⟨[], ['0'], true, ['1'], none⟩, ⟨Or.inl rfl, ?_, ?_, Or.inl (by simp), ?_, ?_⟩, rfl, ?_⟩
  · intro c hc; simp at hc; subst hc; decide
  · intro c hc; simp at hc; subst hc; decide
  · intro h; cases h
  · intro x hx; cases hx
  · simp [Spelling.value, Spelling.mant, Spelling.expValue, sgnQ, negOf, Nat.ofDigitChars]

/-- the default padding of `_generate_default_node` is one blank -/
example : PadSep (some [PadItem.spaces 1]) :=
  Or.inr (Or.inr ⟨_, rfl, PadOK.spaces 1 [] (by decide) (by intro j r h; cases h)⟩)

/-! ## the 12 numbers of a TR input: a jump is only written where MCNP reads the number the transform holds

Model: `Model/TransformWrite.lean` (`Transform._default_entry`, the entry loops of `Transform._update_values`).
Spec: `Spec/Transform.lean` (the defaults of a jumped-over entry, by the unit of the card).  The number a written
entry *spells* is the business of the theorems above; here: which entries may stay a jump.  The state quantifies
over every card that can have been read (jumps anywhere, any number of entries, either unit) and over the unit the
transform has when it is written (the public `is_in_degrees` setter), so a unit switched after reading is included. -/

open MontePyVerif.TransformWrite in
/-- `Transform._default_entry` agrees with MCNP's table of defaults, for `TR` and `*TR` and all 12 positions -/
theorem C05_transform_default_entry (inDegrees : Bool) (k : Nat) (hk : k < 12) :
    defaultEntry inDegrees k = Spec.trDefault inDegrees k := defaultEntry_spec inDegrees k hk

open MontePyVerif.TransformWrite in
/-- the entry loop, for every list of nodes, every list of values and every starting position -/
theorem C05_transform_entries (inDegrees : Bool) (k : Nat) (nodes : List (Option Rat)) (vals : List Rat)
    (hk : k + vals.length ≤ 12) :
    Spec.trReadFrom inDegrees k (updateFrom inDegrees k nodes vals) = vals :=
  updateFrom_reads inDegrees vals k nodes hk

example : 3 + ([0, 1, 0, -1, 0] : List Rat).length ≤ 12 := by decide

open MontePyVerif.TransformWrite in
/-- **every transform**, also one whose card lost jumps at its end to an earlier write: MCNP reads the entries
    `_update_values` writes, in the unit whose modifier it writes and with the entries left off at the end taken as
    jumps, as exactly the displacement and the rotation matrix the transform holds -/
theorem C05_transform_written (s : State) (hd : s.disp.length = 3) (hr : s.rot.length ≤ 9) :
    Spec.trRead s.inDegrees (heldNumbers s).length (writtenEntries s) = heldNumbers s := by
  have hlen := heldNumbers_length s hd hr
  have hfull := updateFrom_length s.inDegrees (heldNumbers s) 0 s.nodes
  unfold Spec.trRead writtenEntries
  by_cases hl : leftOffStays s = true
  · simp only [hl, if_true]
    have hnr : needsRotation s = false := by
      unfold leftOffStays at hl; simp only [Bool.and_eq_true, Bool.not_eq_true'] at hl; exact hl.1
    have hheld : heldNumbers s = s.disp := by simp [heldNumbers, hnr]
    have hall : allDefaultFrom s.inDegrees (0 + s.nodes.length) ((heldNumbers s).drop s.nodes.length) = true := by
      unfold leftOffStays at hl; simp only [Bool.and_eq_true] at hl
      rw [hheld, Nat.zero_add]; exact hl.2
    have h := updateFrom_take_reads s.inDegrees (heldNumbers s) 0 s.nodes s.nodes.length (by omega) hall
    have hcount : (heldNumbers s).length - (List.take s.nodes.length (updateFrom s.inDegrees 0 s.nodes (heldNumbers s))).length
        = (heldNumbers s).length - s.nodes.length := by
      rw [List.length_take, hfull]; omega
    rw [hcount]; exact h
  · have hl' : leftOffStays s = false := by simpa using hl
    simp only [hl', Bool.false_eq_true, if_false]
    rw [hfull, Nat.sub_self]
    simpa using updateFrom_reads s.inDegrees (heldNumbers s) 0 s.nodes (by omega)

open MontePyVerif.TransformWrite in
/-- a card that an earlier write left with two entries (`tr1 0 2j`, displacement (0, 1, 0) written `tr1 0 1`),
    now with the displacement (0, 1, 5): the third entry comes back -/
example : let s : State := ⟨false, true, [some 0, some 1], [0, 1, 5], []⟩
    s.disp.length = 3 ∧ s.rot.length ≤ 9 ∧ writtenEntries s = [some 0, some 1, some 5] ∧
    writtenEntries { s with disp := [0, 1, 0] } = [some 0, some 1] := by
  decide

open MontePyVerif.TransformWrite in
/-- a card read in degrees with jumps on the diagonal, now in cosines with a rotation of 90 degrees about z -/
example : let s : State := ⟨false, true, [some 1, some 2, some 3, none, some 90, some 90, some 90, none, some 90, some 90, some 90, none],
                            [1, 2, 3], [0, 1, 0, -1, 0, 0, 0, 0, 1]⟩
    s.disp.length = 3 ∧ s.rot.length ≤ 9 ∧ writtenEntries s =
      [some 1, some 2, some 3, some 0, some 1, some 0, some (-1), some 0, some 0, some 0, some 0, none] := by
  decide

open MontePyVerif.TransformWrite in
/-- **unit switched and matrix set through the API**: whatever card was read (unit, jumps), after
    `is_in_degrees = b` and `rotation_matrix = m` (a matrix that is written: some entry is not 0) the written
    entries, read in the unit `b` that is written, are the displacement and exactly `m` -/
theorem C05_transform_unit_switch (s : State) (b : Bool) (m : List Rat) (hd : s.disp.length = 3)
    (hm : m.length ≤ 9) (hne : m.any (fun x => decide (x ≠ 0)) = true) :
    Spec.trRead b (s.disp ++ m).length (writtenEntries { s with inDegrees := b, rot := m }) = s.disp ++ m := by
  have h := C05_transform_written { s with inDegrees := b, rot := m } hd hm
  have hn : needsRotation { s with inDegrees := b, rot := m } = true := by
    show (m.any (fun x => decide (x ≠ 0)) || decide (8 ≤ s.nodes.length) || !s.mainToAux) = true
    rw [hne]; simp
  have hf : flatPack { s with inDegrees := b, rot := m } = m := by
    have : m ≠ [] := by intro h0; subst h0; simp at hne
    cases m with
    | nil => exact absurd rfl this
    | cons x xs => simp [flatPack]
  simpa [heldNumbers, hn, hf] using h

example : ([1, 91, 90, 89, 1] : List Rat).length ≤ 9 ∧ ([1, 91, 90, 89, 1] : List Rat).any (fun x => decide (x ≠ 0)) = true := by
  decide

/-! ## histories: edits through the setters and through the arrays the getters hand out, between writes -/

open MontePyVerif.TransformWrite in
/-- the well-formedness the setters keep: three displacement entries, at most nine matrix entries -/
def TrWF (s : State) : Prop := s.disp.length = 3 ∧ s.rot.length ≤ 9

open MontePyVerif.TransformWrite in
theorem applyEdit_wf (s : State) (e : Edit) (h : TrWF s) : TrWF (applyEdit s e) := by
  obtain ⟨hd, hr⟩ := h
  cases e with
  | setRotation m =>
    show TrWF (if 5 ≤ m.length ∧ m.length ≤ 9 then { s with rot := m } else s)
    split
    · exact ⟨hd, (‹_ ∧ _›).2⟩
    · exact ⟨hd, hr⟩
  | setDisplacement d =>
    show TrWF (if d.length = 3 then { s with disp := d } else s)
    split
    · exact ⟨‹_›, hr⟩
    · exact ⟨hd, hr⟩
  | rotationAt k v => exact ⟨hd, List.length_set.trans_le hr⟩
  | displacementAt k v => exact ⟨List.length_set.trans hd, hr⟩
  | setDegrees b => exact ⟨hd, hr⟩
  | write ns => exact ⟨hd, hr⟩

open MontePyVerif.TransformWrite in
theorem run_wf (es : List Edit) : ∀ (s : State), TrWF s → TrWF (run s es) := by
  induction es with
  | nil => intro s h; exact h
  | cons e es ih => intro s h; exact ih (applyEdit s e) (applyEdit_wf s e h)

open MontePyVerif.TransformWrite in
/-- a step sees of the state only what the transform holds; a write changes nothing of it -/
theorem applyEdit_held (s t : State) (e : Edit) (h : held s = held t) :
    held (applyEdit s e) = (if e.isWrite then held t else held (applyEdit t e)) := by
  simp only [held, Prod.mk.injEq] at h
  obtain ⟨h1, h2, h3, h4⟩ := h
  cases e with
  | setDegrees b => simp [applyEdit, held, Edit.isWrite, h2, h3, h4]
  | setRotation m =>
    simp only [applyEdit, Edit.isWrite]
    split <;> simp [held, h1, h2, h3, h4]
  | setDisplacement d =>
    simp only [applyEdit, Edit.isWrite]
    split <;> simp [held, h1, h2, h3, h4]
  | rotationAt k v => simp [applyEdit, held, Edit.isWrite, h1, h2, h3, h4]
  | displacementAt k v => simp [applyEdit, held, Edit.isWrite, h1, h2, h3, h4]
  | write ns => simp [applyEdit, held, Edit.isWrite, h1, h2, h3, h4]

open MontePyVerif.TransformWrite in
/-- **writes are transparent**: after every history (setters, in-place assignments, any number of writes in between,
    whatever nodes they leave) the transform holds what it holds after the same edits without any write -/
theorem C05_transform_history_frame (es : List Edit) : ∀ (s t : State), held s = held t →
    held (run s es) = held (run t (dropWrites es)) := by
  induction es with
  | nil => intro s t h; exact h
  | cons e es ih =>
    intro s t h
    have hstep := applyEdit_held s t e h
    cases hw : e.isWrite with
    | true =>
      rw [hw] at hstep
      have : dropWrites (e :: es) = dropWrites es := by simp [dropWrites, hw]
      rw [this]
      exact ih (applyEdit s e) t (by simpa using hstep)
    | false =>
      rw [hw] at hstep
      have : dropWrites (e :: es) = e :: dropWrites es := by simp [dropWrites, hw]
      rw [this]
      exact ih (applyEdit s e) (applyEdit t e) (by simpa using hstep)

open MontePyVerif.TransformWrite in
/-- **every write of every history**: whatever was assigned before it — through a setter or in the array a getter
    handed out, before or after earlier writes — MCNP reads the entries the write produces, in the unit whose
    modifier it writes, as exactly the numbers the transform holds at that moment -/
theorem C05_transform_history (es : List Edit) : ∀ (s : State), TrWF s →
    ∀ w ∈ writesOf s es, TrWF w.1 ∧ Spec.trRead w.1.inDegrees (heldNumbers w.1).length w.2 = heldNumbers w.1 := by
  induction es with
  | nil => intro s _ w hw; simp [writesOf] at hw
  | cons e es ih =>
    intro s h w hw
    simp only [writesOf, List.mem_append] at hw
    rcases hw with hw | hw
    · split at hw
      · simp only [List.mem_singleton] at hw
        subst hw
        exact ⟨h, C05_transform_written s h.1 h.2⟩
      · simp at hw
    · exact ih (applyEdit s e) (applyEdit_wf s e h) w hw

open MontePyVerif.TransformWrite in
/-- the held entry an in-place assignment names is the value assigned, whatever happened before (writes included) -/
theorem C05_transform_inplace_held (es : List Edit) (s : State) (k : Nat) (v : Rat) (hk : k < (run s es).rot.length) :
    (run s (es ++ [Edit.rotationAt k v])).rot[k]? = some v := by
  simp only [run, List.foldl_append, List.foldl_cons, List.foldl_nil, applyEdit] at hk ⊢
  rw [List.getElem?_set_self (by simpa using hk)]

open MontePyVerif.TransformWrite in
/-- non-vacuity, and the history of seeded C05f: `tr1 1 2 3 1 0 0 0 1 0 0 0 1` is written, `rotation_matrix[4] = 5`
    is assigned in the array the getter returned, the input is written again: the second write holds 5 at entry 7 -/
example : let s : State := ⟨false, true, [some 1, some 2, some 3, some 1, some 0, some 0, some 0, some 1, some 0, some 0, some 0, some 1],
                            [1, 2, 3], [1, 0, 0, 0, 1, 0, 0, 0, 1]⟩
    let es := [Edit.write s.nodes, Edit.rotationAt 4 5, Edit.write s.nodes]
    TrWF s ∧ (writesOf s es).map (fun w => w.2[7]?) = [some (some 1), some (some 5)] := by
  refine ⟨⟨by decide, by decide⟩, by decide⟩

end MontePyVerif.C05
