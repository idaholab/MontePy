import MontePyVerif.Lemmas.Queue
/-!
# C19 — the generation fixed point: reading a file MontePy wrote and writing it again reproduces it

`Props/C19.lean` proves that writing twice, or observing between edits, gives the same lines.  This is the other
half, "output is a fixed point over generations", on the model of the line reader `read_data` (`Model/Reader.lean`,
tied to the code by the correspondence unit U-reader of C11/C20) composed with the block-wise writer: the reader
partitions the lines of any file, files a written body block by block, hence writing what was read from a written file
gives that file again — given that the objects of each block format, in order, to the lines of the block's inputs
(`EchoB`).  That is *measured* on the real objects of every explored problem by the C19 check, not proved: the SLY
parser is not modelled.
-/
namespace MontePyVerif.Reader

/-- the line as `read_data` stores it in `input_raw_lines` -/
def stored (cfg : Cfg) (l : Str) : Str := rstrip ((expandtabs Gen.tabSize l).take cfg.lineLength)

/-- the blank-line test of `read_data` -/
def isBlank (l : Str) : Bool := (strip (expandtabs Gen.tabSize l)).isEmpty

/-- the lines `read_data` keeps, with the block they are filed in: everything up to the blank line that ends the
    data block, blank lines dropped.  `n` = blank lines met so far, `bt` = the current block. -/
def kept (cfg : Cfg) : Nat → BlockType → List Str → List (BlockType × Str)
  | _, _, [] => []
  | n, bt, l :: ls =>
    if isBlank l then
      (if cfg.firstBlock.value + (n + 1) ≥ 3 then []
       else kept cfg (n + 1) (BlockType.ofValue (cfg.firstBlock.value + (n + 1))) ls)
    else (bt, stored cfg l) :: kept cfg n bt ls

theorem kept_blank (cfg : Cfg) (n : Nat) (bt : BlockType) {l : Str} (ls : List Str) (hb : isBlank l = true) :
    kept cfg n bt (l :: ls) =
      if cfg.firstBlock.value + (n + 1) ≥ 3 then []
      else kept cfg (n + 1) (BlockType.ofValue (cfg.firstBlock.value + (n + 1))) ls := by
  rw [kept, if_pos hb]

theorem kept_content (cfg : Cfg) (n : Nat) (bt : BlockType) {l : Str} (ls : List Str) (hb : isBlank l = false) :
    kept cfg n bt (l :: ls) = (bt, stored cfg l) :: kept cfg n bt ls := by
  rw [kept, hb]; rfl

/-- the lines an event hands to the caller, tagged with the block -/
def evTagged : Event → List (BlockType × Str)
  | .input bt raw => raw.map (fun l => (bt, l))
  | _ => []

def Event.plain : Event → Bool
  | .input _ _ => true
  | .warn => true
  | _ => false

/-- a run that yields inputs (and line-length warnings) only -/
def Plain (evs : List Event) : Prop := ∀ e ∈ evs, e.plain = true

instance (evs : List Event) : Decidable (Plain evs) := by unfold Plain; infer_instance

theorem Plain.append_left {a b : List Event} (h : Plain (a ++ b)) : Plain a :=
  fun e he => h e (List.mem_append_left _ he)

theorem Plain.append_right {a b : List Event} (h : Plain (a ++ b)) : Plain b :=
  fun e he => h e (List.mem_append_right _ he)

theorem Plain.noRaise {evs : List Event} (h : Plain evs) : hasRaise evs = false :=
  List.any_eq_false.2 fun e he hr => by cases e <;> cases hr <;> cases h _ he

theorem flushInput_plain (cfg : Cfg) (bt : BlockType) (raw : List Str) (h : Plain (flushInput cfg bt raw)) :
    flushInput cfg bt raw = [.input bt raw] := by
  revert h
  -- a read input ends in a raise (unreadable, or a file already in the chain) or in `yield None`
  fun_cases flushInput cfg bt raw <;> intro h
  · cases h _ (List.mem_singleton_self _)
  · cases h _ (List.mem_singleton_self _)
  · cases h _ (List.mem_cons_of_mem _ (List.mem_singleton_self _))
  · rfl

/-- the lines of the open input, tagged with its block: what the next flush hands to the caller -/
def pend (st : LState) : List (BlockType × Str) := st.raw.map (fun l => (st.blockType, l))

theorem flushInput_tagged (cfg : Cfg) (st : LState) (h : Plain (flushInput cfg st.blockType st.raw)) :
    (flushInput cfg st.blockType st.raw).flatMap evTagged = pend st := by
  rw [flushInput_plain cfg _ _ h]
  exact List.append_nil _

theorem flushBlock_tagged (cfg : Cfg) (st : LState) (h : Plain (flushBlock cfg st).1) :
    (flushBlock cfg st).1.flatMap evTagged = pend st := by
  rw [flushBlock_events] at h ⊢
  split
  · rw [pend, List.isEmpty_iff.1 ‹st.raw.isEmpty = true›]; rfl
  · rw [if_neg ‹_›] at h
    exact flushInput_tagged cfg st h

theorem flushBlock_snd (cfg : Cfg) (st : LState) :
    (flushBlock cfg st).2.raw = [] ∧ (flushBlock cfg st).2.blockCounter = st.blockCounter + 1 ∧
    (flushBlock cfg st).2.blockType =
      (if cfg.firstBlock.value + (st.blockCounter + 1) < 3 then BlockType.ofValue (cfg.firstBlock.value + (st.blockCounter + 1))
       else st.blockType) := ⟨rfl, rfl, rfl⟩

theorem stepData_plain (cfg : Cfg) (st : LState) (line : Str) (c : Bool) (evs1 : List Event) (raw1 : List Str)
    (r : List Event × LState) (hr : stepData cfg st line c evs1 raw1 = r) (h : Plain r.1) :
    r.1.flatMap evTagged = evs1.flatMap evTagged ∧ r.2.raw = raw1 ++ [rstrip (line.take cfg.lineLength)] ∧
    r.2.blockCounter = st.blockCounter ∧ r.2.blockType = st.blockType ∧ Plain evs1 := by
  subst hr
  unfold stepData at h ⊢
  by_cases h1 : hasRaise evs1 = true
  · rw [if_pos h1] at h
    exact nomatch h1.symm.trans h.noRaise
  · rw [if_neg h1] at h ⊢
    by_cases h2 : (startsWith (lstrip (line.take Gen.blankSpaceContinue)) ['#'] && !c) = true
    · rw [if_pos h2] at h
      cases h.append_right _ (List.mem_singleton_self _)
    · rw [if_neg h2] at h ⊢
      refine ⟨?_, rfl, rfl, rfl, h.append_left⟩
      rw [List.flatMap_append]
      split <;> exact List.append_nil _

theorem stepLine_blank (cfg : Cfg) (st : LState) (l : Str) (hb : isBlank l = true) :
    stepLine cfg st l = ((flushBlock cfg st).1, { (flushBlock cfg st).2 with hasNonComments := false }) := by
  unfold stepLine
  exact if_pos hb

theorem stepLine_content (cfg : Cfg) (st : LState) (l : Str) (hb : isBlank l = false) :
    ∃ evs1 raw1, stepLine cfg st l =
        stepData cfg st (expandtabs Gen.tabSize l) (isComment (expandtabs Gen.tabSize l)) evs1 raw1 ∧
      (Plain evs1 → evs1.flatMap evTagged ++ raw1.map (fun x => (st.blockType, x)) =
        st.raw.map (fun x => (st.blockType, x))) := by
  unfold stepLine
  rw [if_neg (by rw [show (strip (expandtabs Gen.tabSize l)).isEmpty = false from hb]; exact Bool.false_ne_true)]
  split
  · exact ⟨_, _, rfl, fun h => by rw [flushInput_plain cfg _ _ h, List.flatMap_singleton]; exact List.append_nil _⟩
  · exact ⟨_, _, rfl, fun _ => rfl⟩

theorem stopsAfter_eq (cfg : Cfg) (l : Str) (st' : LState) :
    stopsAfter cfg l st' = (isBlank l && decide (cfg.firstBlock.value + st'.blockCounter ≥ 3)) := rfl

/-- what is still to be handed over from state `st` on the lines `ls`: the open input, then what `kept` keeps -/
def todo (cfg : Cfg) (st : LState) (ls : List Str) : List (BlockType × Str) :=
  pend st ++ kept cfg st.blockCounter st.blockType ls

/-- one loop iteration of a plain run is one unfolding of `kept`: the lines it hands over, then what remains to be
    handed over from the state it leaves (only the open input when the loop stops here), are what remained before -/
theorem stepLine_kept (cfg : Cfg) (st : LState) (l : Str) (ls : List Str) (r : List Event × LState)
    (hr : stepLine cfg st l = r) (h : Plain r.1) :
    r.1.flatMap evTagged ++ (if stopsAfter cfg l r.2 then pend r.2 else todo cfg r.2 ls) = todo cfg st (l :: ls) := by
  rw [stopsAfter_eq]
  unfold todo
  cases hb : isBlank l with
  | true =>
    subst hr
    rw [stepLine_blank cfg st l hb] at h ⊢
    rw [kept_blank cfg _ _ ls hb, flushBlock_tagged cfg st h]
    -- `flush_block` leaves no open input, has counted the blank line and moved to the block the count names
    show _ ++ (if decide (cfg.firstBlock.value + (st.blockCounter + 1) ≥ 3) = true then [] else
      [] ++ kept cfg (st.blockCounter + 1) (if cfg.firstBlock.value + (st.blockCounter + 1) < 3 then _ else _) ls) = _
    by_cases hs : cfg.firstBlock.value + (st.blockCounter + 1) ≥ 3
    · rw [decide_eq_true hs, if_pos rfl, if_pos hs]
    · rw [decide_eq_false hs, if_neg Bool.false_ne_true, if_neg hs, if_pos (Nat.lt_of_not_ge hs)]
      rfl
  | false =>
    obtain ⟨evs1, raw1, e, hp⟩ := stepLine_content cfg st l hb
    obtain ⟨e1, e2, e3, e4, e5⟩ := stepData_plain cfg st _ _ _ _ r (e.symm.trans hr) h
    rw [Bool.false_and, if_neg Bool.false_ne_true, kept_content cfg _ _ ls hb, pend, e1, e2, e3, e4, List.map_append,
      List.append_assoc, ← List.append_assoc, hp e5]
    rfl

/-- **C19_reader_partition** — `read_data` loses, duplicates and reorders no line: the `input_lines` of the inputs it
    yields, in order and tagged with their block, are the non-blank lines of the file up to the blank line that ends
    the data block, each as stored.  For every file and every reader state on which the run yields only inputs and
    warnings (no read card, no vertical format — the cases C20 and C13 own). -/
theorem C19_reader_partition (cfg : Cfg) : ∀ (ls : List Str) (st : LState), Plain (goLines cfg st ls) →
    (goLines cfg st ls).flatMap evTagged =
      st.raw.map (fun l => (st.blockType, l)) ++ kept cfg st.blockCounter st.blockType ls := by
  intro ls st
  show _ → _ = todo cfg st ls
  induction st, ls using goLines_induct cfg with
  | nil st => exact fun h => (flushBlock_tagged cfg st h).trans (List.append_nil _).symm
  | raise st l ls hr => exact fun h => nomatch hr.symm.trans h.noRaise
  | stop st l ls _ hs =>
    intro h
    rw [List.flatMap_append, flushBlock_tagged cfg _ h.append_right, ← stepLine_kept cfg st l ls _ rfl h.append_left,
      if_pos hs]
  | go st l ls _ hs ih =>
    intro h
    rw [List.flatMap_append, ih h.append_right, ← stepLine_kept cfg st l ls _ rfl h.append_left, if_neg hs]

/-! ## what the writer lays out -/

/-- a line as `write_to_file` hands it to the file (before the `"\n"`) -/
structure Writable (cfg : Cfg) (l : Str) : Prop where
  noTab : ∀ c ∈ l, c ≠ '\t' ∧ c ≠ '\n' ∧ c ≠ '\r'
  fits : l.length ≤ cfg.lineLength
  stripped : rstrip l = l
  notBlank : (strip l).isEmpty = false

instance (cfg : Cfg) (l : Str) : Decidable (Writable cfg l) :=
  decidable_of_iff ((∀ c ∈ l, c ≠ '\t' ∧ c ≠ '\n' ∧ c ≠ '\r') ∧ l.length ≤ cfg.lineLength ∧ rstrip l = l ∧
      (strip l).isEmpty = false)
    ⟨fun ⟨a, b, c, d⟩ => ⟨a, b, c, d⟩, fun ⟨a, b, c, d⟩ => ⟨a, b, c, d⟩⟩

theorem expandtabsAux_noTab (tab : Nat) : ∀ (l : Str) (col : Nat), (∀ c ∈ l, c ≠ '\t') →
    expandtabsAux tab col l = l := by
  intro l
  induction l with
  | nil => intro _ _; rfl
  | cons c t ih =>
    intro col h
    rw [expandtabsAux, if_neg (by simpa using h c List.mem_cons_self),
      ih _ (fun d hd => h d (List.mem_cons_of_mem _ hd))]

theorem expandtabs_written (cfg : Cfg) (l : Str) (h : Writable cfg l) :
    expandtabs Gen.tabSize (l ++ ['\n']) = l ++ ['\n'] :=
  expandtabsAux_noTab _ _ 0 fun c hc => by
    rcases List.mem_append.1 hc with hc | hc
    · exact (h.noTab c hc).1
    · rw [List.mem_singleton.1 hc]; decide

theorem rstrip_snoc_newline (l : Str) : rstrip (l ++ ['\n']) = rstrip l := by
  rw [rstrip, List.reverse_append]; rfl

theorem rstrip_take_snoc (l : Str) (n : Nat) (h : l.length ≤ n) : rstrip ((l ++ ['\n']).take n) = rstrip l := by
  rw [List.take_append, List.take_of_length_le h]
  cases n - l.length with
  | zero => rw [List.take_zero, List.append_nil]
  | succ k => rw [List.take_succ_cons, List.take_nil, rstrip_snoc_newline]

theorem stored_written (cfg : Cfg) (l : Str) (h : Writable cfg l) : stored cfg (l ++ ['\n']) = l := by
  rw [stored, expandtabs_written cfg l h, rstrip_take_snoc l _ h.fits, h.stripped]

theorem isBlank_written (cfg : Cfg) (l : Str) (h : Writable cfg l) : isBlank (l ++ ['\n']) = false := by
  rw [isBlank, expandtabs_written cfg l h, strip, rstrip_snoc_newline]
  exact h.notBlank

theorem isBlank_empty : isBlank ['\n'] = true := by decide

/-- the lines of one block followed by the empty line that ends it, as they stand in the file -/
def blockText (ls : List Str) : List Str := (ls ++ [[]]).map (fun l => l ++ ['\n'])

theorem kept_block (cfg : Cfg) (ls : List Str) (h : ∀ l ∈ ls, Writable cfg l) (n : Nat) (bt : BlockType)
    (rest : List Str) :
    kept cfg n bt (blockText ls ++ rest) =
      ls.map (fun l => (bt, l)) ++
        (if cfg.firstBlock.value + (n + 1) ≥ 3 then []
         else kept cfg (n + 1) (BlockType.ofValue (cfg.firstBlock.value + (n + 1))) rest) := by
  induction ls with
  | nil => exact kept_blank cfg n bt rest isBlank_empty
  | cons l t ih =>
    have hl := h l List.mem_cons_self
    show kept cfg n bt ((l ++ ['\n']) :: (blockText t ++ rest)) = _
    rw [kept_content cfg n bt _ (isBlank_written cfg l hl), stored_written cfg l hl,
      ih (fun d hd => h d (List.mem_cons_of_mem _ hd))]
    rfl

/-- the body of a written file -/
def bodyText (c s d : List Str) : List Str := blockText c ++ blockText s ++ blockText d

/-- **C19_written_body_read** — every written line is filed in the block it was written in, once, in order;
    what follows the blank line that ends the data block is not read. -/
theorem C19_written_body_read (cfg : Cfg) (hf : cfg.firstBlock = .cell) (c s d extra : List Str)
    (hc : ∀ l ∈ c, Writable cfg l) (hs : ∀ l ∈ s, Writable cfg l) (hd : ∀ l ∈ d, Writable cfg l) :
    kept cfg 0 .cell (bodyText c s d ++ extra) =
      c.map (fun l => (BlockType.cell, l)) ++ s.map (fun l => (BlockType.surface, l)) ++
        d.map (fun l => (BlockType.data, l)) := by
  rw [bodyText, List.append_assoc, List.append_assoc, kept_block cfg c hc, kept_block cfg s hs,
    kept_block cfg d hd, hf]
  -- the counter of blank lines passes 1, 2, 3: surface block, data block, end of reading
  simp only [BlockType.value, BlockType.ofValue, Nat.zero_add, Nat.reduceAdd, Nat.reduceLeDiff, ge_iff_le, if_true,
    if_false, List.append_nil, List.append_assoc]

/-! ## the fixed point -/

/-- the lines of block `b` when every input read is formatted again (`fmt (parse bt raw)`) -/
def regenBlock (fmt : α → List Str) (parse : BlockType → List Str → α) (b : BlockType) (evs : List Event) : List Str :=
  evs.flatMap (fun e => match e with
    | .input bt raw => if bt = b then fmt (parse bt raw) else []
    | _ => [])

/-- the body written from what was read -/
def regen (fmt : α → List Str) (parse : BlockType → List Str → α) (evs : List Event) : List Str :=
  bodyText (regenBlock fmt parse .cell evs) (regenBlock fmt parse .surface evs) (regenBlock fmt parse .data evs)

/-- every input formats back to the lines it was read from (the lossless syntax tree; observed, not proved) -/
def Echo (fmt : α → List Str) (parse : BlockType → List Str → α) (evs : List Event) : Prop :=
  ∀ bt raw, Event.input bt raw ∈ evs → fmt (parse bt raw) = raw

/-- the block-wise form of the hypothesis: the objects of a block, formatted in order, give the lines of the block's
    inputs in order.  Weaker than `Echo`: a comment card may leave the input the reader filed it with and be printed
    by the neighbouring object, and a material may print the MT input that follows it. -/
def EchoB (fmt : α → List Str) (parse : BlockType → List Str → α) (evs : List Event) : Prop :=
  ∀ b, regenBlock fmt parse b evs = ((evs.flatMap evTagged).filter (fun x => x.1 = b)).map (·.2)

theorem tag_filter (b b' : BlockType) (ls : List Str) :
    ((ls.map (fun l => (b', l))).filter (fun x => x.1 = b)).map (·.2) = if b' = b then ls else [] := by
  rw [List.filter_map, List.map_map]
  split
  · rw [List.filter_eq_self.2 (fun _ _ => by simpa)]; exact List.map_id'' (fun _ => rfl) ls
  · rw [List.filter_eq_nil_iff.2 (fun _ _ => by simpa)]; rfl

theorem Echo.toEchoB {fmt : α → List Str} {parse : BlockType → List Str → α} {evs : List Event}
    (h : Echo fmt parse evs) : EchoB fmt parse evs := by
  intro b
  induction evs with
  | nil => rfl
  | cons e t ih =>
    have ht := ih (fun bt raw hm => h bt raw (List.mem_cons_of_mem _ hm))
    cases e with
    | input bt raw =>
      show (if bt = b then fmt (parse bt raw) else []) ++ regenBlock fmt parse b t = _
      rw [h bt raw List.mem_cons_self, ht, List.flatMap_cons, List.filter_append, List.map_append, evTagged,
        tag_filter]
    | _ => exact ht

theorem readData_tagged (cfg : Cfg) (ls : List Str) (h : Plain (readData cfg ls)) :
    (readData cfg ls).flatMap evTagged = kept cfg 0 cfg.firstBlock ls :=
  C19_reader_partition cfg ls (initState cfg) h

/-- **C19_generation** — reading the body of a file `write_to_file` wrote and formatting what was read gives
    the same body again, line for line, whatever follows it (`extra`), for every list of written lines whose
    reading is `Plain` and echoed by `fmt ∘ parse` (`EchoB`). -/
theorem C19_generation (fmt : α → List Str) (parse : BlockType → List Str → α) (cfg : Cfg)
    (hf : cfg.firstBlock = .cell) (c s d extra : List Str)
    (hc : ∀ l ∈ c, Writable cfg l) (hs : ∀ l ∈ s, Writable cfg l) (hd : ∀ l ∈ d, Writable cfg l)
    (hplain : Plain (readData cfg (bodyText c s d ++ extra)))
    (hecho : EchoB fmt parse (readData cfg (bodyText c s d ++ extra))) :
    regen fmt parse (readData cfg (bodyText c s d ++ extra)) = bodyText c s d := by
  rw [regen, hecho, hecho, hecho, readData_tagged cfg _ hplain, hf,
    C19_written_body_read cfg hf c s d extra hc hs hd]
  simp only [List.filter_append, List.map_append, tag_filter, if_true, reduceCtorEq, if_false, List.append_nil,
    List.nil_append]

/-! ### Non-vacuity: a concrete written body meets every hypothesis -/

def exCfg : Cfg := { lineLength := 128, firstBlock := .cell, path := "a.i".toList, chain := ["a.i".toList] }
def exC : List Str := ["c leading comment".toList, "1 0 -1 &".toList, "c inside".toList, "imp:n=1 $ note".toList,
  "2 0 1".toList, "     imp:n=0".toList]
def exS : List Str := ["1 so 1.5".toList]
def exD : List Str := ["mode n".toList, "c between".toList, "nps 10".toList]

def exRun : List Event := readData exCfg (bodyText exC exS exD ++ ["not read".toList])

/-- one evaluation, on lists of characters: the kernel is slow at decoding string literals -/
theorem exEval : (∀ l ∈ exC ++ exS ++ exD, Writable exCfg l) ∧ Plain exRun ∧ exRun.length = 5 := by
  unfold exRun exCfg exC exS exD
  repeat rw [String.toList_ofList]
  decide +kernel

theorem exWritable : ∀ l ∈ exC ++ exS ++ exD, Writable exCfg l := exEval.1

example : Plain (readData exCfg (bodyText exC exS exD ++ ["not read".toList])) := exEval.2.1

/-- the reader makes five inputs of the ten lines (a comment card travels with the input it follows or leads) … -/
example : (readData exCfg (bodyText exC exS exD ++ ["not read".toList])).length = 5 := exEval.2.2

/-- … and with formatters that echo, the regenerated body is the written body, the line after it is ignored -/
example : regen (fun (x : List Str) => x) (fun _ raw => raw)
    (readData exCfg (bodyText exC exS exD ++ ["not read".toList])) = bodyText exC exS exD :=
  C19_generation _ _ exCfg rfl exC exS exD _
    (fun l hl => exWritable l (by simp [hl])) (fun l hl => exWritable l (by simp [hl]))
    (fun l hl => exWritable l (by simp [hl])) exEval.2.1 (Echo.toEchoB (fun _ _ _ => rfl))

end MontePyVerif.Reader
