import MontePyVerif.Props.C04Core
import MontePyVerif.Props.C04Neutral
import MontePyVerif.Lemmas.RenumberLink
/-!
# C04, end to end — from the file read to the file written

`Props/C04Core.lean` proves the property for every *well-formed linked problem* (`WF`) and every
history of number assignments.  This file closes the two ends: a well-formed **file** (`WellFormed`,
decided by `WFile.wellFormedB` of `Spec/Refs.lean`) always links, the linked problem satisfies the
whole of `WF` (`C04_link_establishes_wf`), its unedited write has the reference structure of the
file (`C04_unedited_roundtrip`; literally the file when it is in normal form,
`C04_roundtrip_literal_partial`), and therefore (`C04_end_to_end`) for every well-formed file and
every finite sequence of number assignments every reference in the written file resolves to the
card / the cells it resolved to in the original.
-/
namespace MontePyVerif.Renumber
open MontePyVerif.Collection
open MontePyVerif.Spec.Refs

/-! ## From a file to a well-formed linked problem and back -/

/-- **Well-formed file** (numbers-only view), MCNP's own rules for a problem (DESIGN 5.2 well-formedness):
    card numbers unique per block, material numbers not 0, every number written at a reference site is
    carried by a card of the block it refers into, every universe a cell is filled with has a cell,
    a per-cell datum is given in one block only, a surface card has one pointer entry (transformation
    *or* periodic surface), a transformation number in a FILL stands inside a cell-block FILL entry. -/
structure WellFormed (wf : WFile) : Prop where
  unique : ∀ ck, (wf.numbers ck).Nodup
  matPos : ∀ m ∈ wf.mats, m.number ≠ 0
  refs : ∀ s ck n, wf.at s = some (ck, n) → n ∈ wf.numbers ck
  fillU : ∀ c, c < wf.cells.length → ∀ u ∈ wf.effFill c, ∃ c', c' < wf.cells.length ∧ wf.effU c' = u
  oneBlockU : wf.uCard.isSome = true → ∀ c ∈ wf.cells, c.u = none
  oneBlockFill : wf.fillCard.isSome = true → ∀ c ∈ wf.cells, c.fill = []
  surfOne : ∀ s ∈ wf.surfs, s.tr = none ∨ s.per = none
  fillTrInFill : ∀ c ∈ wf.cells, c.fillTr ≠ none → c.fill ≠ []

theorem optIn_sound {o : Option Int} {l : List Int} (h : optIn o l = true) {n : Int} (hn : o = some n) : n ∈ l := by
  subst hn
  simpa [optIn] using h

theorem refsOK_sound {wf : WFile} (h : wf.refsOK = true) (s : Site) (ck : CardKind) (n : Int)
    (hs : wf.at s = some (ck, n)) : n ∈ wf.numbers ck := by
  simp only [WFile.refsOK, Bool.and_eq_true, List.all_eq_true] at h
  obtain ⟨⟨hc, hsf⟩, hm⟩ := h
  cases s <;> simp only [WFile.at, Option.bind_eq_some_iff, Option.map_eq_some_iff] at hs <;>
    obtain ⟨x, hx, hs⟩ := hs <;> have hx := List.mem_of_getElem? hx
  case geom =>
    obtain ⟨l, hl, e⟩ := hs
    cases e
    exact of_decide_eq_true ((hc x hx).1.2 l (List.mem_of_getElem? hl))
  case cellMat =>
    split at hs
    · cases hs
    · rename_i hne
      cases hs
      simpa [hne] using (hc x hx).1.1
  case mt =>
    obtain ⟨t, ht, e⟩ := hs
    cases e
    exact optIn_sound (hm x hx) ht
  case surfTr =>
    obtain ⟨t, ht, e⟩ := hs
    cases e
    exact optIn_sound (hsf x hx).1 ht
  case surfPer =>
    obtain ⟨t, ht, e⟩ := hs
    cases e
    exact optIn_sound (hsf x hx).2 ht
  case fillTr =>
    obtain ⟨t, ht, e⟩ := hs
    cases e
    exact optIn_sound (hc x hx).2 ht

/-- **C04_wellFormedB_sound** — the decision procedure `WFile.wellFormedB` (Spec/Refs.lean; the driver
    evaluates it on every file of the differential run) implies `WellFormed`. -/
theorem C04_wellFormedB_sound (wf : WFile) (h : wf.wellFormedB = true) : WellFormed wf := by
  simp only [WFile.wellFormedB, Bool.and_eq_true, decide_eq_true_eq] at h
  obtain ⟨⟨⟨⟨⟨⟨⟨⟨⟨⟨u1, u2⟩, u3⟩, u4⟩, hmp⟩, hrefs⟩, hfill⟩, hbu⟩, hbf⟩, hso⟩, hft⟩ := h
  refine ⟨?_, ?_, refsOK_sound hrefs, ?_, ?_, ?_, ?_, ?_⟩
  · intro ck; cases ck <;> assumption
  · intro m hm
    have := List.all_eq_true.mp hmp m hm
    simpa using this
  · intro c hc u hu
    have := List.all_eq_true.mp (List.all_eq_true.mp hfill c (List.mem_range.mpr hc)) u hu
    obtain ⟨c', hc', he⟩ := List.any_eq_true.mp this
    exact ⟨c', List.mem_range.mp hc', by simpa using he⟩
  · intro hs c hc
    simp only [hs, Bool.not_true, Bool.false_or] at hbu
    have := List.all_eq_true.mp hbu c hc
    simpa using this
  · intro hs c hc
    simp only [hs, Bool.not_true, Bool.false_or] at hbf
    have := List.all_eq_true.mp hbf c hc
    simpa using this
  · intro s hs
    have := List.all_eq_true.mp hso s hs
    simpa using this
  · intro c hc hne
    have := List.all_eq_true.mp hft c hc
    simp only [Bool.or_eq_true, Option.isNone_iff_eq_none, Bool.not_eq_true', List.isEmpty_eq_false_iff] at this
    rcases this with h1 | h1
    · exact absurd h1 hne
    · exact h1

theorem mem_pushUniverses (u : Int) : ∀ (us acc : List Int), u ∈ pushUniverses acc us ↔ u ∈ acc ∨ u ∈ us
  | [], acc => by simp only [pushUniverses, List.not_mem_nil, or_false]
  | x :: t, acc => by
    simp only [pushUniverses]
    split
    · rename_i h
      rw [mem_pushUniverses u t acc, List.mem_cons]
      exact ⟨Or.imp_right Or.inr, fun h1 => h1.elim Or.inl fun h2 => h2.elim (fun e => Or.inl (e ▸ h)) Or.inr⟩
    · rw [mem_pushUniverses u t (acc ++ [x]), List.mem_append, List.mem_singleton, List.mem_cons, or_assoc]

theorem effU_mem_univNums (wf : WFile) (c : Nat) (hc : c < wf.cells.length) : wf.effU c ∈ univNums wf :=
  (mem_pushUniverses _ _ _).mpr (Or.inr (List.mem_map.mpr ⟨c, List.mem_range.mpr hc, rfl⟩))

/-- linking a well-formed file never fails (no `BrokenObjectLinkError`, no `KeyError`) -/
theorem link_succeeds (wf : WFile) (h : WellFormed wf) : ∃ p, link wf = some p := by
  have ucell := h.unique .cell; have usurf := h.unique .surf; have umat := h.unique .mat; have utr := h.unique .tr
  simp only [WFile.numbers] at ucell usurf umat utr
  obtain ⟨cl, hcl⟩ := mapM_exists
    (f := linkCell wf (mkColl (wf.cells.map (·.number))) (mkColl (wf.surfs.map (·.number)))
      (mkColl (wf.mats.map (·.number))) (mkColl wf.trs) (mkColl (univNums wf)))
    (l := List.range wf.cells.length) (by
      intro i hi
      have hi' : i < wf.cells.length := List.mem_range.mp hi
      have hc : wf.cells[i]? = some wf.cells[i] := List.getElem?_eq_getElem hi'
      apply linkCell_exists hc
      · intro hne
        exact lookup_of_mem umat (h.refs (.cellMat i) .mat _ (by simp only [WFile.at, hc, Option.bind_some, if_neg hne]))
      · intro l hl
        obtain ⟨j, hj, rfl⟩ := List.getElem_of_mem hl
        have := h.refs (.geom i j) _ _
          (by simp only [WFile.at, hc, Option.bind_some, List.getElem?_eq_getElem hj, Option.map_some]; rfl)
        cases hb : (wf.cells[i].geom[j]).1
        · simp only [hb] at this ⊢
          exact lookup_of_mem usurf this
        · simp only [hb] at this ⊢
          exact lookup_of_mem ucell this
      · exact lookup_of_mem (univNums_nodup wf) (effU_mem_univNums wf i hi')
      · intro f hf
        obtain ⟨c', hc', rfl⟩ := h.fillU i hi' f hf
        exact lookup_of_mem (univNums_nodup wf) (effU_mem_univNums wf c' hc')
      · intro t ht
        exact lookup_of_mem utr (h.refs (.fillTr i) .tr _ (by simp only [WFile.at, hc, Option.bind_some, ht, Option.map_some])))
  obtain ⟨sl, hsl⟩ := mapM_exists
    (f := linkSurf (mkColl (wf.surfs.map (·.number))) (mkColl wf.trs)) (l := wf.surfs) (by
      intro s hs
      obtain ⟨j, hj, rfl⟩ := List.getElem_of_mem hs
      apply linkSurf_exists
      · intro t ht
        exact lookup_of_mem utr (h.refs (.surfTr j) .tr _ (by simp only [WFile.at, List.getElem?_eq_getElem hj, Option.bind_some, ht, Option.map_some]))
      · intro t ht
        exact lookup_of_mem usurf (h.refs (.surfPer j) .surf _ (by simp only [WFile.at, List.getElem?_eq_getElem hj, Option.bind_some, ht, Option.map_some])))
  obtain ⟨ml, hml⟩ := mapM_exists (f := linkMat (mkColl (wf.mats.map (·.number)))) (l := wf.mats) (by
      intro m hm
      obtain ⟨j, hj, rfl⟩ := List.getElem_of_mem hm
      apply linkMat_exists
      intro t ht
      exact lookup_of_mem umat (h.refs (.mt j) .mat _ (by simp only [WFile.at, List.getElem?_eq_getElem hj, Option.bind_some, ht, Option.map_some])))
  simp only [univNums] at hcl
  simp only [link, hcl, hsl, hml]
  exact ⟨_, rfl⟩

/-! ### what linking leaves in the pointers: read back as `write` does they give the numbers of the file, and they
    point at members -/

theorem linked_objs {wf : WFile} {p : Prob} (L : Linked wf p) :
    p.cells.objs = List.range wf.cells.length ∧ p.surfs.objs = List.range wf.surfs.length ∧
    p.mats.objs = List.range wf.mats.length := by
  rw [L.cells, L.surfs, L.mats]
  exact ⟨congrArg List.range (List.length_map _), congrArg List.range (List.length_map _),
    congrArg List.range (List.length_map _)⟩

/-- what linking leaves in cell `i`, field by field: the pointers read back as the numbers of card `i`, and they
    point at members -/
structure LinkedCell (wf : WFile) (p : Prob) (i : Nat) (hi : i < wf.cells.length) : Prop where
  mat : (match (p.cell i).mat with | some m => p.mats.num m | none => 0) = wf.cells[i].mat
  matMem : ∀ m ∈ (p.cell i).mat, m ∈ p.mats.objs
  geom : (p.cell i).geom.map (unitHalfSpaceUpdateNode p) = wf.cells[i].geom
  geomMem : ∀ l ∈ (p.cell i).geom, l.target ∈ (p.coll (kindOf (if l.isCell then CardKind.cell else CardKind.surf))).objs
  univ : p.univs.num (p.cell i).univ = wf.effU i
  univMem : (p.cell i).univ ∈ p.univs.objs
  fill : (p.cell i).fill.map p.univs.num = wf.effFill i
  fillMem : ∀ u ∈ (p.cell i).fill, u ∈ p.univs.objs
  fillTr : (p.cell i).fillTr.map p.trs.num = wf.cells[i].fillTr
  fillTrMem : ∀ t ∈ (p.cell i).fillTr, t ∈ p.trs.objs

theorem linked_cell {wf : WFile} {p : Prob} (L : Linked wf p) {i : Nat}
    (hi : i < wf.cells.length) : LinkedCell wf p i hi := by
  obtain ⟨c, hci, hmat, hgeom, huniv, hfill, htr⟩ := linkCell_some (L.cell i hi)
  cases (List.getElem?_eq_getElem hi).symm.trans hci
  have hu := lookup_some (L.cacheOK .univ) huniv
  have hf := mapM_readback (fun _ _ => lookup_some (L.cacheOK .univ)) hfill
  have ht := optBind_readback (fun _ _ => lookup_some (L.cacheOK .tr)) htr
  suffices h : (_ ∧ _) ∧ (_ ∧ _) from ⟨h.1.1, h.1.2, h.2.1, h.2.2, hu.1, hu.2, hf.1, hf.2, ht.1, ht.2⟩
  refine ⟨?_, mapM_readback (fun a l hl => ?_) hgeom⟩
  · rcases hmat with ⟨h0, hn⟩ | ⟨_, m, hl, hm⟩
    · rw [hn]
      exact ⟨h0.symm, fun _ hm => nomatch hm⟩
    · rw [hm]
      obtain ⟨h1, h2⟩ := lookup_some (L.cacheOK .mat) hl
      exact ⟨h1, fun _ hx => Option.mem_some.mp hx ▸ h2⟩
  · obtain ⟨b, n⟩ := a
    obtain ⟨h1, h2⟩ := linkLeaf_some hl
    simp only [unitHalfSpaceUpdateNode, h1]
    cases b
    · obtain ⟨e, hm⟩ := lookup_some (L.cacheOK .surf) h2
      exact ⟨congrArg _ e, hm⟩
    · obtain ⟨e, hm⟩ := lookup_some (L.cacheOK .cell) h2
      exact ⟨congrArg _ e, hm⟩

theorem linked_surf {wf : WFile} {p : Prob} (L : Linked wf p) {i : Nat} {s : WSurf}
    (hs : wf.surfs[i]? = some s) :
    ((p.surf i).tr.map p.trs.num = s.tr ∧ ∀ t ∈ (p.surf i).tr, t ∈ p.trs.objs) ∧
    ((p.surf i).per.map p.surfs.num = s.per ∧ ∀ x ∈ (p.surf i).per, x ∈ p.surfs.objs) := by
  obtain ⟨h1, h2⟩ := linkSurf_some (L.surf i s hs)
  exact ⟨optBind_readback (fun _ _ => lookup_some (L.cacheOK .tr)) h1,
    optBind_readback (fun _ _ => lookup_some (L.cacheOK .surf)) h2⟩

theorem linked_mat {wf : WFile} {p : Prob} (L : Linked wf p) {i : Nat} {m : WMat}
    (hm : wf.mats[i]? = some m) :
    (p.mat i).mt.map p.mats.num = m.mt ∧ ∀ x ∈ (p.mat i).mt, x ∈ p.mats.objs :=
  optBind_readback (fun _ _ => lookup_some (L.cacheOK .mat)) (linkMat_some (L.mat i m hm))

theorem effFill_length_le_one {wf : WFile} (h : WellFormed wf) (hd : wf.fillCard.isSome = true) (c : Nat) :
    (wf.effFill c).length ≤ 1 := by
  unfold WFile.effFill
  cases hx : wf.cells[c]? with
  | none => simp
  | some x =>
    have hxe : x.fill = [] := h.oneBlockFill hd x (List.mem_of_getElem? hx)
    simp only [hxe, ne_eq, not_true_eq_false, if_false]
    cases wf.fillCard with
    | none => simp
    | some l =>
      simp only
      split <;> simp

/-- **C04_link_establishes_wf** — linking a well-formed file yields a problem that satisfies the WHOLE of
    `WF`: unique numbers in all five collections (C06's `Inv`), every pointer points at a member of the
    problem, a data-block FILL has one universe per cell, material numbers are not 0.  With
    `C04_wf_step` every state reachable from a read file by number assignments is well-formed. -/
theorem C04_link_establishes_wf (wf : WFile) (p : Prob) (h : WellFormed wf) (hl : link wf = some p) : WF p := by
  have L := link_linked hl
  have hk := C04_link_wf wf p hl h.unique
  have hinv := fun k => (hk k).1
  obtain ⟨oc, os, om⟩ := linked_objs L
  have cell := fun c (hc : c ∈ p.cells.objs) => linked_cell L (List.mem_range.mp (oc ▸ hc))
  have surf := fun s (hs : s ∈ p.surfs.objs) =>
    linked_surf L (List.getElem?_eq_getElem (List.mem_range.mp (os ▸ hs)))
  have mat := fun m (hm : m ∈ p.mats.objs) => List.mem_range.mp (om ▸ hm)
  refine ⟨hinv, fun k => (hk k).2,
    (closed_iff p).mpr ⟨fun c hc => (cell c hc).geomMem, fun c hc => (cell c hc).matMem, fun c hc _ => (cell c hc).fillTrMem,
      fun m hm => (linked_mat L (List.getElem?_eq_getElem (mat m hm))).2,
      fun s hs => (surf s hs).1.2, fun s hs _ => (surf s hs).2.2⟩,
    fun c hc => (cell c hc).univMem, fun c hc => (cell c hc).fillMem, fun hd c hc => ?_, fun m hm => ?_⟩
  · rw [← List.length_map (f := p.univs.num), (cell c hc).fill]
    exact effFill_length_le_one h (L.fillData ▸ hd) c
  · rw [L.mats, mkColl_num_lt (by rw [List.length_map]; exact mat m hm), List.getElem_map]
    exact h.matPos _ (List.getElem_mem (mat m hm))

/-! ### the cards a linked problem writes -/

theorem map_range_eq {α} (l : List α) (f : Nat → α) (h : ∀ i (hi : i < l.length), f i = l[i]) :
    (List.range l.length).map f = l := by
  apply List.ext_getElem
  · rw [List.length_map, List.length_range]
  · intro i _ h2
    rw [List.getElem_map, List.getElem_range, h i h2]

theorem effFill_of_ne {wf : WFile} {i : Nat} (hi : i < wf.cells.length) (hne : wf.cells[i].fill ≠ []) :
    wf.effFill i = wf.cells[i].fill := by
  simp only [WFile.effFill, List.getElem?_eq_getElem hi, hne, ne_eq, not_false_eq_true, if_true]

theorem cell_written {wf : WFile} {p : Prob} (h : WellFormed wf) (L : Linked wf p)
    {i : Nat} (hi : i < wf.cells.length) :
    cellUpdateValues p i =
      { wf.cells[i] with u := universeUpdateCellValues p i, fill := fillUpdateCellUniverses p i } := by
  have C := linked_cell L hi
  have hnum : p.cells.num i = wf.cells[i].number := by
    rw [L.cells, mkColl_num_lt (by rw [List.length_map]; exact hi), List.getElem_map]
  have hft : fillUpdateCellTransform p i = wf.cells[i].fillTr := by
    rw [fillUpdateCellTransform, C.fillTr]
    by_cases hn : wf.cells[i].fillTr = none
    · rw [hn, ite_self]
    · -- a fill transform stands in a cell-block FILL entry: the fill is written in the cell block, and not empty
      have hx := List.getElem_mem hi
      have hfne := h.fillTrInFill _ hx hn
      have hfd : p.fillData = false :=
        L.fillData ▸ Bool.eq_false_iff.mpr fun hd => hfne (h.oneBlockFill hd _ hx)
      refine if_pos ⟨hfd, fun he => hfne ?_⟩
      rw [← effFill_of_ne hi hfne, ← C.fill, he]
      rfl
  simp only [cellUpdateValues, WCell.mk.injEq, true_and]
  exact ⟨hnum, C.mat, C.geom, hft⟩

theorem surf_written {wf : WFile} {p : Prob} (h : WellFormed wf) (L : Linked wf p)
    {i : Nat} (hi : i < wf.surfs.length) : surfaceUpdateValues p i = wf.surfs[i] := by
  obtain ⟨⟨htr, _⟩, ⟨hper, _⟩⟩ := linked_surf L (List.getElem?_eq_getElem hi)
  have hnum : p.surfs.num i = wf.surfs[i].number := by
    rw [L.surfs, mkColl_num_lt (by rw [List.length_map]; exact hi), List.getElem_map]
  have hp : (match (p.surf i).tr with | some _ => none | none => (p.surf i).per.map p.surfs.num) = wf.surfs[i].per := by
    cases ht : (p.surf i).tr with
    | none => exact hper
    | some t =>
      -- a surface card has one pointer entry
      rw [ht] at htr
      rcases h.surfOne _ (List.getElem_mem hi) with h' | h'
      · rw [h'] at htr; cases htr
      · exact h'.symm
  show WSurf.mk _ _ _ = ⟨wf.surfs[i].number, wf.surfs[i].tr, wf.surfs[i].per⟩
  rw [hnum, htr]
  exact congrArg _ hp

theorem mat_written {wf : WFile} {p : Prob} (L : Linked wf p)
    {i : Nat} (hi : i < wf.mats.length) : thermalUpdateValues p i = wf.mats[i] := by
  have hnum : p.mats.num i = wf.mats[i].number := by
    rw [L.mats, mkColl_num_lt (by rw [List.length_map]; exact hi), List.getElem_map]
  show WMat.mk _ _ = ⟨wf.mats[i].number, wf.mats[i].mt⟩
  rw [hnum, (linked_mat L (List.getElem?_eq_getElem hi)).1]

theorem surfs_written {wf : WFile} {p : Prob} (h : WellFormed wf) (L : Linked wf p) :
    (write p).surfs = wf.surfs := by
  show p.surfs.objs.map (surfaceUpdateValues p) = _
  rw [(linked_objs L).2.1]
  exact map_range_eq _ _ fun i hi => surf_written h L hi

theorem mats_written {wf : WFile} {p : Prob} (L : Linked wf p) :
    (write p).mats = wf.mats := by
  show p.mats.objs.map (thermalUpdateValues p) = _
  rw [(linked_objs L).2.2]
  exact map_range_eq _ _ fun i hi => mat_written L hi

theorem resolve_congr {w1 w2 : WFile} {ck : CardKind} (h : w1.numbers ck = w2.numbers ck) (n : Int) :
    resolve w1 ck n = resolve w2 ck n := by
  unfold resolve; rw [h]

theorem cellsIn_congr {w1 w2 : WFile} (hlen : w1.cells.length = w2.cells.length)
    (h : ∀ c, c < w2.cells.length → w1.effU c = w2.effU c) (n : Int) : w1.cellsIn n = w2.cellsIn n := by
  unfold WFile.cellsIn
  rw [hlen]
  apply List.filter_congr
  intro i hi
  rw [h i (List.mem_range.mp hi)]

/-- **C04_unedited_roundtrip** — the unedited round trip of the reference structure: the problem linked
    from a well-formed file writes, card by card, the card numbers of the file, at every reference site
    the number the file has there (and nothing where the file has nothing), for every cell the universe
    it is in and the universes it is filled with (matrix entries included); so every look-up — of cards
    and of universes — gives in the written file what it gives in the original. -/
theorem C04_unedited_roundtrip (wf : WFile) (p : Prob) (h : WellFormed wf) (hl : link wf = some p) :
    (∀ ck, (write p).numbers ck = wf.numbers ck) ∧
    (∀ s, (write p).at s = wf.at s) ∧
    (∀ c, c < wf.cells.length → (write p).effU c = wf.effU c ∧ (write p).effFill c = wf.effFill c) ∧
    (∀ n, (write p).cellsIn n = wf.cellsIn n) ∧
    (∀ ck n, resolve (write p) ck n = resolve wf ck n) := by
  have L := link_linked hl
  have hwf := C04_link_establishes_wf wf p h hl
  obtain ⟨oc, os, om⟩ := linked_objs L
  have hnum : ∀ ck, (write p).numbers ck = wf.numbers ck := by
    intro ck
    rw [numbers_write]
    cases ck <;> simp only [kindOf, Prob.coll, WFile.numbers]
    · rw [L.cells]; exact mkColl_nums _
    · rw [L.surfs]; exact mkColl_nums _
    · rw [L.mats]; exact mkColl_nums _
    · rw [L.trs]; exact mkColl_nums _
  have hu : ∀ c, c < wf.cells.length → (write p).effU c = wf.effU c ∧ (write p).effFill c = wf.effFill c := by
    intro c hc
    have hobj : p.cells.objs[c]? = some c := by rw [oc]; exact List.getElem?_range hc
    have C := linked_cell L hc
    exact ⟨(effU_write p c c hobj).trans C.univ, (effFill_write p hwf.fillOne c c hobj).trans C.fill⟩
  refine ⟨hnum, ?_, hu, ?_, fun ck n => resolve_congr (hnum ck) n⟩
  · -- `at` reads the cards, and not the universe or the fill
    have hC : ∀ c, (write p).cells[c]? = (wf.cells[c]?).map fun x : WCell =>
        { x with u := universeUpdateCellValues p c, fill := fillUpdateCellUniverses p c } := by
      intro c
      show (p.cells.objs.map (cellUpdateValues p))[c]? = _
      rw [oc, List.getElem?_map]
      by_cases hc : c < wf.cells.length
      · rw [List.getElem?_range hc, List.getElem?_eq_getElem hc, Option.map_some, Option.map_some,
          cell_written h L hc]
      · rw [List.getElem?_eq_none (by rw [List.length_range]; exact Nat.le_of_not_lt hc),
          List.getElem?_eq_none (Nat.le_of_not_lt hc)]
        rfl
    intro s
    cases s <;> simp only [WFile.at, hC, surfs_written h L, mats_written L]
    case geom c i => cases wf.cells[c]? <;> rfl
    case cellMat c => cases wf.cells[c]? <;> rfl
    case fillTr c => cases wf.cells[c]? <;> rfl
  · intro n
    apply cellsIn_congr
    · show (p.cells.objs.map _).length = _
      rw [oc, List.length_map, List.length_range]
    · intro c hc; exact (hu c hc).1

/-- **C04_end_to_end** — for EVERY well-formed file and EVERY finite sequence of number assignments
    (valid ones are applied, invalid ones are rejected and change nothing): MontePy links the file, and in
    the file written after the history
    * every block has as many cards as in the original (card `i` is still object `i`),
    * at every site where the original has a reference a reference is written, and MCNP's look-up of the
      number written there finds exactly one card — the card (index) the original's number resolved to,
    * where the original has no reference none is written,
    * the cells in the universe of every cell, and in each universe a cell is filled with (single or
      matrix entry `j`), are the same cells as in the original.
    No hypothesis besides `WellFormed wf` remains between reading, renumbering and writing. -/
theorem C04_end_to_end (wf : WFile) (h : WellFormed wf) :
    ∃ p0, link wf = some p0 ∧ ∀ ops : List Op,
      (∀ ck, ((write (run p0 ops)).numbers ck).length = (wf.numbers ck).length) ∧
      (∀ s ck n, wf.at s = some (ck, n) → ∃ n', (write (run p0 ops)).at s = some (ck, n') ∧
        resolve (write (run p0 ops)) ck n' = resolve wf ck n ∧ (resolve wf ck n).isSome = true) ∧
      (∀ s, wf.at s = none → (write (run p0 ops)).at s = none) ∧
      (∀ c, c < wf.cells.length →
        (write (run p0 ops)).cellsIn ((write (run p0 ops)).effU c) = wf.cellsIn (wf.effU c) ∧
        ((write (run p0 ops)).effFill c).length = (wf.effFill c).length ∧
        ∀ (j : Nat) u, (wf.effFill c)[j]? = some u →
          ∃ u', ((write (run p0 ops)).effFill c)[j]? = some u' ∧ (write (run p0 ops)).cellsIn u' = wf.cellsIn u) := by
  obtain ⟨p0, hl⟩ := link_succeeds wf h
  refine ⟨p0, hl, ?_⟩
  intro ops
  have L := link_linked hl
  have hwf0 := C04_link_establishes_wf wf p0 h hl
  obtain ⟨hnum, hat, hu, hcin, hres⟩ := C04_unedited_roundtrip wf p0 h hl
  obtain ⟨hwf, hsh⟩ := run_wf p0 hwf0 ops
  obtain ⟨oc, _, _⟩ := linked_objs L
  refine ⟨?_, ?_, ?_, ?_⟩
  · intro ck
    rw [← hnum ck, numbers_write, numbers_write, List.length_map, List.length_map, hsh.objs]
  · intro s ck n hs
    have hs0 : (write p0).at s = some (ck, n) := by rw [hat]; exact hs
    rw [at_write hwf0] at hs0
    obtain ⟨x, hx, hxe⟩ := Option.map_eq_some_iff.mp hs0
    obtain ⟨ck', o⟩ := x
    simp only [Prod.mk.injEq] at hxe
    obtain ⟨rfl, _⟩ := hxe
    obtain ⟨n0, n', h0, h1, h2, h3⟩ := (C04_history p0 hwf0 ops).2 s ck' o hx
    have hn : n0 = n := by
      rw [hat, hs] at h0
      simpa using h0.symm
    subst hn
    refine ⟨n', h1, ?_, ?_⟩
    · rw [h2, hres]
    · rw [← hres, h3]; rfl
  · intro s hs
    have hs0 : (write p0).at s = none := by rw [hat]; exact hs
    rw [at_write hwf0] at hs0
    have hp : p0.ptr s = none := by simpa using hs0
    rw [at_write hwf, hsh.ptr, hp]; rfl
  · intro c hc
    have hobj : p0.cells.objs[c]? = some c := by rw [oc]; exact List.getElem?_range hc
    obtain ⟨h1, h2, h3, h4⟩ := C04_history_universe p0 hwf0 ops c c hobj
    refine ⟨?_, ?_, ?_⟩
    · rw [h1, hcin, (hu c hc).1]
    · rw [h2, ← (hu c hc).2, h3]; simp
    · intro j u hj
      rw [← (hu c hc).2, h3, List.getElem?_map] at hj
      obtain ⟨x, hx, rfl⟩ := Option.map_eq_some_iff.mp hj
      refine ⟨(run p0 ops).univs.num x, ?_, ?_⟩
      · rw [h2, List.getElem?_map, hx]; rfl
      · rw [h4 x (List.mem_of_getElem? hx), hcin]

/-! ### the literal round trip `write (link wf) = wf` -/

/-- **Normal form** of the numbers-only view (what MontePy writes, and what an MCNP reader makes of any file
    after dropping what carries no information): `U=0` is not written in a cell, a data-block `U` / `FILL`
    card has exactly one entry per cell and at least one entry that is not a jump. -/
structure Canonical (wf : WFile) : Prop where
  uNonzero : ∀ c ∈ wf.cells, c.u ≠ some 0
  uCard : ∀ l, wf.uCard = some l → l.length = wf.cells.length ∧ ∃ x ∈ l, x ≠ 0
  fillCard : ∀ l, wf.fillCard = some l → l.length = wf.cells.length ∧ ∃ x ∈ l, x ≠ none

theorem cell_roundtrip {wf : WFile} {p : Prob} (h : WellFormed wf) (hc : Canonical wf) (L : Linked wf p)
    {i : Nat} (hi : i < wf.cells.length) : cellUpdateValues p i = wf.cells[i] := by
  have C := linked_cell L hi
  have hx := List.getElem_mem hi
  have hxi := List.getElem?_eq_getElem hi
  have hu : universeUpdateCellValues p i = wf.cells[i].u := by
    rw [universeUpdateCellValues, C.univ, L.uData]
    cases huc : wf.uCard.isSome
    · have hnone : wf.uCard = none := by simpa using huc
      cases hxu : wf.cells[i].u with
      | none =>
        have : wf.effU i = 0 := by simp only [WFile.effU, hxi, hxu, hnone, Option.bind_some]
        simp [this]
      | some n =>
        have : wf.effU i = n := by simp only [WFile.effU, hxi, hxu, Option.bind_some]
        have hn0 : n ≠ 0 := fun e => hc.uNonzero _ hx (by rw [hxu, e])
        simp [this, hn0]
    · simp [h.oneBlockU huc _ hx]
  have hfl : fillUpdateCellUniverses p i = wf.cells[i].fill := by
    rw [fillUpdateCellUniverses, C.fill, L.fillData]
    cases hfc : wf.fillCard.isSome
    · have hnone : wf.fillCard = none := by simpa using hfc
      by_cases he : wf.cells[i].fill = []
      · simp [WFile.effFill, hxi, he, hnone]
      · simp [effFill_of_ne hi he]
    · simp [h.oneBlockFill hfc _ hx]
  rw [cell_written h L hi, hu, hfl]

/-- **C04_roundtrip_literal_partial** — for a well-formed file in normal form, `write (link wf)` IS the
    file: MontePy's unedited write changes no number and no reference, literally. -/
theorem C04_roundtrip_literal_partial (wf : WFile) (p : Prob) (h : WellFormed wf) (hc : Canonical wf)
    (hl : link wf = some p) : write p = wf := by
  have L := link_linked hl
  have oc := (linked_objs L).1
  have hcellU : ∀ i, i < wf.cells.length → p.univs.num (p.cell i).univ = wf.effU i :=
    fun i hi => (linked_cell L hi).univ
  have hcellF : ∀ i, i < wf.cells.length → (p.cell i).fill.map p.univs.num = wf.effFill i :=
    fun i hi => (linked_cell L hi).fill
  show WFile.mk _ _ _ _ _ _ = ⟨wf.cells, wf.surfs, wf.mats, wf.trs, wf.uCard, wf.fillCard⟩
  congr 1
  · rw [oc]
    exact map_range_eq _ _ fun i hi => cell_roundtrip h hc L hi
  · exact surfs_written h L
  · exact mats_written L
  · rw [L.trs]; exact mkColl_nums _
  · show universeCollectNewValues p = wf.uCard
    rw [universeCollectNewValues, L.uData, oc]
    cases hu : wf.uCard with
    | none => exact if_neg fun hn => nomatch hn.1
    | some l =>
      obtain ⟨hlen, x, hxl, hx0⟩ := hc.uCard l hu
      have hval : ∀ i (hi : i < l.length), p.univs.num (p.cell i).univ = l[i] := by
        intro i hi
        have hi' : i < wf.cells.length := hlen ▸ hi
        have hxu : wf.cells[i].u = none := h.oneBlockU (by rw [hu]; rfl) _ (List.getElem_mem hi')
        rw [hcellU i hi']
        simp only [WFile.effU, List.getElem?_eq_getElem hi', hxu, hu, Option.bind_some, List.getD_eq_getElem?_getD,
          List.getElem?_eq_getElem hi, Option.getD_some]
      obtain ⟨j, hj, rfl⟩ := List.getElem_of_mem hxl
      rw [← hlen, map_range_eq _ _ hval]
      exact if_pos ⟨rfl, List.any_eq_true.mpr ⟨j, List.mem_range.mpr hj, by rw [hval j hj]; exact decide_eq_true hx0⟩⟩
  · show fillCollectNewValues p = wf.fillCard
    rw [fillCollectNewValues, L.fillData, oc]
    cases hu : wf.fillCard with
    | none => exact if_neg fun hn => nomatch hn.1
    | some l =>
      obtain ⟨hlen, x, hxl, hx0⟩ := hc.fillCard l hu
      have hval : ∀ i (hi : i < l.length), (p.cell i).fill.map p.univs.num = l[i].toList := by
        intro i hi
        have hi' : i < wf.cells.length := hlen ▸ hi
        have hxf : wf.cells[i].fill = [] := h.oneBlockFill (by rw [hu]; rfl) _ (List.getElem_mem hi')
        rw [hcellF i hi']
        simp only [WFile.effFill, List.getElem?_eq_getElem hi', hxf, ne_eq, not_true_eq_false, if_false, hu,
          List.getElem?_eq_getElem hi]
        cases l[i] <;> rfl
      have hhead : ∀ i (hi : i < l.length), (p.cell i).fill.head?.map p.univs.num = l[i] := by
        intro i hi
        rw [← List.head?_map, hval i hi]
        cases l[i] <;> rfl
      obtain ⟨j, hj, rfl⟩ := List.getElem_of_mem hxl
      rw [← hlen, map_range_eq _ _ hhead]
      refine if_pos ⟨rfl, List.any_eq_true.mpr ⟨j, List.mem_range.mpr hj, decide_eq_true fun he => hx0 ?_⟩⟩
      rw [← hhead j hj, he]
      rfl

/-- **C04_roundtrip_literal_refuted** — without the normal form the literal equation is false (of any
    faithful writer, not only of MontePy): `U=0` on a cell card is read as "not in a universe" and not
    written back.  The reference structure is unchanged all the same (`C04_unedited_roundtrip`). -/
theorem C04_roundtrip_literal_refuted :
    ∃ wf p, WellFormed wf ∧ link wf = some p ∧ write p ≠ wf := by
  refine ⟨{ cells := [{ number := 1, mat := 0, geom := [(false, 1)], u := some 0, fill := [], fillTr := none }],
            surfs := [{ number := 1, tr := none, per := none }], mats := [], trs := [], uCard := none, fillCard := none },
          _, C04_wellFormedB_sound _ (by decide), rfl, by decide⟩

/-! ### Non-vacuity of `WellFormed` / `Canonical`, matrix fills, data-block cards -/

example : WellFormed exFile := C04_wellFormedB_sound _ (by decide)
example : Canonical exFile := ⟨by decide, (by intro l h; cases h), (by intro l h; cases h)⟩

/-- a lattice cell filled with a 2x2 matrix of two universes (`fill=0:1 0:1 0:0 5 6 6 5`): every matrix
    entry is a universe reference -/
def exLattice : WFile :=
  { cells := [{ number := 1, mat := 0, geom := [(false, 1)], u := none, fill := [5, 6, 6, 5], fillTr := none },
              { number := 2, mat := 0, geom := [(false, 1)], u := some 5, fill := [], fillTr := none },
              { number := 3, mat := 0, geom := [(false, 1), (true, 2)], u := some 6, fill := [], fillTr := none }]
    surfs := [{ number := 1, tr := none, per := none }], mats := [], trs := [], uCard := none, fillCard := none }

example : exLattice.wellFormedB = true := by decide
example : Canonical exLattice := ⟨by decide, (by intro l h; cases h), (by intro l h; cases h)⟩
example : (link exLattice).map write = some exLattice := by decide +kernel
/-- universes 5 ↦ 50, then 6 ↦ 5: every matrix entry follows its universe object, and so do the `U` entries -/
example : (link exLattice).map (fun p => (write (run p [⟨.univ, 1, 50⟩, ⟨.univ, 2, 5⟩])).cells.map (fun c => (c.u, c.fill))) =
    some [(none, [50, 5, 5, 50]), (some 50, []), (some 5, [])] := by decide +kernel

/-- **Per-kind resolution.** Numbers of different kinds coincide everywhere: cell 5, surface 5, material 5 (+MT5),
    transform 5 and universe 5 — `5 5 … -5 #6 fill=5 (5)`, surface `5 5 pz` (transform 5), surface `6 -5 pz`
    (periodic with surface 5), a matrix fill `5 6 6 5 (6)` whose entries include its transform's number.
    The file is written as a function of the numbers of the cell, the surface, the material, the two transforms and
    the universe that all carry 5 (resp. 6) in the original: each parameter occurs exactly at the sites of its kind. -/
def exCoincideWith (c5 s5 m5 t5 t6 u5 : Int) : WFile :=
  { cells := [{ number := c5, mat := m5, geom := [(false, s5), (true, 6)], u := none, fill := [u5], fillTr := some t5 },
              { number := 6, mat := 0, geom := [(false, s5)], u := some u5, fill := [], fillTr := none },
              { number := 7, mat := 0, geom := [(false, 6), (true, c5)], u := some 6, fill := [], fillTr := none },
              { number := 8, mat := 0, geom := [(false, 6)], u := none, fill := [u5, 6, 6, u5], fillTr := some t6 }]
    surfs := [{ number := s5, tr := some t5, per := none }, { number := 6, tr := none, per := some s5 }]
    mats := [{ number := m5, mt := some m5 }], trs := [t5, t6], uCard := none, fillCard := none }

def exCoincide : WFile := exCoincideWith 5 5 5 5 6 5

example : exCoincide.wellFormedB = true := by decide
example : (link exCoincide).map write = some exCoincide := by decide +kernel
/-- the number 5 resolves per kind: card 0 of each block, and the cells in universe 5 -/
example : (resolve exCoincide .cell 5, resolve exCoincide .surf 5, resolve exCoincide .mat 5, resolve exCoincide .tr 5,
    exCoincide.cellsIn 5) = (some 0, some 0, some 0, some 0, [1]) := by decide
/-- TRANSFORM 5 ↦ 9: the TR card, `fill=5 (9)` and the surface's transform pointer follow; the fill UNIVERSE 5, the
    matrix entries 5, `U=5`, cell 5, surface 5 (and the periodic pointer to it), material 5 and MT5 are left alone -/
example : (link exCoincide).map (fun p => write (run p [⟨.tr, 0, 9⟩])) = some (exCoincideWith 5 5 5 9 6 5) := by decide +kernel
/-- UNIVERSE 5 ↦ 9 (universe objects: 0 ↦ 0, 1 ↦ 5, 2 ↦ 6): `fill=9 (5)`, the matrix entries `9 6 6 9 (6)` and `U=9`
    follow; every transform site (fill transform 5, surface transform 5, TR5) and every other kind is left alone -/
example : (link exCoincide).map (fun p => write (run p [⟨.univ, 1, 9⟩])) = some (exCoincideWith 5 5 5 5 6 9) := by decide +kernel
/-- TR5 and TR6 swapped through the temporary number 99: exactly the three transform sites and the two TR cards swap;
    `fill=5 (6)` keeps universe 5, the matrix `5 6 6 5 (5)` keeps all four entries -/
example : (link exCoincide).map (fun p => write (run p [⟨.tr, 0, 99⟩, ⟨.tr, 1, 5⟩, ⟨.tr, 0, 6⟩])) =
    some (exCoincideWith 5 5 5 6 5 5) := by decide +kernel
/-- SURFACE 5 ↦ 9, CELL 5 ↦ 9, MATERIAL 5 ↦ 9: each moves its own card and the sites of its kind only -/
example : (link exCoincide).map (fun p => write (run p [⟨.surf, 0, 9⟩])) = some (exCoincideWith 5 9 5 5 6 5) := by decide +kernel
example : (link exCoincide).map (fun p => write (run p [⟨.cell, 0, 9⟩])) = some (exCoincideWith 9 5 5 5 6 5) := by decide +kernel
example : (link exCoincide).map (fun p => write (run p [⟨.mat, 0, 9⟩])) = some (exCoincideWith 5 5 9 5 6 5) := by decide +kernel
/-- all five kinds move to five different numbers, in one history: every site shows the number of ITS kind -/
example : (link exCoincide).map (fun p => write (run p [⟨.cell, 0, 11⟩, ⟨.surf, 0, 12⟩, ⟨.mat, 0, 13⟩, ⟨.tr, 0, 14⟩, ⟨.univ, 1, 15⟩])) =
    some (exCoincideWith 11 12 13 14 6 15) := by decide +kernel

/-- per-cell data in the data block (`u j 5 5` / `fill 5 2j`), in normal form -/
def exData : WFile :=
  { cells := [{ number := 1, mat := 0, geom := [(false, 1)], u := none, fill := [], fillTr := none },
              { number := 2, mat := 0, geom := [(false, 1)], u := none, fill := [], fillTr := none },
              { number := 3, mat := 0, geom := [(false, 1), (true, 2)], u := none, fill := [], fillTr := none }]
    surfs := [{ number := 1, tr := none, per := none }], mats := [], trs := []
    uCard := some [0, 5, 5], fillCard := some [some 5, none, none] }

example : exData.wellFormedB = true := by decide
example : Canonical exData :=
  ⟨by decide,
   (by intro l h; simp only [exData, Option.some.injEq] at h; subst h; exact ⟨rfl, 5, by decide, by decide⟩),
   (by intro l h; simp only [exData, Option.some.injEq] at h; subst h; exact ⟨rfl, some 5, by decide, by decide⟩)⟩
example : (link exData).map write = some exData := by decide +kernel
example : (link exData).map (fun p => let w := write (run p [⟨.univ, 1, 9⟩]); (w.uCard, w.fillCard)) =
    some (some [0, 9, 9], some [some 9, none, none]) := by decide +kernel

/-- a file that is NOT well-formed (a cell filled with a universe no cell is in) is rejected by the decision
    procedure — and MontePy's link fails on it (`KeyError` from `universes[number]`) -/
example : ({ exLattice with cells := exLattice.cells.take 2 } : WFile).wellFormedB = false := by decide
example : link ({ exLattice with cells := exLattice.cells.take 2 } : WFile) = none := by decide

end MontePyVerif.Renumber
