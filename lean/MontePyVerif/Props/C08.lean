import MontePyVerif.Model.ListNode
import MontePyVerif.Model.ShortcutParse
import MontePyVerif.Spec.Shortcut
import MontePyVerif.Gen.Shortcuts
/-!
# C08 — shortcuts expand as MCNP defines and re-compress without changing values

For all inputs, with no bound on sizes: `update_with_new_values` neither loses, duplicates nor reorders a value node
(`C08_consume_inv`) and a shortcut only holds nodes it stood for, or fresh ones (`C08_unedited_no_regroup`); the words
`format` then writes are read by the Spec as the new values (`C08_recompress`, with `_keep_own_nodes`
`C08_recompress_full`); for every token list of the grammar G the parse-time expansion (`Model/ShortcutParse.lean`)
accepts exactly when the Spec does and yields exactly its values (`C08_expand`).

The loop of `_expand_shortcuts` has one invariant (`PassInv`: values in order, every node of the right kind and one the
shortcut may hold); what the written words denote is `Sound`, which composes (`Sound.append`); parse-time expansion and
the Spec reader are related token by token (`sim`).
-/
namespace MontePyVerif.C08
open MontePyVerif.Model.Shortcut MontePyVerif.Model.ListNode

/-! ## What `consume_edge_node` does to a shortcut -/

/-- `_can_consume_node` leaves the kind, the run ids and the nodes of the shortcut as they are -/
theorem canConsume_frame (s : Sc) (n : Leaf) (f l : Bool) :
    (canConsumeNode s n f l).2.kind = s.kind ∧ (canConsumeNode s n f l).2.runIds = s.runIds ∧
      (canConsumeNode s n f l).2.nodes = s.nodes := by
  unfold canConsumeNode
  repeat' split
  all_goals exact ⟨rfl, rfl, rfl⟩

theorem consume_eq {s : Sc} {n : Leaf} {f l ok : Bool} {s' : Sc} (h : consumeEdgeNode s n f l = (ok, s')) :
    s'.kind = s.kind ∧ s'.runIds = s.runIds ∧
      s'.nodes = if ok then (if f then s.nodes ++ [n] else n :: s.nodes) else s.nodes := by
  unfold consumeEdgeNode at h
  have hc := canConsume_frame s n f l
  generalize canConsumeNode s n f l = r at h hc
  obtain ⟨ok0, s0⟩ := r
  cases ok0 <;> cases h
  · exact hc
  · exact ⟨hc.1, hc.2.1, by rw [← hc.2.2]; rfl⟩

theorem consume_fst (s : Sc) (n : Leaf) (f l : Bool) :
    (consumeEdgeNode s n f l).1 = (canConsumeNode s n f l).1 := by
  unfold consumeEdgeNode
  generalize canConsumeNode s n f l = r
  obtain ⟨ok, s0⟩ := r
  cases ok <;> rfl

theorem gconsume_eq {s : Sc} {n : Leaf} {f l ok : Bool} {s' : Sc} (h : guardedConsume s n f l = (ok, s')) :
    s'.kind = s.kind ∧ s'.runIds = s.runIds ∧
      s'.nodes = if ok then (if f then s.nodes ++ [n] else n :: s.nodes) else s.nodes := by
  unfold guardedConsume at h
  split at h
  · exact consume_eq h
  · cases h
    exact ⟨rfl, rfl, rfl⟩

/-- a jump shortcut only ever consumes jumps (values that are `None`) -/
theorem C08_jump_only_none (s : Sc) (n : Leaf) (f l : Bool) (hk : s.kind = .jmp)
    (h : (consumeEdgeNode s n f l).1 = true) : n.val = none := by
  rw [consume_fst, canConsumeNode, hk] at h
  exact Option.isNone_iff_eq_none.mp h

/-- a non-empty repeat run only grows at its end by a value that matches the FIRST node of the run (the one
    whose text is written), never merely its neighbour (repaired by fix 8f01ae2) -/
theorem C08_repeat_matches_first (s : Sc) (first : Leaf) (rest : List Leaf) (n : Leaf) (l : Bool)
    (hk : s.kind = .rep) (hn : s.nodes = first :: rest)
    (h : (consumeEdgeNode s n true l).1 = true) : isSameRepeatValue first n = true := by
  rw [consume_fst, canConsumeNode, hk] at h
  simp only [hn] at h
  exact h

/-- growing at the front, the new first node has to match every node already in the run -/
theorem C08_repeat_front_matches_all (s : Sc) (first : Leaf) (rest : List Leaf) (n : Leaf) (l : Bool)
    (hk : s.kind = .rep) (hn : s.nodes = first :: rest)
    (h : (consumeEdgeNode s n false l).1 = true) : ∀ o ∈ s.nodes, isSameRepeatValue o n = true := by
  rw [consume_fst, canConsumeNode, hk] at h
  simp only [hn] at h
  rw [hn]
  exact List.all_eq_true.mp h

/-- a multiply never covers more than two values -/
theorem C08_multiply_at_most_two (s : Sc) (n : Leaf) (f l : Bool) (hk : s.kind = .mul)
    (h : (consumeEdgeNode s n f l).1 = true) : s.nodes.length ≤ 1 := by
  rw [consume_fst, canConsumeNode, hk] at h
  match hn : s.nodes with
  | [] => simp
  | [_] => simp
  | _ :: _ :: _ => simp [hn] at h

theorem sameRepeat_some (e n : Leaf) (h : isSameRepeatValue e n = true) : n.val.isSome = true := by
  unfold isSameRepeatValue at h
  split at h
  · simp at h
  · split at h
    · rename_i hn; simp [hn]
    · simp at h

theorem validEdge_some (s : Sc) (n : Leaf) (f : Bool) (h : isValidInterpolateEdge s n f = true) :
    n.val.isSome = true := by
  unfold isValidInterpolateEdge at h
  split at h
  · simp at h
  · rename_i hn; simp [hn]

theorem consume_val (s : Sc) (n : Leaf) (f l : Bool) (h : (consumeEdgeNode s n f l).1 = true) :
    (s.kind = Kind.jmp → n.val = none) ∧ (s.kind ≠ Kind.jmp → n.val.isSome = true) := by
  refine ⟨fun hk => C08_jump_only_none s n f l hk h, fun hk => ?_⟩
  rw [consume_fst, canConsumeNode] at h
  cases hkind : s.kind with
  | jmp => exact absurd hkind hk
  | rep =>
    rw [hkind] at h
    simp only at h
    split at h
    · exact h
    · rename_i first rest hn
      cases f with
      | true => exact sameRepeat_some first n h
      | false =>
        rw [hn] at h
        exact sameRepeat_some first n (List.all_eq_true.mp h first List.mem_cons_self)
  | lin | log => rw [hkind] at h; exact validEdge_some s n f h
  | mul =>
    rw [hkind] at h
    simp only at h
    split at h
    · simp at h
    · rename_i hnone
      simpa [Option.isSome_iff_ne_none] using hnone

/-! ## The pass of `_expand_shortcuts` -/

/-- a jump shortcut holds only jumps; every other shortcut holds only numbers -/
def ScOk (s : Sc) : Prop :=
  (s.kind = Kind.jmp → ∀ n ∈ s.nodes, n.val = none) ∧ (s.kind ≠ Kind.jmp → ∀ n ∈ s.nodes, n.val.isSome = true)

def ItemOk : Item → Prop
  | .leaf l => l.val.isSome = true
  | .sc _ s => ScOk s

/-- every node a shortcut holds is one it stood for when it was bound (or, for a left-off jump, the node it was
    made for), or a fresh node (new to the list, or its value changed since the last rebuild) -/
def RunOk (s : Sc) : Prop := ∀ n ∈ s.nodes, s.runIds.contains n.id = true ∨ n.fresh = true

def ItemRun : Item → Prop
  | .leaf _ => True
  | .sc _ s => RunOk s

theorem good_nil {s : Sc} (h : s.nodes = []) : ScOk s ∧ RunOk s := by
  simp [ScOk, RunOk, h]

theorem consume_good {s : Sc} {n : Leaf} {f l ok : Bool} {s' : Sc} (h : consumeEdgeNode s n f l = (ok, s'))
    (hg : ScOk s ∧ RunOk s) (hn : s.runIds.contains n.id = true ∨ n.fresh = true) : ScOk s' ∧ RunOk s' := by
  obtain ⟨hk, hr, hnodes⟩ := consume_eq h
  have hval : ok = true → _ := fun hok => consume_val s n f l (by rw [h]; exact hok)
  have hall : ∀ {P : Leaf → Prop}, (∀ m ∈ s.nodes, P m) → (ok = true → P n) → ∀ m ∈ s'.nodes, P m := by
    intro P hs hP m hm
    rw [hnodes] at hm
    cases ok
    · exact hs m hm
    · cases f
      · rcases List.mem_cons.mp hm with rfl | hm
        · exact hP rfl
        · exact hs m hm
      · rcases List.mem_append.mp hm with hm | hm
        · exact hs m hm
        · rw [List.mem_singleton.mp hm]
          exact hP rfl
  unfold ScOk RunOk
  rw [hk, hr]
  exact ⟨⟨fun hj => hall (hg.1.1 hj) fun hok => (hval hok).1 hj,
    fun hj => hall (hg.1.2 hj) fun hok => (hval hok).2 hj⟩, hall hg.2 fun _ => hn⟩

theorem gconsume_good {s : Sc} {n : Leaf} {f l ok : Bool} {s' : Sc} (h : guardedConsume s n f l = (ok, s'))
    (hg : ScOk s ∧ RunOk s) : ScOk s' ∧ RunOk s' := by
  unfold guardedConsume at h
  split at h
  · rename_i hm
    exact consume_good h hg (by simpa [mayTake] using hm)
  · cases h
    exact hg

/-- the invariant of the loop of `_expand_shortcuts`: the items decided so far hold exactly the values seen so far,
    in order; plain nodes hold numbers; every shortcut holds values of its kind that it may hold -/
def PassInv (out : List Item) (done : List Leaf) : Prop :=
  flatRev out = done ∧ ∀ it ∈ out, ItemOk it ∧ ItemRun it

theorem PassInv.leaf {out : List Item} {done : List Leaf} (h : PassInv out done) {l : Leaf}
    (hl : l.val.isSome = true) :
    PassInv (Item.leaf l :: out) (done ++ [l]) :=
  ⟨congrArg (· ++ [l]) h.1, List.forall_mem_cons.mpr ⟨⟨hl, trivial⟩, h.2⟩⟩

theorem PassInv.sc {out : List Item} {done : List Leaf} (h : PassInv out done) (sid : Int) {s : Sc}
    (hs : ScOk s ∧ RunOk s) :
    PassInv (Item.sc sid s :: out) (done ++ s.nodes) :=
  ⟨congrArg (· ++ s.nodes) h.1, List.forall_mem_cons.mpr ⟨hs, h.2⟩⟩

theorem PassInv.of_cons {it : Item} {out : List Item} {done : List Leaf} (h : PassInv (it :: out) done) :
    (ItemOk it ∧ ItemRun it) ∧ ∃ d, done = d ++ it.leaves ∧ PassInv out d :=
  ⟨(List.forall_mem_cons.mp h.2).1, flatRev out, h.1.symm, rfl, (List.forall_mem_cons.mp h.2).2⟩

theorem inv_orphan {out : List Item} {done : List Leaf} (v : Leaf) (h : PassInv out done) :
    PassInv (checkForOrphanJump out v).1 (done ++ [v]) := by
  unfold checkForOrphanJump
  split
  · rename_i hnone
    split
    rename_i ok s heq
    -- the jump shortcut made for `v` takes it
    have hok : ok = true := (congrArg Prod.fst heq).symm.trans ((consume_fst _ v true false).trans hnone)
    subst hok
    have := h.sc (-1) (consume_good heq (good_nil rfl) (.inl (by simp)))
    rwa [(consume_eq heq).2.2] at this
  · rename_i hsome
    exact h.leaf (by simpa [Option.isSome_iff_ne_none] using hsome)

theorem inv_reverseExp (sid : Int) (budget : Nat) : ∀ (s : Sc) (out : List Item) (done : List Leaf),
    PassInv (Item.sc sid s :: out) done →
    PassInv (Item.sc sid (tryReverseExpansion s budget out).1 :: (tryReverseExpansion s budget out).2) done := by
  induction budget with
  | zero => exact fun _ _ _ h => h
  | succ b ih =>
    intro s out done h
    unfold tryReverseExpansion
    split
    · rename_i l rest
      split
      rename_i ok s' heq
      obtain ⟨hs, d, rfl, hr⟩ := h.of_cons
      have hs' := gconsume_good heq hs
      have hn := (gconsume_eq heq).2.2
      cases ok
      · have h1 := hr.sc sid hs'
        rwa [hn] at h1
      · obtain ⟨_, d', rfl, hr'⟩ := hr.of_cons
        have h2 := hr'.sc sid hs'
        rw [hn] at h2
        exact ih s' rest _ (by simpa [Item.leaves] using h2)
    · exact h

theorem inv_stepPlain {st : PassSt} {done : List Leaf} (v : Leaf) (h : PassInv st.out done) :
    PassInv (stepPlain st v).out (done ++ [v]) := by
  unfold stepPlain
  split
  · rename_i sid s rest _ hout
    rw [hout] at h
    obtain ⟨hs, d, rfl, hr⟩ := h.of_cons
    simp only
    generalize heq : guardedConsume s v true _ = r
    obtain ⟨ok, s1⟩ := r
    have h1 := hr.sc sid (gconsume_good heq hs)
    rw [(gconsume_eq heq).2.2] at h1
    cases ok
    · exact inv_orphan v h1
    · simpa [Item.leaves] using h1
  · exact inv_orphan v h

/-- a slot is well bound: the shortcut bound to it is empty and stood for the node of the slot -/
def SlotOk (q : Leaf × Option (Int × Sc)) : Prop :=
  ∀ r, q.2 = some r → r.2.nodes = [] ∧ r.2.runIds.contains q.1.id = true

theorem inv_stepPass {st : PassSt} {done : List Leaf} (v : Leaf) (b : Option (Int × Sc)) (hb : SlotOk (v, b))
    (h : PassInv st.out done) : PassInv (stepPass st v b).out (done ++ [v]) := by
  unfold stepPass
  split
  · rename_i sid s
    obtain ⟨hnil, hrun⟩ := hb (sid, s) rfl
    simp only
    generalize heq : consumeEdgeNode s v true _ = r
    obtain ⟨ok, s1⟩ := r
    cases ok
    · exact inv_stepPlain v h
    · refine inv_reverseExp sid _ s1 st.out _ ?_
      -- the bound shortcut was empty: it now holds `v` alone, before it walks back
      have h1 := h.sc sid (consume_good heq (good_nil hnil) (.inl hrun))
      rwa [(consume_eq heq).2.2, hnil] at h1
  · exact inv_stepPlain v h

theorem inv_expandShortcuts (slots : List (Leaf × Option (Int × Sc))) (st : PassSt) (done : List Leaf)
    (hb : ∀ q ∈ slots, SlotOk q) (h : PassInv st.out done) :
    PassInv (expandShortcuts slots st).out (done ++ slots.map (·.1)) := by
  induction slots generalizing st done with
  | nil => rw [List.map_nil, List.append_nil]; exact h
  | cons q rest ih =>
    have := ih _ _ (fun q hq => hb q (List.mem_cons_of_mem _ hq)) (inv_stepPass q.1 q.2 (hb q List.mem_cons_self) h)
    rwa [List.append_assoc] at this

theorem bindOne_spec (vals : List Leaf) (slots : List (Leaf × Option (Int × Sc))) (p : Int × Sc)
    (h : ∀ q ∈ slots, SlotOk q) :
    (bindOne vals slots p).map (·.1) = slots.map (·.1) ∧ ∀ q ∈ bindOne vals slots p, SlotOk q := by
  unfold bindOne
  split
  · exact ⟨rfl, h⟩
  · rename_i n hfind
    constructor
    · rw [List.map_map]
      exact List.map_congr_left fun q _ => by simp only [Function.comp]; split <;> rfl
    · intro q hq
      obtain ⟨q0, hq0, rfl⟩ := List.mem_map.mp hq
      split
      · rename_i hid
        intro r hr
        cases hr
        exact ⟨rfl, List.contains_iff_mem.mpr
          (List.mem_map.mpr ⟨n, List.mem_of_find?_eq_some hfind, (beq_iff_eq.mp hid).symm⟩)⟩
      · exact h q0 hq0

theorem bind_spec (scs : List (Int × Sc)) (vals : List Leaf) :
    (bindShortcuts scs vals).map (·.1) = vals ∧ ∀ q ∈ bindShortcuts scs vals, SlotOk q := by
  unfold bindShortcuts
  suffices ∀ slots : List (Leaf × Option (Int × Sc)), slots.map (·.1) = vals → (∀ q ∈ slots, SlotOk q) →
      (scs.foldl (bindOne vals) slots).map (·.1) = vals ∧ ∀ q ∈ scs.foldl (bindOne vals) slots, SlotOk q from
    this _ (by simp [Function.comp_def]) fun q hq r hr => by
      obtain ⟨v, _, rfl⟩ := List.mem_map.mp hq
      cases hr
  induction scs with
  | nil => exact fun _ h1 h2 => ⟨h1, h2⟩
  | cons p rest ih =>
    intro slots h1 h2
    obtain ⟨g1, g2⟩ := bindOne_spec vals slots p h2
    exact ih _ (g1.trans h1) g2

theorem pass_inv (scs : List (Int × Sc)) (vals : List Leaf) :
    PassInv (expandShortcuts (bindShortcuts scs vals) ⟨[], false, 0, 0⟩).out vals := by
  have := inv_expandShortcuts _ ⟨[], false, 0, 0⟩ [] (bind_spec scs vals).2 ⟨rfl, fun _ h => nomatch h⟩
  rwa [List.nil_append, (bind_spec scs vals).1] at this

/-! ## The final pops; nothing is lost -/

/-- the leaves of the trailing jump shortcuts that `update_with_new_values` drops ("jumps the user left off"),
    on the items most recent first -/
def poppedRev : List Item → List Leaf
  | Item.sc _ s :: rest => if s.kind == Kind.jmp && s.origLen == 0 then poppedRev rest ++ s.nodes else []
  | _ => []

def poppedLeaves (items : List Item) : List Leaf := poppedRev items.reverse

theorem flatten_reverse (out : List Item) : flatten out.reverse = flatRev out := by
  induction out with
  | nil => rfl
  | cons x rest ih => simp [flatten, flatRev] at *; rw [ih]

theorem flatRev_pop (out : List Item) : flatRev (popRev out) ++ poppedRev out = flatRev out := by
  induction out with
  | nil => rfl
  | cons it rest ih =>
    cases it with
    | leaf l => exact List.append_nil _
    | sc sid s =>
      simp only [popRev, poppedRev]
      split
      · rw [← List.append_assoc, ih]; rfl
      · exact List.append_nil _

theorem mem_popRev (out : List Item) (it : Item) (h : it ∈ popRev out) : it ∈ out := by
  induction out with
  | nil => exact h
  | cons x rest ih =>
    cases x with
    | leaf l => exact h
    | sc sid s =>
      simp only [popRev] at h
      split at h
      · exact List.mem_cons_of_mem _ (ih h)
      · exact h

theorem mem_update {scs : List (Int × Sc)} {vals : List Leaf} {it : Item} (h : it ∈ updateWithNewValues scs vals) :
    it ∈ (expandShortcuts (bindShortcuts scs vals) ⟨[], false, 0, 0⟩).out := by
  unfold updateWithNewValues popTrailingJump at h
  split at h
  · nomatch h
  · rw [List.mem_reverse, List.reverse_reverse] at h
    exact mem_popRev _ it h

/-- For every list of original shortcuts and every list of new value nodes, the nodes of the list after
    `update_with_new_values`, flattened (`list(ListNode)`), followed by the nodes of the trailing user-left-off jump
    that is dropped on purpose, are exactly `new_vals`, in order: nothing is lost, duplicated or reordered by binding,
    forward expansion, reverse expansion or orphan jumps. -/
theorem C08_consume_inv (scs : List (Int × Sc)) (vals : List Leaf) :
    flatten (updateWithNewValues scs vals) ++
      poppedLeaves (expandShortcuts (bindShortcuts scs vals) ⟨[], false, 0, 0⟩).out.reverse = vals := by
  have h := (pass_inv scs vals).1
  rw [← flatRev_pop] at h
  unfold updateWithNewValues popTrailingJump poppedLeaves
  rw [List.reverse_reverse]
  split
  · rename_i hv
    rw [List.isEmpty_iff.mp hv] at h ⊢
    exact (List.append_eq_nil_iff.mp h).2
  · simp only [List.reverse_reverse, flatten_reverse]
    exact h

/-- non-vacuity: a bound repeat that consumes forward and backward, an orphan jump, and the trailing pop -/
example :
    let mk (i : Nat) (v : Option Rat) : Leaf := ⟨i, v, 0, "", "", false, false, true⟩
    let rep : Sc := { orphanJump with kind := .rep, nodes := [mk 2 (some 1)], origLen := 2 }
    let vals := [mk 0 (some 5), mk 1 (some 1), mk 2 (some 1), mk 3 (some 1), mk 4 none]
    ((updateWithNewValues [(0, rep)] vals).map (fun it => match it with
        | .leaf l => [l.id] | .sc _ s => s.nodes.map (·.id))) = [[0], [1, 2, 3]] := by decide

theorem poppedRev_none (out : List Item) (h : ∀ it ∈ out, ItemOk it) : ∀ l ∈ poppedRev out, l.val = none := by
  induction out with
  | nil => exact fun _ hl => nomatch hl
  | cons it rest ih =>
    intro l hl
    cases it with
    | leaf _ => nomatch hl
    | sc sid s =>
      simp only [poppedRev] at hl
      split at hl
      · rename_i hcond
        simp only [Bool.and_eq_true, beq_iff_eq] at hcond
        rcases List.mem_append.mp hl with hl | hl
        · exact ih (fun it hit => h it (List.mem_cons_of_mem _ hit)) l hl
        · exact (h (Item.sc sid s) List.mem_cons_self).1 hcond.1 l hl
      · nomatch hl

/-! ## The Spec reader -/
open MontePyVerif.Spec.Shortcut in
/-- the reader is a fold: reading `xs ++ ys` is reading `ys` from the state `xs` leaves -/
theorem C08_run_append : ∀ (xs ys : List Entry) (s : St),
    run (xs ++ ys) s = (run xs s).bind (run ys) := by
  intro xs ys
  induction xs with
  | nil => exact fun _ => rfl
  | cons x xs ih =>
    intro s
    simp only [List.cons_append, run]
    cases step s x with
    | none => rfl
    | some s' => exact ih s'

open MontePyVerif.Spec.Shortcut in
/-- `x nR` reads as `n+1` copies of `x` -/
theorem C08_spec_repeat (x : Rat) (n : Nat) :
    expand [Entry.num x, Entry.rep (some n)] = some (List.replicate (n + 1) (Val.num x)) := rfl

open MontePyVerif.Spec.Shortcut in
/-- `nJ` reads as `n` defaults, and neither `R` nor `xM` may continue from a jump -/
theorem C08_spec_jump (n : Nat) (x : Rat) :
    expand [Entry.jmp (some n)] = some (List.replicate n Val.jump) ∧
    expand [Entry.jmp (some n), Entry.rep none] = none ∧
    expand [Entry.jmp (some n), Entry.mul x] = none := ⟨rfl, rfl, rfl⟩

open MontePyVerif.Spec.Shortcut in
/-- `a xM yM` reads as `a, a*x, a*x*y` -/
theorem C08_spec_multiply (a x y : Rat) :
    expand [Entry.num a, Entry.mul x, Entry.mul y] = some [Val.num a, Val.num (a * x), Val.num (a * x * y)] := rfl

/-- the code has exactly the five shortcut kinds, written with exactly the letters, that `Model.Shortcut.Kind`,
    the harness' serialiser and the Spec's word reader (`parseWord`: suffixes r, j, i, ilog/log, m) assume;
    the table is regenerated from `shortcuts.py` on every run, so a new or renamed shortcut re-opens this proof -/
theorem C08_tables :
    MontePyVerif.Gen.shortcutLetters =
      [("REPEAT", "r"), ("JUMP", "j"), ("INTERPOLATE", "i"), ("LOG_INTERPOLATE", "ilog"), ("MULTIPLY", "m")] := rfl

open MontePyVerif.Spec.Shortcut (Entry Val St step run expand isClose matchesAll between)

/-! ## Re-compression: the written words read back as the values -/

/-- the MCNP word a word of the model's output stands for (a plain node whose value is `None` has no word) -/
def Word.toEntry : Word → Option Entry
  | .num l => l.val.map Entry.num
  | .rep n shown => some (Entry.rep (if shown then some n else none))
  | .mul x => some (Entry.mul x)
  | .jmp n shown => some (Entry.jmp (if shown then some n else none))
  | .lin n shown => some (Entry.lin (if shown then some n else none))
  | .log n shown => some (Entry.log (if shown then some n else none))

def entries : List Word → Option (List Entry)
  | [] => some []
  | w :: ws => match Word.toEntry w, entries ws with
    | some e, some es => some (e :: es)
    | _, _ => none

/-- the Spec reader run directly on the model's words -/
def runW : List Word → St → Option St
  | [], s => some s
  | w :: ws, s => match Word.toEntry w with
    | none => none
    | some e => match step s e with
      | none => none
      | some s' => runW ws s'

theorem runW_append (a b : List Word) (s : St) : runW (a ++ b) s = (runW a s).bind (runW b) := by
  induction a generalizing s with
  | nil => rfl
  | cons w a ih =>
    simp only [List.cons_append, runW]
    cases Word.toEntry w with
    | none => rfl
    | some e =>
      simp only
      cases step s e with
      | none => rfl
      | some s' => exact ih s'

theorem runW_entries (ws : List Word) (s s' : St) (h : runW ws s = some s') :
    ∃ es, entries ws = some es ∧ run es s = some s' := by
  induction ws generalizing s with
  | nil => exact ⟨[], rfl, h⟩
  | cons w ws ih =>
    simp only [runW] at h
    split at h
    · simp at h
    · rename_i e he
      split at h
      · simp at h
      · rename_i s1 hs1
        obtain ⟨es, h1, h2⟩ := ih s1 h
        exact ⟨e :: es, by simp [entries, he, h1], by simp [run, hs1, h2]⟩

/-- position by position, same length -/
def MatchL : List Val → List (Option Rat) → Prop
  | [], [] => True
  | v :: vs, y :: ys => v.matches y = true ∧ MatchL vs ys
  | _, _ => False

theorem MatchL_append (a : List Val) (c : List (Option Rat)) (b : List Val) (d : List (Option Rat))
    (h : MatchL a c) (h2 : MatchL b d) : MatchL (a ++ b) (c ++ d) := by
  induction a generalizing c with
  | nil => cases c with
    | nil => exact h2
    | cons _ _ => exact h.elim
  | cons v a ih => cases c with
    | nil => exact h.elim
    | cons y c => exact ⟨h.1, ih c h.2⟩

theorem matchesAll_of_MatchL (vs : List Val) (ys zs : List (Option Rat)) (h : MatchL vs ys)
    (hz : ∀ z ∈ zs, z = none) : matchesAll vs (ys ++ zs) = true := by
  induction vs generalizing ys with
  | nil => cases ys with
    | nil => exact List.all_eq_true.mpr fun z hzm => by rw [hz z hzm]; rfl
    | cons _ _ => exact h.elim
  | cons v vs ih => cases ys with
    | nil => exact h.elim
    | cons y ys =>
      simp only [List.cons_append, matchesAll, Bool.and_eq_true]
      exact ⟨h.1, ih ys h.2⟩

theorem rabs_sub (a b : Rat) : rabs (b - a) = rabs (a - b) := by
  unfold rabs; grind

theorem rabs_nonneg (x : Rat) : 0 ≤ rabs x := by unfold rabs; grind

theorem isclose_sound (a b : Rat) (h : isclose a b = true) : isClose a b = true := by
  show (decide (rabs (a - b) ≤ rabs (relTol * a)) || decide (rabs (a - b) ≤ rabs (relTol * b))
    || decide (rabs (a - b) ≤ absTol)) = true
  unfold isclose at h
  split at h
  · subst a
    have h0 : rabs (b - b) = 0 := by rw [Rat.sub_self]; rfl
    simp [h0, rabs_nonneg]
  · rw [rabs_sub] at h
    simp only [Bool.or_eq_true, decide_eq_true_eq] at h ⊢
    rcases h with (h | h) | h
    · exact .inl (.inr h)
    · exact .inl (.inl h)
    · exact .inr h

theorem isClose_refl (a : Rat) : isClose a a = true := isclose_sound a a (by simp [isclose])

/-! ### each shortcut text denotes its run -/

/-- reading `ws` from the Spec state `S` succeeds, leaves no interpolation open, appends values that match
    `leaves` position by position, and leaves `tail` as the previous entry -/
def Sound (ws : List Word) (tail : Option Rat) (leaves : List Leaf) (S : St) : Prop :=
  ∃ S', runW ws S = some S' ∧ S'.pend = none ∧
    (∃ vs, S'.out = S.out ++ vs ∧ MatchL vs (leaves.map (·.val))) ∧ ∀ t, tail = some t → S'.prev = some t

/-- what is read after `ws1` may rely on the state `ws1` leaves: nothing pending, its tail the previous entry -/
theorem Sound.append {ws1 ws2 : List Word} {t1 t2 : Option Rat} {l1 l2 : List Leaf} {S : St}
    (h1 : Sound ws1 t1 l1 S)
    (h2 : ∀ S', S'.pend = none → (∀ t, t1 = some t → S'.prev = some t) → Sound ws2 t2 l2 S') :
    Sound (ws1 ++ ws2) t2 (l1 ++ l2) S := by
  obtain ⟨S1, r1, p1, ⟨v1, o1, m1⟩, q1⟩ := h1
  obtain ⟨S2, r2, p2, ⟨v2, o2, m2⟩, q2⟩ := h2 S1 p1 q1
  refine ⟨S2, ?_, p2, ⟨v1 ++ v2, ?_, ?_⟩, q2⟩
  · rw [runW_append, r1]; exact r2
  · rw [o2, o1, List.append_assoc]
  · rw [List.map_append]; exact MatchL_append _ _ _ _ m1 m2

theorem Sound.nil (S : St) (hp : S.pend = none) : Sound [] S.prev [] S :=
  ⟨S, rfl, hp, ⟨[], (List.append_nil _).symm, trivial⟩, fun _ h => h⟩

/-- the shape in which the lemmas about single words meet `Sound` -/
theorem Sound.of_run {ws : List Word} {S : St} {vs : List Val} {p : Option Rat} {ls : List Leaf}
    (hrun : runW ws S = some ⟨S.out ++ vs, p, none⟩) (hm : MatchL vs (ls.map (·.val))) : Sound ws p ls S :=
  ⟨_, hrun, rfl, ⟨vs, rfl, hm⟩, fun _ h => h⟩

theorem Sound.tail_none {ws : List Word} {t : Option Rat} {ls : List Leaf} {S : St} :
    Sound ws t ls S → Sound ws none ls S
  | ⟨S', r, p, m, _⟩ => ⟨S', r, p, m, fun _ h => nomatch h⟩

theorem MatchL_one (x y : Rat) (l : Leaf) (hl : l.val = some y) (h : isClose x y = true) :
    MatchL [Val.num x] ([l].map (·.val)) := by
  rw [List.map_cons, hl]
  exact ⟨h, trivial⟩

theorem sound_num (l : Leaf) (a : Rat) (S : St) (ha : l.val = some a) (hp : S.pend = none) :
    Sound [Word.num l] (some a) [l] S :=
  .of_run (by simp only [runW, Word.toEntry, ha, Option.map_some, step, hp]) (MatchL_one a a l ha (isClose_refl a))

theorem sound_nums (nodes : List Leaf) (S : St) (hs : ∀ n ∈ nodes, n.val.isSome = true) (hp : S.pend = none) :
    Sound (nodes.map Word.num) (match nodes.getLast? with | some l => l.val | none => S.prev) nodes S := by
  induction nodes generalizing S with
  | nil => exact Sound.nil S hp
  | cons l ls ih =>
    obtain ⟨a, ha⟩ := Option.isSome_iff_exists.mp (hs l List.mem_cons_self)
    refine (sound_num l a S ha hp).append fun S' hp' hprev => ?_
    have := ih S' (fun n hn => hs n (List.mem_cons_of_mem _ hn)) hp'
    rw [hprev a rfl, ← ha] at this
    rw [List.getLast?_cons]
    cases hl : ls.getLast? <;> simpa [hl] using this

theorem sound_explicit (s : Sc) (S : St) (hp : S.pend = none) (hs : ∀ n ∈ s.nodes, n.val.isSome = true) :
    Sound (formatExplicit s).words (formatExplicit s).tail s.nodes S := by
  have := sound_nums s.nodes S hs hp
  unfold formatExplicit
  cases hl : s.nodes.getLast? with
  | none => rw [hl] at this; exact this.tail_none
  | some l => rw [hl] at this; exact this

theorem countText_getD (s : Sc) (n : Nat) :
    (if (countText s n).2 = true then some n else none : Option Nat).getD 1 = n := by
  unfold countText
  split
  · rename_i hc
    simp only [Bool.and_eq_true, beq_iff_eq] at hc
    simp [hc.1]
  · simp

theorem MatchL_replicate (v : Val) (nodes : List Leaf) (h : ∀ n ∈ nodes, v.matches n.val = true) :
    MatchL (List.replicate nodes.length v) (nodes.map (·.val)) := by
  induction nodes with
  | nil => trivial
  | cons l ls ih => exact ⟨h l List.mem_cons_self, ih fun n hn => h n (List.mem_cons_of_mem _ hn)⟩

theorem sound_jump (s : Sc) (S : St) (hp : S.pend = none) (hn : ∀ n ∈ s.nodes, n.val = none) :
    Sound (formatJump s).words (formatJump s).tail s.nodes S := by
  unfold formatJump
  simp only
  split
  · rename_i h0
    have hnil : s.nodes = [] := List.eq_nil_of_length_eq_zero (by simpa using h0)
    rw [hnil]
    exact (Sound.nil S hp).tail_none
  · exact .of_run (by simp only [runW, Word.toEntry, step, hp, countText_getD])
      (MatchL_replicate Val.jump s.nodes fun n hm => by rw [hn n hm]; rfl)

theorem allRepeat_matches (c : Rat) (nodes : List Leaf) (h : allRepeat c nodes = true) :
    ∀ l ∈ nodes, (Val.num c).matches l.val = true := by
  intro l hl
  have h1 := List.all_eq_true.mp h l hl
  split at h1
  · simp at h1
  · rename_i y hy
    rw [hy]
    split at h1
    · exact isclose_sound c y h1
    · rw [beq_iff_eq.mp h1]
      exact isClose_refl y

theorem sound_rep (s : Sc) (c : Rat) (nodes : List Leaf) (S : St) (hp : S.pend = none) (hprev : S.prev = some c)
    (h : allRepeat c nodes = true) :
    Sound [Word.rep nodes.length (countText s nodes.length).2] (some c) nodes S :=
  .of_run (by simp only [runW, Word.toEntry, step, hp, hprev, countText_getD])
    (MatchL_replicate (Val.num c) nodes (allRepeat_matches c nodes h))

theorem sound_repeat (s : Sc) (carried : Option Rat) (S : St) (f : Fmt) (hp : S.pend = none)
    (hc : ∀ c, carried = some c → S.prev = some c) (h : formatRepeat s carried = some f) :
    Sound f.words f.tail s.nodes S := by
  unfold formatRepeat at h
  simp only at h
  split at h
  · rename_i c heq
    obtain ⟨hcar, hall⟩ : carried = some c ∧ allRepeat c s.nodes = true := by
      cases carried <;> simp at heq
      obtain ⟨⟨_, hall⟩, rfl⟩ := heq
      exact ⟨rfl, hall⟩
    simp only [Option.some.injEq] at h
    subst h
    exact sound_rep s c s.nodes S hp (hc c hcar) hall
  · split at h
    · rename_i first rest hn
      split at h
      · rename_i a ha
        split at h
        · rename_i hcond
          simp only [Bool.and_eq_true] at hcond
          simp only [Option.some.injEq] at h
          subst h
          rw [hn]
          exact (sound_num first a S ha hp).append fun S' hp' hprev =>
            sound_rep s a rest S' hp' (hprev a rfl) hcond.2
        · simp at h
      · simp at h
    · simp at h

theorem sound_mul (b w p : Rat) (l : Leaf) (S : St) (hp : S.pend = none) (hprev : S.prev = some b)
    (hl : l.val = some p) (h : isclose (b * w) p = true) : Sound [Word.mul w] (some (b * w)) [l] S :=
  .of_run (by simp only [runW, Word.toEntry, step, hp, hprev]) (MatchL_one (b * w) p l hl (isclose_sound _ _ h))

theorem sound_multiply (s : Sc) (carried : Option Rat) (S : St) (f : Fmt) (hp : S.pend = none)
    (hc : ∀ c, carried = some c → S.prev = some c) (h : formatMultiply s carried = some f) :
    Sound f.words f.tail s.nodes S := by
  unfold formatMultiply at h
  simp only at h
  split at h
  · simp at h
  · rename_i base first product heq
    split at h
    · rename_i b p w hw
      by_cases hprod : (!isProduct s b p) = true
      · rw [if_pos hprod] at h
        simp at h
      by_cases hclose : isclose (b * w) p = true
      · rw [if_neg hprod, if_pos hclose] at h
        cases h
        split at heq
        · rename_i c pl hnodes
          simp only [Option.some.injEq, Prod.mk.injEq] at heq
          obtain ⟨rfl, rfl, hpv⟩ := heq
          rw [hnodes]
          exact sound_mul c w p pl S hp (hc c rfl) hpv hclose
        · rename_i a pn hnodes
          simp only [Option.some.injEq, Prod.mk.injEq] at heq
          obtain ⟨hb, rfl, hpv⟩ := heq
          rw [hnodes]
          exact (sound_num a b S hb hp).append fun S' hp' hprev =>
            sound_mul b w p pn S' hp' (hprev b rfl) hpv hclose
        · simp at heq
      · rw [if_neg hprod, if_neg hclose] at h
        simp at h
    · simp at h

theorem lin_alg (b e D k : Rat) : b + (e - b) / D * k = b + (e - b) * k / D := by grind

theorem lin_matches (b e : Rat) (n k : Nat) (y : Rat)
    (h : iscloseScale (b + (e - b) / ((n + 1 : Nat) : Rat) * (k : Rat)) y (scaleOf b e) = true) :
    (Val.linv b e n k).matches (some y) = true := by
  rw [lin_alg] at h
  unfold iscloseScale at h
  simp only [Val.matches, Bool.or_eq_true, decide_eq_true_eq] at h ⊢
  rcases h with h | h
  · exact .inl (isclose_sound _ _ h)
  · rw [rabs_sub] at h
    exact .inr h

/-- a loop of `_is_interpolation` (`okL`, checking the value at index `i` with `ok i`) that accepts a run ending in
    `lastL`: position by position the run matches the values `v i` and then the closing number -/
theorem MatchL_range (v : Nat → Val) (ok : Nat → Rat → Bool) (okL : Nat → List Leaf → Bool)
    (hok : ∀ i y, ok i y = true → (v i).matches (some y) = true)
    (hstep : ∀ i l ls, okL i (l :: ls) = ((match l.val with | some y => ok i y | none => false) && okL (i + 1) ls))
    (lastL : Leaf) (e : Rat) (hl : lastL.val = some e) (init : List Leaf) :
    ∀ (i : Nat), okL i (init ++ [lastL]) = true →
      MatchL ((List.range' i init.length).map v ++ [Val.num e]) ((init ++ [lastL]).map (·.val)) := by
  induction init with
  | nil => exact fun _ _ => MatchL_one e e lastL hl (isClose_refl e)
  | cons l init ih =>
    intro i h
    rw [List.cons_append, hstep, Bool.and_eq_true] at h
    simp only [List.length_cons, List.range'_succ, List.map_cons, List.cons_append, MatchL]
    refine ⟨?_, ih (i + 1) h.2⟩
    have h1 := h.1
    split at h1
    · rename_i y hy
      rw [hy]
      exact hok i y h1
    · simp at h1

theorem sound_interp (s : Sc) (b : Rat) (nodes : List Leaf) (e : Leaf) (S : St) (hp : S.pend = none)
    (hprev : S.prev = some b) (hI : isInterpolation s (some b) nodes = true) (he : nodes.getLast? = some e) :
    Sound (mkInterp s none (nodes.length - 1) e).words e.val nodes S := by
  obtain ⟨init, rfl⟩ := List.getLast?_eq_some_iff.mp he
  cases hev : e.val with
  | none => simp only [isInterpolation, he, hev, Bool.false_eq_true] at hI
  | some ev =>
    simp only [isInterpolation, he, hev, List.length_append, List.length_singleton] at hI
    by_cases hany : ((init ++ [e]).any fun l => l.val.isNone) = true
    · rw [if_pos hany] at hI
      nomatch hI
    rw [if_neg hany] at hI
    -- the run matches what the reader puts between `b` and the closing number; for `ilog` the reader also wants both
    -- ends positive, which `_is_interpolation` has tested
    have hm : MatchL (between b ev init.length (s.kind == Kind.log) ++ [Val.num ev]) ((init ++ [e]).map (·.val)) ∧
        ((s.kind == Kind.log) = true → ¬ b ≤ 0 ∧ ¬ ev ≤ 0) := by
      cases hlog : s.kind == Kind.log
      · rw [hlog, if_neg Bool.false_ne_true] at hI
        refine ⟨?_, fun h => nomatch h⟩
        simp only [between, List.range_eq_range']
        exact MatchL_range (fun j => Val.linv b ev init.length (j + 1)) _ (linOk b _ (scaleOf b ev))
          (fun i y h => lin_matches b ev init.length (i + 1) y h) (fun _ _ _ => rfl) e ev hev init 0 hI
      · rw [hlog, if_pos rfl] at hI
        by_cases hpos : (decide (b ≤ 0) || decide (ev ≤ 0)) = true
        · rw [if_pos hpos] at hI
          nomatch hI
        rw [if_neg hpos] at hI
        simp only [Bool.or_eq_true, decide_eq_true_eq, not_or] at hpos
        refine ⟨?_, fun _ => hpos⟩
        simp only [between, if_true, List.range_eq_range']
        exact MatchL_range (fun j => Val.logv b ev init.length (j + 1)) _ (logOk b ev (init.length + 1))
          (fun _ _ h => h) (fun _ _ _ => rfl) e ev hev init 0 hI
    refine .of_run ?_ hm.1
    have hlen : (init ++ [e]).length - 1 = init.length := by simp
    rw [hlen]
    cases hlog : s.kind == Kind.log <;>
      simp [mkInterp, runW, Word.toEntry, step, hp, hprev, hev, hlog, countText_getD, hm.2]

theorem sound_interpolate (s : Sc) (carried : Option Rat) (S : St) (f : Fmt) (hp : S.pend = none)
    (hc : ∀ c, carried = some c → S.prev = some c) (h : formatInterpolate s carried = some f) :
    Sound f.words f.tail s.nodes S := by
  unfold formatInterpolate at h
  by_cases hcond : (carried.isSome && isInterpolation s carried s.nodes) = true
  · rw [if_pos hcond] at h
    simp only [Bool.and_eq_true] at hcond
    split at h
    · rename_i e he
      simp only [Option.some.injEq] at h
      subst h
      obtain ⟨c, rfl⟩ := Option.isSome_iff_exists.mp hcond.1
      exact sound_interp s c s.nodes e S hp (hc c rfl) hcond.2 he
    · simp at h
  · rw [if_neg hcond] at h
    split at h
    · rename_i first rest hn
      split at h
      · rename_i hcond
        simp only [Bool.and_eq_true] at hcond
        split at h
        · rename_i e he
          simp only [Option.some.injEq] at h
          subst h
          cases hfv : first.val with
          | none => simp [isInterpolation, hfv] at hcond
          | some b =>
            rw [hfv] at hcond
            rw [hn]
            exact (sound_num first b S hfv hp).append fun S' hp' hprev =>
              sound_interp s b rest e S' hp' (hprev b rfl) hcond.2 he
        · simp at h
      · simp at h
    · simp at h

/-- **local correctness of `ShortcutNode.format`**: whatever run a well-formed shortcut holds and whatever entry is
    carried over from the previous shortcut, the words written denote exactly the run -/
theorem C08_format_sound (s : Sc) (carried : Option Rat) (S : St) (hok : ScOk s) (hp : S.pend = none)
    (hc : ∀ c, carried = some c → S.prev = some c) :
    Sound (MontePyVerif.Model.Shortcut.format s carried).words (MontePyVerif.Model.Shortcut.format s carried).tail
      s.nodes S := by
  unfold MontePyVerif.Model.Shortcut.format
  simp only
  generalize hcar : (if s.ownStart = true then none else carried) = c'
  have hc' : ∀ c, c' = some c → S.prev = some c := by
    intro c h
    subst hcar
    split at h
    · simp at h
    · exact hc c h
  have hex := fun hk : s.kind ≠ Kind.jmp => sound_explicit s S hp (hok.2 hk)
  cases hk : s.kind with
  | jmp => exact sound_jump s S hp (hok.1 hk)
  | rep =>
    cases hf : formatRepeat s c' with
    | none => exact hex (by simp [hk])
    | some f => exact sound_repeat s c' S f hp hc' hf
  | mul =>
    cases hf : formatMultiply s c' with
    | none => exact hex (by simp [hk])
    | some f => exact sound_multiply s c' S f hp hc' hf
  | lin | log =>
    cases hf : formatInterpolate s c' with
    | none => exact hex (by simp [hk])
    | some f => exact sound_interpolate s c' S f hp hc' hf

theorem flatten_snoc (done : List Item) (it : Item) : flatten (done ++ [it]) = flatten done ++ it.leaves := by
  simp [flatten]

theorem sound_formatStep (st : FmtSt) (done : List Item) (it : Item) (isLast : Bool)
    (h : Sound st.words st.carried (flatten done) St.init) (hok : ItemOk it) :
    Sound (formatStep st it isLast).words (formatStep st it isLast).carried (flatten (done ++ [it])) St.init := by
  rw [flatten_snoc]
  cases it with
  | leaf l =>
    obtain ⟨a, ha⟩ := Option.isSome_iff_exists.mp hok
    exact h.append fun S hp _ => (sound_num l a S ha hp).tail_none
  | sc sid s =>
    refine h.append fun S hp hprev => C08_format_sound s _ S hok hp fun c hc => ?_
    split at hc
    · exact hprev c hc
    · simp at hc

/-- invariant of `ListNode.format`: the words written so far read, from the start, as the values of the nodes
    formatted so far, and the entry a following shortcut may continue from (`_written_tail`) is the Spec's
    previous entry -/
theorem sound_formatLoop (items : List Item) (st : FmtSt) (done : List Item)
    (h : Sound st.words st.carried (flatten done) St.init) (hok : ∀ it ∈ items, ItemOk it) :
    Sound (formatLoop items st).words (formatLoop items st).carried (flatten (done ++ items)) St.init := by
  induction items generalizing st done with
  | nil => rw [List.append_nil]; exact h
  | cons x rest ih =>
    cases rest with
    | nil => exact sound_formatStep st done x true h (hok x List.mem_cons_self)
    | cons y rest =>
      have := ih (formatStep st x false) (done ++ [x]) (sound_formatStep st done x false h (hok x List.mem_cons_self))
        (fun it hit => hok it (List.mem_cons_of_mem _ hit))
      rwa [List.append_assoc] at this

/-- every node list `update_with_new_values` produces is well-formed: plain nodes hold numbers, jump shortcuts
    hold only jumps, other shortcuts only numbers (so "jumps stay jumps": a `None` is never left as a plain node,
    which would print nothing) -/
theorem C08_wellformed (scs : List (Int × Sc)) (vals : List Leaf) :
    ∀ it ∈ updateWithNewValues scs vals, ItemOk it := fun it hit => ((pass_inv scs vals).2 it (mem_update hit)).1

/-- "the written list reads as the values": the words `ListNode.format` writes after
    `update_with_new_values scs vals` are MCNP entries, MCNP's reader accepts them, and what it reads agrees with
    `vals` position by position within the library tolerance — numbers as numbers, jumps as jumps, and only
    trailing jumps (defaults) may be left unwritten -/
def Recompresses (scs : List (Int × Sc)) (vals : List Leaf) : Prop :=
  ∃ es vs, entries (MontePyVerif.Model.ListNode.format (updateWithNewValues scs vals)).words = some es ∧
    expand es = some vs ∧ matchesAll vs (vals.map (·.val)) = true

/-- For ALL original shortcut lists (any state) and ALL new value lists. -/
theorem C08_recompress (scs : List (Int × Sc)) (vals : List Leaf) : Recompresses scs vals := by
  obtain ⟨S, h1, h2, ⟨vs, h3, h4⟩, _⟩ := sound_formatLoop (updateWithNewValues scs vals) ⟨"", [], none, none⟩ []
    (Sound.nil St.init rfl).tail_none (C08_wellformed scs vals)
  obtain ⟨es, hes, hrun⟩ := runW_entries _ _ _ h1
  have h3 : S.out = vs := h3
  refine ⟨es, vs, hes, by simp [expand, hrun, h2, h3], ?_⟩
  rw [← C08_consume_inv scs vals, List.map_append]
  refine matchesAll_of_MatchL _ _ _ h4 fun z hz => ?_
  obtain ⟨l, hl, rfl⟩ := List.mem_map.mp hz
  rw [poppedLeaves, List.reverse_reverse] at hl
  exact poppedRev_none _ (fun it hit => ((pass_inv scs vals).2 it hit).1) l hl

/-- Insertion of a value node at any position and deletion at any position (a cell added or removed), after any state
    of the list: the written list still reads as the values. -/
theorem C08_grow_shrink (scs : List (Int × Sc)) (vals : List Leaf) (i : Nat) (x : Leaf) :
    Recompresses scs (vals.take i ++ x :: vals.drop i) ∧ Recompresses scs (vals.eraseIdx i) :=
  ⟨C08_recompress _ _, C08_recompress _ _⟩

/-- a repeat run of two 2s (used for non-vacuity) -/
def exampleRun : Sc :=
  { orphanJump with kind := Kind.rep, nodes := [⟨0, some 2, 0, "", "", false, false, true⟩, ⟨1, some 2, 0, "", "", false, false, true⟩] }

/-- non-vacuity of `C08_format_sound`: its hypotheses hold for a repeat run of two 2s continuing a carried 2,
    read from the Spec state after the word `2` -/
example : Sound (MontePyVerif.Model.Shortcut.format exampleRun (some 2)).words
    (MontePyVerif.Model.Shortcut.format exampleRun (some 2)).tail exampleRun.nodes ⟨[Val.num 2], some 2, none⟩ :=
  C08_format_sound exampleRun (some 2) ⟨[Val.num 2], some 2, none⟩
    (by constructor <;> simp [exampleRun, orphanJump]) rfl (by simp)

open MontePyVerif.Model.ShortcutParse

/-! ## Parse-time expansion agrees with MCNP's reading -/

def PTok.toEntry : PTok → Entry
  | .num x => Entry.num x
  | .rep n => Entry.rep n
  | .mul x => Entry.mul x
  | .jmp n => Entry.jmp n
  | .lin n => Entry.lin n
  | .log n => Entry.log n

def PVal.toVal : PVal → Val
  | .num x => Val.num x
  | .jump => Val.jump
  | .logv a b n k => Val.logv a b n k

/-- the token is a word of the grammar G of DESIGN 5.2: a count of `nR`, `nJ`, `nI`, `nLOG`, when written, is never `0` -/
def PTok.inG : PTok → Bool
  | .rep (some 0) | .jmp (some 0) | .lin (some 0) | .log (some 0) => false
  | _ => true

/-- the number a symbolic linear interpolate stands for (the other values are kept as they are) -/
def evalLin : Val → Val
  | .linv a b n k => Val.num (MontePyVerif.Spec.Shortcut.linValue a b n k)
  | v => v

@[simp] theorem evalLin_num (x : Rat) : evalLin (Val.num x) = Val.num x := rfl
@[simp] theorem evalLin_jump : evalLin Val.jump = Val.jump := rfl
@[simp] theorem evalLin_logv (a b : Rat) (n k : Nat) : evalLin (Val.logv a b n k) = Val.logv a b n k := rfl
@[simp] theorem evalLin_linv (a b : Rat) (n k : Nat) :
    evalLin (Val.linv a b n k) = Val.num (MontePyVerif.Spec.Shortcut.linValue a b n k) := rfl

/-- the nodes built so far hold what the Spec has read so far (linear interpolates as numbers), no interpolation is
    open, and the number a shortcut would continue from is the Spec's previous entry -/
def PRel (acc : List PItem) (S : St) : Prop :=
  S.pend = none ∧ (flatRevP acc).map PVal.toVal = S.out.map evalLin ∧ lastNum acc = S.prev

def finish (s : St) : Option (List Val) := if s.pend.isNone then some (s.out.map evalLin) else none

theorem flatP_reverse (acc : List PItem) : flatP acc.reverse = flatRevP acc := by
  induction acc with
  | nil => rfl
  | cons x rest ih => simp [flatP, flatRevP] at *; rw [ih]

theorem absorb_flat (acc : List PItem) : flatRevP (absorb acc).2 ++ (absorb acc).1 = flatRevP acc := by
  cases acc with
  | nil => simp [absorb, flatRevP]
  | cons it rest =>
    cases it with
    | value x => simp [absorb, flatRevP, PItem.vals]
    | sc k ns => simp [absorb, flatRevP]

theorem getD_pos (n : Option Nat) (h : n ≠ some 0) : ∃ m, n.getD 1 = m + 1 := by
  cases n with
  | none => exact ⟨0, rfl⟩
  | some k =>
    cases k with
    | zero => exact absurd rfl h
    | succ m => exact ⟨m, rfl⟩

theorem lastNum_snoc (ns : List PVal) (x : Rat) (rest : List PItem) (k : PKind) :
    lastNum (PItem.sc k (ns ++ [PVal.num x]) :: rest) = some x := by
  simp [lastNum, PItem.vals]

theorem PRel.num {acc : List PItem} {S : St} (h : PRel acc S) (x : Rat) :
    PRel (PItem.value x :: acc) ⟨S.out ++ [Val.num x], some x, none⟩ :=
  ⟨rfl, by simp [flatRevP, PItem.vals, h.2.1, PVal.toVal], by simp [lastNum, PItem.vals]⟩

theorem PRel.jump {acc : List PItem} {S : St} (h : PRel acc S) (n : Option Nat) (hn : n ≠ some 0) :
    PRel (expandJump acc n) ⟨S.out ++ List.replicate (n.getD 1) Val.jump, none, none⟩ := by
  obtain ⟨m, hm⟩ := getD_pos n hn
  exact ⟨rfl, by simp [expandJump, flatRevP, PItem.vals, h.2.1, PVal.toVal],
    by simp [expandJump, lastNum, PItem.vals, hm, List.replicate_succ']⟩

/-- repeat, multiply and both interpolations push a shortcut that takes in the value before it (`absorb`) and ends
    in a number `z`, where the Spec appends values and ends in `z` -/
theorem PRel.push {acc : List PItem} {S : St} (h : PRel acc S) (k : PKind) (new : List PVal) (vs : List Val) (z : Rat)
    (hv : new.map PVal.toVal = vs.map evalLin) :
    PRel (PItem.sc k ((absorb acc).1 ++ new ++ [PVal.num z]) :: (absorb acc).2)
      ⟨S.out ++ vs ++ [Val.num z], some z, none⟩ :=
  ⟨rfl, by simp only [flatRevP, PItem.vals, ← List.append_assoc, absorb_flat, List.map_append, h.2.1, hv, List.map_cons,
      List.map_nil, PVal.toVal, evalLin_num], lastNum_snoc _ z _ _⟩

theorem step_pend_nonnum (S : St) (p : Rat × Nat × Bool) (hp : S.pend = some p) (t : Entry)
    (ht : ∀ x, t ≠ Entry.num x) : step S t = none := by
  cases t with
  | num x => exact absurd rfl (ht x)
  | rep n => simp [step, hp]
  | mul x => simp [step, hp]
  | jmp n => simp [step, hp]
  | lin n => simp [step, hp]
  | log n => simp [step, hp]

theorem step_interp (S : St) (isLog : Bool) (n : Option Nat) (hp : S.pend = none) :
    step S (if isLog then Entry.log n else Entry.lin n) =
      S.prev.map fun a => ⟨S.out, some a, some (a, n.getD 1, isLog)⟩ := by
  cases isLog <;> cases hprev : S.prev <;> simp [step, hp, hprev]

/-- `parseAux` behind an interpolation word: the next token has to be the closing number -/
def parseClose (acc : List PItem) (n : Option Nat) (isLog : Bool) : List PTok → Option (List PItem)
  | PTok.num e :: ts => (match expandInterpolate acc n isLog e with
    | some acc' => parseAux ts acc'
    | none => none)
  | _ => none

theorem parseAux_interp (isLog : Bool) (n : Option Nat) (rest : List PTok) (acc : List PItem) :
    parseAux ((if isLog then PTok.log n else PTok.lin n) :: rest) acc = parseClose acc n isLog rest := by
  cases isLog <;> cases rest with
  | nil => rfl
  | cons t ts => cases t <;> rfl

theorem parseClose_none (acc : List PItem) (n : Option Nat) (isLog : Bool) (ts : List PTok) (h : lastNum acc = none) :
    parseClose acc n isLog ts = none := by
  cases ts with
  | nil => rfl
  | cons t ts => cases t <;> simp [parseClose, expandInterpolate, h]

theorem mids_between (a e : Rat) (m : Nat) (isLog : Bool) :
    ((List.range m).map fun i => if isLog then PVal.logv a e m (i + 1)
        else PVal.num (a + (e - a) / ((m + 1 : Nat) : Rat) * ((i + 1 : Nat) : Rat))).map PVal.toVal
      = (between a e m isLog).map evalLin := by
  simp only [between, List.map_map]
  apply List.map_congr_left
  intro i _
  cases isLog <;> simp [PVal.toVal, lin_alg, MontePyVerif.Spec.Shortcut.linValue]

/-- The parser and the Spec reader go through the tokens in step.  Two statements, proved together by induction on
    the tokens: from a settled state, and from a state where the Spec has an interpolation pending and the parser
    looks ahead for the closing number. -/
theorem sim (ts : List PTok) : (∀ t ∈ ts, PTok.inG t = true) →
    (∀ acc S, PRel acc S →
      (parseAux ts acc).map (fun items => (flatP items).map PVal.toVal) = (run (ts.map PTok.toEntry) S).bind finish) ∧
    (∀ acc S a n isLog, PRel acc S → S.prev = some a →
      (parseClose acc n isLog ts).map (fun items => (flatP items).map PVal.toVal)
        = (run (ts.map PTok.toEntry) ⟨S.out, some a, some (a, n.getD 1, isLog)⟩).bind finish) := by
  induction ts with
  | nil => exact fun _ => ⟨fun acc S h => by simp [parseAux, run, finish, h.1, flatP_reverse, h.2.1],
      fun _ _ _ _ _ _ _ => by simp [parseClose, run, finish]⟩
  | cons t ts ih =>
    intro hg
    obtain ⟨ihA, ihB⟩ := ih (fun t' ht' => hg t' (List.mem_cons_of_mem _ ht'))
    have hgt := hg t List.mem_cons_self
    constructor
    · intro acc S h
      have hI : ∀ (isLog : Bool) n, (parseAux ((if isLog then PTok.log n else PTok.lin n) :: ts) acc).map
            (fun items => (flatP items).map PVal.toVal)
          = (run ((if isLog then Entry.log n else Entry.lin n) :: ts.map PTok.toEntry) S).bind finish := by
        intro isLog n
        rw [parseAux_interp, run, step_interp S isLog n h.1]
        cases hprev : S.prev with
        | none => rw [parseClose_none _ _ _ _ (h.2.2.trans hprev)]; rfl
        | some a => exact ihB acc S a n isLog h hprev
      cases t with
      | num x =>
        simp only [parseAux, List.map_cons, PTok.toEntry, run, step, h.1]
        exact ihA _ _ (h.num x)
      | jmp n =>
        simp only [parseAux, List.map_cons, PTok.toEntry, run, step, h.1]
        exact ihA _ _ (h.jump n (by intro hn; subst hn; simp [PTok.inG] at hgt))
      | rep n =>
        cases hprev : S.prev with
        | none => simp [parseAux, expandRepeat, h.2.2.trans hprev, PTok.toEntry, run, step, h.1, hprev]
        | some a =>
          obtain ⟨m, hm⟩ := getD_pos n (by intro hn; subst hn; simp [PTok.inG] at hgt)
          simp only [parseAux, expandRepeat, h.2.2.trans hprev, List.map_cons, PTok.toEntry, run, step, h.1, hprev, hm,
            List.replicate_succ', ← List.append_assoc]
          exact ihA _ _ (h.push .rep _ _ a (by simp [PVal.toVal]))
      | mul x =>
        cases hprev : S.prev with
        | none => simp [parseAux, expandMultiply, h.2.2.trans hprev, PTok.toEntry, run, step, h.1, hprev]
        | some a =>
          simp only [parseAux, expandMultiply, h.2.2.trans hprev, List.map_cons, PTok.toEntry, run, step, h.1, hprev]
          exact ihA _ _ (by simpa using h.push .mul [] [] (a * x) rfl)
      | lin n => exact hI false n
      | log n => exact hI true n
    · intro acc S a n isLog h hprev
      cases t with
      | num e =>
        by_cases hdom : (isLog && (decide (a ≤ 0) || decide (e ≤ 0))) = true
        · simp [parseClose, expandInterpolate, h.2.2.trans hprev, PTok.toEntry, run, step, hdom]
        · simp only [parseClose, expandInterpolate, h.2.2.trans hprev, List.map_cons, PTok.toEntry, run, step, hdom]
          exact ihA _ _ (h.push _ _ _ e (mids_between a e (n.getD 1) isLog))
      | _ => simp [parseClose, PTok.toEntry, run, step]

/-- For every token list of the grammar G (every kind, every count ≥ 1 or omitted, adjacent shortcuts, shortcuts at
    either end): the parser accepts the list exactly when MCNP's reader does, and then the values of the (virtual)
    value nodes, in list order, ARE what MCNP reads, position by position — numbers (linear interpolates exactly, on
    rationals: `evalLin` replaces the Spec's symbolic `linv a b n k` by its number), jumps as jumps, logarithmic
    interpolates as the same symbolic value `logv a b n k` (whose double the correspondence checks against the defining
    relation). -/
theorem C08_expand (ts : List PTok) (hG : ∀ t ∈ ts, PTok.inG t = true) :
    (parseList ts).map (fun items => (flatP items).map PVal.toVal)
      = (expand (ts.map PTok.toEntry)).map (fun vs => vs.map evalLin) := by
  unfold parseList
  rw [(sim ts hG).1 [] St.init ⟨rfl, rfl, rfl⟩]
  unfold expand finish
  cases run (ts.map PTok.toEntry) St.init with
  | none => rfl
  | some S => simp only [Option.bind_some]; split <;> rfl

/-- non-vacuity: a list of G with every kind, adjacent shortcuts and shortcuts at both ends -/
example : ∀ t ∈ [PTok.jmp none, PTok.num 1, PTok.rep (some 2), PTok.mul 3, PTok.lin (some 2), PTok.num 12,
    PTok.log none, PTok.num 48, PTok.rep none, PTok.jmp (some 2)], PTok.inG t = true := by decide

/-- the count `0` is outside G for a reason: after a `0R` that follows a shortcut the code finds no value to
    continue from (it rejects the list), while MCNP's reading would continue from the repeated entry -/
theorem C08_expand_zero_count_refuted :
    ¬ ((parseList [PTok.num 1, PTok.rep none, PTok.rep (some 0), PTok.rep none]).map
        (fun items => (flatP items).map PVal.toVal)
      = (expand ([PTok.num 1, PTok.rep none, PTok.rep (some 0), PTok.rep none].map PTok.toEntry)).map
          (fun vs => vs.map evalLin)) := by decide

/-! ## Own nodes standing in for copies (`_keep_own_nodes`) -/

theorem keepZip_vals (oi ni : List Nat) (own vals : List Leaf) :
    (keepZip oi ni own vals).map (·.val) = vals.map (·.val) := by
  induction vals generalizing own with
  | nil => cases own <;> rfl
  | cons v vs ih =>
    cases own with
    | nil => rfl
    | cons o own =>
      simp only [keepZip, List.map_cons, ih, List.cons.injEq, and_true]
      split
      · rename_i h
        simp only [Bool.and_eq_true, beq_iff_eq] at h
        exact h.2
      · rfl

/-- standing in never changes a value: the list is rebuilt from nodes that hold exactly the new values -/
theorem C08_keep_own_values (own vals : List Leaf) :
    (keepOwnNodes own vals).map (·.val) = vals.map (·.val) := keepZip_vals _ _ own vals

/-- **C08_recompress for the whole of `update_with_new_values`** (own nodes standing in for copies of themselves,
    as the data-block importances hand them in): for ALL shortcut lists, ALL own node lists and ALL new value
    lists the written words read as the new values. -/
theorem C08_recompress_full (scs : List (Int × Sc)) (own vals : List Leaf) :
    ∃ es vs, entries (MontePyVerif.Model.ListNode.format (updateWithNewValuesFull scs own vals)).words = some es ∧
      expand es = some vs ∧ matchesAll vs (vals.map (·.val)) = true := by
  obtain ⟨es, vs, h1, h2, h3⟩ := C08_recompress scs (keepOwnNodes own vals)
  exact ⟨es, vs, h1, h2, by rw [← C08_keep_own_values own vals]; exact h3⟩

theorem keepZip_map (oi ni : List Nat) (f : Leaf → Leaf) (own : List Leaf) :
    (∀ o ∈ own, f o = o ∨
      (oi.contains (f o).id = false ∧ ni.contains o.id = false ∧ o.ty = (f o).ty ∧ o.val = (f o).val)) →
    keepZip oi ni own (own.map f) = own := by
  induction own with
  | nil => exact fun _ => rfl
  | cons o rest ih =>
    intro h
    rw [List.map_cons, keepZip, ih fun x hx => h x (List.mem_cons_of_mem _ hx)]
    rcases h o List.mem_cons_self with h1 | ⟨h1, h2, h3, h4⟩
    · rw [h1, ite_self]
    · rw [if_pos (by simp only [h1, h2, h3, h4, Bool.not_false, beq_self_eq_true, Bool.and_self])]

/-- an unedited list handed in as copies (any relabelling `copy` that keeps type and value, with identities that
    are not identities of the list) is rebuilt from its own nodes, all of them, in order — so every shortcut can be
    bound again and tokens, paddings and comments stay -/
theorem C08_keep_own_unedited (own : List Leaf) (copy : Leaf → Leaf)
    (hcopy : ∀ o, (copy o).ty = o.ty ∧ (copy o).val = o.val)
    (hfresh : ∀ o ∈ own, (own.map (·.id)).contains (copy o).id = false ∧
      ((own.map copy).map (·.id)).contains o.id = false) :
    keepOwnNodes own (own.map copy) = own :=
  keepZip_map _ _ copy own fun o ho =>
    .inr ⟨(hfresh o ho).1, (hfresh o ho).2, (hcopy o).1.symm, (hcopy o).2.symm⟩

/-- standing in is repeatable (what makes a second write rebuild the same list): the own nodes handed in again are
    kept as they are -/
theorem C08_keep_own_idempotent (own : List Leaf) : keepOwnNodes own own = own := by
  have := keepZip_map (own.map (·.id)) (own.map (·.id)) id own fun _ _ => .inl rfl
  rwa [List.map_id] at this

/-! ## An unchanged entry stays what it was written as -/

/-- After `update_with_new_values`, every node a shortcut holds is one it stood for before (or the node a left-off jump
    was made for), or a fresh node.  In particular, when no value is fresh — the list is rebuilt from its own,
    unchanged values: an unedited write, or a second write — no shortcut takes in an entry it did not stand for:
    `1 2r 1` stays `1 2r 1`, a multiply keeps its own base, and the grouping of a second rebuild can only be the
    grouping of the first (findings C08-F3 and C08-F4, repaired). -/
theorem C08_unedited_no_regroup (scs : List (Int × Sc)) (vals : List Leaf) :
    ∀ it ∈ updateWithNewValues scs vals, ItemRun it := fun it hit => ((pass_inv scs vals).2 it (mem_update hit)).2

/-- the unedited case spelled out: no fresh value, so every shortcut's run lies within the run it was bound with -/
theorem C08_unedited_runs_within (scs : List (Int × Sc)) (vals : List Leaf)
    (hun : ∀ v ∈ vals, v.fresh = false) :
    ∀ sid s, Item.sc sid s ∈ updateWithNewValues scs vals → ∀ n ∈ s.nodes, s.runIds.contains n.id = true := by
  intro sid s hmem n hn
  rcases C08_unedited_no_regroup scs vals (Item.sc sid s) hmem n hn with h | h
  · exact h
  · have hv : n ∈ vals := by
      rw [← C08_consume_inv scs vals]
      exact List.mem_append_left _
        (List.mem_flatten.mpr ⟨s.nodes, List.mem_map.mpr ⟨Item.sc sid s, hmem, rfl⟩, hn⟩)
    rw [hun n hv] at h
    nomatch h

end MontePyVerif.C08
