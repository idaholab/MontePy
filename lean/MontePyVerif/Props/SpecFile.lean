import MontePyVerif.Spec.File
/-!
# Sanity theorems of the independent MCNP-rules reader (`Spec/File.lean`)

The Spec is part of the trusted base: it is a reading of the MCNP manual.  These theorems pin down the
rules the property oracles rely on, so that an error in the Spec is not silently inherited.
-/
namespace MontePyVerif.Spec.File

theorem stepLine_done (r : RS) (ln : Str) (h : r.block ≥ 3) : stepLine r ln = r := by
  rw [stepLine, if_pos h]

theorem stepLine_blank (r : RS) (ln : Str) (h : r.block < 3) (hb : isBlankLine ln = true) :
    stepLine r ln = { closeCur r with block := (closeCur r).block + 1 } := by
  rw [stepLine, if_neg (Nat.not_le.mpr h), if_pos hb]

theorem stepLine_cont (r : RS) (ln : Str) (c : Card) (h : r.block < 3) (hb : isBlankLine ln = false)
    (hc : r.cur = some c) (hk : (isCommentCard ln || r.amp || isIndented ln) = true) :
    stepLine r ln = { r with cur := some (contStep (c, r.amp) ln).1, amp := (contStep (c, r.amp) ln).2 } := by
  rw [stepLine, if_neg (Nat.not_le.mpr h), if_neg (by rw [hb]; exact Bool.false_ne_true), hc]
  exact if_pos hk

theorem stepLine_start (r : RS) (ln : Str) (h : r.block < 3) (hb : isBlankLine ln = false)
    (hcm : isCommentCard ln = false) (hk : r.cur = none ∨ (r.amp = false ∧ isIndented ln = false)) :
    stepLine r ln = { closeCur r with cur := some (startCard ln).1, amp := (startCard ln).2 } := by
  rw [stepLine, if_neg (Nat.not_le.mpr h), if_neg (by rw [hb]; exact Bool.false_ne_true)]
  cases hc : r.cur with
  | none =>
    have : closeCur r = r := by rw [closeCur, hc]
    rw [this]
    exact if_neg (by rw [hcm]; exact Bool.false_ne_true)
  | some c =>
    obtain ⟨ha, hi⟩ := hk.resolve_left (by rw [hc]; exact nofun)
    exact if_neg (by rw [hcm, ha, hi]; exact Bool.false_ne_true)

theorem stepLine_head (r : RS) (ln : Str) (h : r.block < 3) (hb : isBlankLine ln = false) (hc : r.cur = none)
    (hcm : isCommentCard ln = true) : stepLine r ln = { r with heads := (r.block, commentText ln) :: r.heads } := by
  rw [stepLine, if_neg (Nat.not_le.mpr h), if_neg (by rw [hb]; exact Bool.false_ne_true), hc]
  exact if_pos hcm

/-- Whatever follows the blank line that terminates the data block is not read. -/
theorem after_terminator_ignored (r : RS) (ls : List Str) (h : r.block ≥ 3) : ls.foldl stepLine r = r := by
  induction ls with
  | nil => rfl
  | cons l t ih => rw [List.foldl_cons, stepLine_done r l h, ih]

theorem closeCur_block (r : RS) : (closeCur r).block = r.block := by
  unfold closeCur; split <;> rfl

/-- The block counter never decreases, and only a blank line advances it. -/
theorem stepLine_block (r : RS) (ln : Str) :
    (stepLine r ln).block = r.block ∨ (isBlankLine ln = true ∧ (stepLine r ln).block = r.block + 1) := by
  rw [stepLine]
  by_cases h3 : r.block ≥ 3
  · rw [if_pos h3]; exact Or.inl rfl
  · rw [if_neg h3]
    by_cases hb : isBlankLine ln = true
    · rw [if_pos hb]
      exact Or.inr ⟨hb, congrArg (· + 1) (closeCur_block r)⟩
    · rw [if_neg hb]
      refine Or.inl ?_
      cases r.cur with
      | none => dsimp only; split <;> rfl
      | some c =>
        dsimp only
        split
        · rfl
        · exact closeCur_block r

/-- A comment card never contributes data: it leaves the text of the open card and the finished cards alone. -/
theorem comment_card_no_data (r : RS) (ln : Str) (hb : r.block < 3) (hnb : isBlankLine ln = false)
    (hc : isCommentCard ln = true) :
    (stepLine r ln).done = r.done ∧ (stepLine r ln).cur.map (·.text) = r.cur.map (·.text) := by
  cases hcur : r.cur with
  | none => rw [stepLine_head r ln hb hnb hcur hc]; exact ⟨rfl, congrArg _ hcur⟩
  | some c =>
    rw [stepLine_cont r ln c hb hnb hcur (by rw [hc]; rfl), contStep, if_pos hc]
    exact ⟨rfl, rfl⟩

/-- `nR` repeats its predecessor n times: `x nR` expands to n+1 copies. -/
theorem expand_repeat (q : Q) (n : Nat) :
    expandAux [.num q, .rep n] [] none = List.replicate (n + 1) (Val.num q) := by
  simp only [expandAux]
  rw [List.reverse_eq_iff]
  simp only [List.reverse_replicate]
  rw [show List.replicate n (Val.num q) ++ [Val.num q] = List.replicate (n + 1) (Val.num q) from
    (List.replicate_succ' ..).symm]

/-- `nJ` is n jumps. -/
theorem expand_jump (n : Nat) : expandAux [.jump n] [] none = List.replicate n Val.jump := by
  simp [expandAux]

/-- `x yM` is `x, x*y`. -/
theorem expand_multiply (x y : Q) : expandAux [.num x, .mul y] [] none = [Val.num x, Val.num (qMul x y)] := by
  simp [expandAux, lastNum]

/-- `a nI b` yields `a`, n values, `b`: n + 2 entries. -/
theorem expand_interp_length (a b : Q) (n : Nat) (lg : Bool) :
    (expandAux [.num a, .interp n lg, .num b] [] none).length = n + 2 := by
  simp [expandAux, lastNum]

example : parseNumber "1.5-2".toList = some ⟨15, 1000⟩ := by rw [String.toList_ofList]; decide +kernel
example : parseNumber "-.5E+1".toList = some ⟨-5, 1⟩ := by rw [String.toList_ofList]; decide +kernel
example : parseNumber "+3".toList = some ⟨3, 1⟩ := by rw [String.toList_ofList]; decide +kernel
example : parseNumber "1e".toList = none := by rw [String.toList_ofList]; decide +kernel
example : parseNumber "abc".toList = none := by rw [String.toList_ofList]; decide +kernel
example : isCommentCard "    c hello".toList = true := by rw [String.toList_ofList]; decide +kernel
example : isCommentCard "     c hello".toList = false := by rw [String.toList_ofList]; decide +kernel   -- column 6: a continuation, not a comment
example : isCommentCard "cx 5".toList = false := by rw [String.toList_ofList]; decide +kernel

end MontePyVerif.Spec.File
