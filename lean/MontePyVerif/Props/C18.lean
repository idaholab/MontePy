import MontePyVerif.Lemmas.Dedupe
/-!
# C18 — Duplicate-surface removal never changes any cell's region

`remove_duplicate_surfaces(tolerance)` merges only surfaces of the same type, transform and boundary condition whose
constants differ by less than the tolerance.  Every cell that used a removed surface refers to the survivor with the
same sense, so each cell's Boolean region is unchanged once merged surfaces are identified; no reference to a removed
surface remains, and surfaces that are not duplicates are untouched.

Model: `Model/Dedupe.lean` (the repaired code).  Reading of the property: `Spec/Dedupe.lean` (`dup`, `eval`).
All theorems quantify over every problem satisfying `ProblemWF` (the invariants MontePy's constructors and
collections establish), every geometry tree, every tolerance.
-/
namespace MontePyVerif.Dedupe
open MontePyVerif.Spec.Dedupe

/-- what holds of every problem MontePy hands to `remove_duplicate_surfaces`:
    surface numbers are unique (C06), every surface has a number of constants its class accepts (constructors),
    every cell lists in `cell.surfaces` the surfaces its geometry uses (`update_pointers`, the divider setter). -/
structure ProblemWF (p : Problem) : Prop where
  nodup : (p.surfaces.map (·.number)).Nodup
  consts : ∀ s ∈ p.surfaces, WFSurface s
  listed : ∀ c ∈ p.cells, ∀ n ∈ c.geometry.surfaceLeaves, n ∈ c.surfaces

/-- `to_delete` of a call -/
abbrev removedBy (p : Problem) (tol : Rat) : List Nat := (p.removeDuplicateSurfaces tol).2.toDelete
/-- `matching_map` of a call -/
abbrev mapOf (p : Problem) (tol : Rat) : List (Nat × Nat) := (p.removeDuplicateSurfaces tol).2.map
abbrev cellAfter (p : Problem) (tol : Rat) (c : Cell) : Cell := c.removeDuplicateSurfaces (mapOf p tol)

theorem cells_after (p : Problem) (tol : Rat) :
    (p.removeDuplicateSurfaces tol).1.cells = p.cells.map (cellAfter p tol) := rfl

theorem surfaces_after (p : Problem) (tol : Rat) :
    (p.removeDuplicateSurfaces tol).1.surfaces =
      (p.surfaces.map fun s => s.repointPeriodic (mapOf p tol)).filter fun s => !(removedBy p tol).contains s.number := rfl

/-! ## the generated table is the one the model was written for -/

/-- every class that overrides `find_duplicate_surfaces` in the code is one of the three modelled finders -/
theorem C18_finders_modelled :
    ∀ c ∈ Gen.Dedupe.finderClasses, isFinder (SClass.ofName c) = true := by decide +kernel

/-- the mnemonics built as a finder class are exactly PX PY PZ / CX CY CZ / C/X C/Y C/Z -/
theorem C18_finder_types :
    (Gen.Dedupe.surfaceClassTable.filter fun r => isFinder (SClass.ofName r.2.1)).map (·.1)
      = ["PX", "PY", "PZ", "C/X", "C/Y", "C/Z", "CX", "CY", "CZ"] := by decide +kernel

/-- The base class's `Surface.find_duplicate_surfaces`, run by every built class that does not override it (by the MRO
    `Surface` itself and `GeneralPlane`: SO, S, P, K/Z, X, GQ, …), behaves as the `[]` the model's
    `findDuplicateSurfaces` has for `.surface` / `.generalPlane`.  This is observed behaviour, not the spelling of the
    body: the translator called it on probe surfaces of every such mnemonic and number of constants (identical, nearly
    equal, longer/shorter, reflecting cards; three tolerances) and every call returned the empty list.  And a built
    class runs the base finder exactly when it is not one of the three modelled finder classes.  A change of what the
    base finder returns re-opens this. -/
theorem C18_base_finder_modelled :
    (0 < Gen.Dedupe.baseFinderProbes ∧ Gen.Dedupe.baseFinderFound = [] ∧ Gen.Dedupe.baseFinderFoundCount = 0)
      ∧ ∀ r ∈ Gen.Dedupe.finderProviders,
          (r.2 = r.1 ∨ r.2 = "Surface") ∧ (isFinder (SClass.ofName r.1) = false ↔ r.2 = "Surface") := by
  decide +kernel

/-! ## the decision logic: finders = Spec.dup -/

/-- for well-formed surfaces, `find_duplicate_surfaces` of a finder class returns exactly the other surfaces of the
    list that are C18-duplicates of `self`; of any other class, nothing. -/
theorem C18_find_iff (a b : Surface) (S : List Surface) (tol : Rat) (ha : WFSurface a) (hb : WFSurface b) :
    b ∈ findDuplicateSurfaces a S tol ↔
      b ∈ S ∧ b.pyEq a = false ∧ isFinder (classOf a.stype) = true ∧ dup tol a b = true :=
  mem_find_iff ha fun _ => hb

example : WFSurface ⟨1, "PZ", [0], none, none, false, false⟩ ∧ WFSurface ⟨2, "C/Z", [0, 0, 1], none, none, true, false⟩ := by
  decide +kernel

/-- the duplicate relation is symmetric (so is, after the repair, `Transform.equivalent`) -/
theorem C18_dup_symm (tol : Rat) (a b : Surface) : dup tol a b = dup tol b a := dup_comm tol a b

theorem pyEq_self (a : Surface) : a.pyEq a = true := by
  unfold Surface.pyEq
  simp only [beq_self_eq_true, Bool.and_self]

theorem pyEq_number {a b : Surface} (h : a.pyEq b = true) : a.number = b.number := by
  unfold Surface.pyEq at h
  simp only [Bool.and_eq_true, beq_iff_eq] at h
  exact h.1.1.1.1

theorem ProblemWF.inj {p : Problem} (hp : ProblemWF p) :
    ∀ a ∈ p.surfaces, ∀ b ∈ p.surfaces, a.number = b.number → a = b :=
  fun _ ha _ hb h => ListBasics.eq_of_nodup_map (f := (·.number)) hp.nodup ha hb h

theorem ProblemWF.find_iff {p : Problem} (hp : ProblemWF p) (tol : Rat) {a b : Surface} (ha : a ∈ p.surfaces) :
    b ∈ findDuplicateSurfaces a p.surfaces tol ↔
      b ∈ p.surfaces ∧ b.pyEq a = false ∧ isFinder (classOf a.stype) = true ∧ dup tol a b = true :=
  mem_find_iff (hp.consts a ha) (hp.consts b)

theorem finderOK_of_wf {p : Problem} (hp : ProblemWF p) (tol : Rat) : FinderOK p.surfaces tol := by
  have irr : ∀ a ∈ p.surfaces, ∀ b ∈ findDuplicateSurfaces a p.surfaces tol, b ∈ p.surfaces ∧ b.number ≠ a.number := by
    intro a ha b h
    have h1 := (hp.find_iff tol ha).1 h
    refine ⟨h1.1, fun e => ?_⟩
    rw [hp.inj b h1.1 a ha e, pyEq_self] at h1
    exact Bool.noConfusion h1.2.1
  refine ⟨fun a ha b hb h => ?_, irr, hp.inj⟩
  have h1 := (hp.find_iff tol ha).1 h
  refine (hp.find_iff tol hb).2 ⟨ha, ?_, ?_, ?_⟩
  · exact Bool.eq_false_iff.2 fun hq => (irr a ha b h).2 (pyEq_number hq).symm
  · rw [← dup_stype h1.2.2.2]; exact h1.2.2.1
  · rw [dup_comm]; exact h1.2.2.2

theorem loop_inv {p : Problem} (hp : ProblemWF p) (tol : Rat) :
    Inv p.surfaces tol (p.removeDuplicateSurfaces tol).2 :=
  inv_findAll (finderOK_of_wf hp tol)

theorem mapped_dup {p : Problem} (hp : ProblemWF p) {tol : Rat} {d t : Nat} (h : (mapOf p tol).lookup d = some t) :
    t ∉ removedBy p tol ∧ ∃ sd ∈ p.surfaces, ∃ sv ∈ p.surfaces,
      sd.number = d ∧ sv.number = t ∧ isFinder (classOf sv.stype) = true ∧ dup tol sv sd = true := by
  obtain ⟨h1, sd, hsd, sv, hsv, e1, e2, h4, _⟩ := (loop_inv hp tol).rng d t h
  exact ⟨h1, sd, hsd, sv, hsv, e1, e2, ((hp.find_iff tol hsv).1 h4).2.2⟩

theorem dictFun_not_removed {p : Problem} (hp : ProblemWF p) (tol : Rat) (n : Nat) :
    dictFun (mapOf p tol) n ∉ removedBy p tol := by
  unfold dictFun
  cases h : (mapOf p tol).lookup n with
  | none =>
    intro hd
    have := ((loop_inv hp tol).dom n).1 hd
    rw [h] at this
    cases this
  | some t => exact (mapped_dup hp h).1

/-! ## C18_only — merges only duplicates, and only into a survivor -/

/-- Every removed number is the number of a surface `sd` of the problem, `matching_map` sends it to a surface `sv`
    of the problem that is **not** removed, and `sv`, `sd` are duplicates in the sense of the property
    (same type, same transform, same boundary condition, neither periodic, constants within the tolerance). -/
theorem C18_only (p : Problem) (tol : Rat) (hp : ProblemWF p) :
    ∀ d ∈ removedBy p tol, ∃ sd ∈ p.surfaces, ∃ sv ∈ p.surfaces,
      sd.number = d ∧ (mapOf p tol).lookup d = some sv.number ∧ sv.number ∉ removedBy p tol
        ∧ dup tol sv sd = true := by
  intro d hd
  obtain ⟨t, ht⟩ := Option.isSome_iff_exists.1 (((loop_inv hp tol).dom d).1 hd)
  obtain ⟨h1, sd, hsd, sv, hsv, e1, e2, _, hdup⟩ := mapped_dup hp ht
  exact ⟨sd, hsd, sv, hsv, e1, e2 ▸ ht, e2 ▸ h1, hdup⟩

/-- `Spec.allWithin` never stops at the shorter list -/
theorem allWithin_length (tol : Rat) (xs ys : List Rat) (h : allWithin tol xs ys = true) : xs.length = ys.length := by
  rw [allWithin_eq_rotClose, Bool.and_eq_true, beq_iff_eq] at h
  exact h.1

theorem dup_length {tol : Rat} {a b : Surface} (h : dup tol a b = true) : a.consts.length = b.consts.length := by
  unfold dup at h
  simp only [Bool.and_eq_true] at h
  exact allWithin_length tol _ _ h.2

/-- Surfaces written with a different number of constants are never merged (two-sheet cone `K/Z 0 0 10 0.25` and
    one-sheet cone `K/Z 0 0 10 0.25 -1`, `Z 1 2` and `Z 1 2 3 4`, a 4-entry and a 9-entry `P` are different surfaces
    although the shorter list is a prefix of the longer): a removed surface and the survivor it is mapped to have the
    same mnemonic and equally many constants. -/
theorem C18_same_arity (p : Problem) (tol : Rat) (hp : ProblemWF p) :
    ∀ sd ∈ p.surfaces, ∀ sv ∈ p.surfaces, (mapOf p tol).lookup sd.number = some sv.number →
      sv.stype = sd.stype ∧ sv.consts.length = sd.consts.length := by
  intro sd hsd sv hsv hl
  obtain ⟨_, sd', hsd', sv', hsv', e1, e2, _, hd⟩ := mapped_dup hp hl
  rw [hp.inj sd' hsd' sd hsd e1, hp.inj sv' hsv' sv hsv e2] at hd
  exact ⟨dup_stype hd, dup_length hd⟩

/-- A surface whose mnemonic is not built as one of the finder classes (it runs the base class's finder: SO, S, P,
    K/Z, X, GQ, …): its `find_duplicate_surfaces` finds nothing, it is never removed, and nothing is merged into it. -/
theorem C18_generic_kept (p : Problem) (tol : Rat) (hp : ProblemWF p) :
    ∀ s ∈ p.surfaces, isFinder (classOf s.stype) = false →
      (∀ S, findDuplicateSurfaces s S tol = []) ∧ s.number ∉ removedBy p tol
        ∧ ∀ d, (mapOf p tol).lookup d ≠ some s.number := by
  intro s hs hf
  refine ⟨fun S => find_eq_nil hf S tol, fun hd => ?_, fun d hl => ?_⟩
  · obtain ⟨t, ht⟩ := Option.isSome_iff_exists.1 (((loop_inv hp tol).dom s.number).1 hd)
    obtain ⟨_, sd, hsd, sv, _, e1, _, hfv, hdup⟩ := mapped_dup hp ht
    rw [dup_stype hdup, hp.inj sd hsd s hs e1, hf] at hfv
    cases hfv
  · obtain ⟨_, _, _, sv, hsv, _, e2, hfv, _⟩ := mapped_dup hp hl
    rw [hp.inj sv hsv s hs e2, hf] at hfv
    cases hfv

/-- the map's domain is exactly the removed set: a surface is sent somewhere iff it is removed -/
theorem C18_map_domain (p : Problem) (tol : Rat) (hp : ProblemWF p) (d : Nat) :
    d ∈ removedBy p tol ↔ ((mapOf p tol).lookup d).isSome = true := (loop_inv hp tol).dom d

/-- the map's range is disjoint from the removed set: nothing is re-pointed to a removed surface -/
theorem C18_map_range (p : Problem) (tol : Rat) (hp : ProblemWF p) (d t : Nat)
    (h : (mapOf p tol).lookup d = some t) : t ∉ removedBy p tol := ((loop_inv hp tol).rng d t h).1

theorem repointPeriodic_eq (s : Surface) (m : List (Nat × Nat)) :
    s.repointPeriodic m = { s with periodic := s.periodic.map (dictFun m) } := by
  obtain ⟨_, _, _, _, per, _, _⟩ := s
  cases per with
  | none => rfl
  | some q =>
    simp only [Surface.repointPeriodic, dictFun, Option.map_some]
    cases m.lookup q <;> rfl

theorem repointPeriodic_number (s : Surface) (m : List (Nat × Nat)) : (s.repointPeriodic m).number = s.number := by
  rw [repointPeriodic_eq]

/-- the surface numbers after the call: those before, in their order, without the removed ones -/
theorem numbers_after (p : Problem) (tol : Rat) :
    (p.removeDuplicateSurfaces tol).1.surfaces.map (·.number) =
      (p.surfaces.map (·.number)).filter fun n => !(removedBy p tol).contains n := by
  rw [surfaces_after, List.filter_map, List.map_map, List.filter_map]
  simp only [Function.comp_def, repointPeriodic_number]

/-- "removed" is observable: a surface's number is in `to_delete` iff no surface of that number is left -/
theorem C18_removed_iff (p : Problem) (tol : Rat) (s : Surface) (hs : s ∈ p.surfaces) :
    s.number ∈ removedBy p tol ↔ s.number ∉ (p.removeDuplicateSurfaces tol).1.surfaces.map (·.number) := by
  rw [numbers_after, List.mem_filter, and_iff_right (List.mem_map_of_mem hs)]
  simp only [Bool.not_eq_true', Bool.not_eq_false, List.contains_eq_mem, decide_eq_true_eq]

/-! ## C18_region — every cell's region is unchanged once merged surfaces are identified -/

/-- `Cell.remove_duplicate_surfaces` without its shortcut and with the whole dict handed to the geometry -/
theorem cell_removeDup {c : Cell} (hl : ∀ n ∈ c.geometry.surfaceLeaves, n ∈ c.surfaces) (dict : List (Nat × Nat)) :
    c.removeDuplicateSurfaces dict =
      { c with geometry := c.geometry.subst (dictFun dict),
               surfaces := (walk dict c.geometry c.surfaces).2.filter fun n =>
                 !((restrictDict dict c.surfaces).map Prod.fst).contains n } := by
  unfold Cell.removeDuplicateSurfaces
  dsimp only
  rw [removeDup_eq_walk]
  show _ = { c with geometry := (walk dict c.geometry c.surfaces).1, surfaces := _ }
  rw [← walk_restrict dict hl]
  cases restrictDict dict c.surfaces with
  | nil =>
    rw [walk_nil]
    exact congrArg (fun l => { c with surfaces := l }) (List.filter_eq_self.2 fun _ _ => rfl).symm
  | cons _ _ => rfl

theorem cell_geometry {c : Cell} (hl : ∀ n ∈ c.geometry.surfaceLeaves, n ∈ c.surfaces) (dict : List (Nat × Nat)) :
    (c.removeDuplicateSurfaces dict).geometry = c.geometry.subst (dictFun dict) := by
  rw [cell_removeDup hl]

/-- the sense is not touched: the tree after the call is the tree before with leaf numbers re-pointed through the map -/
theorem C18_same_sense (p : Problem) (tol : Rat) (hp : ProblemWF p) :
    ∀ c ∈ p.cells, (cellAfter p tol c).geometry = c.geometry.subst (dictFun (mapOf p tol)) :=
  fun c hc => cell_geometry (hp.listed c hc) _

theorem eval_cellAfter (p : Problem) (tol : Rat) (hp : ProblemWF p) (ρ κ : Nat → Bool) :
    ∀ c ∈ p.cells, eval ρ κ (cellAfter p tol c).geometry = eval (fun n => ρ (dictFun (mapOf p tol) n)) κ c.geometry := by
  intro c hc
  rw [C18_same_sense p tol hp c hc, eval_subst]

/-- For every position of a point relative to the surfaces (`ρ`) that does not distinguish a removed surface from
    the survivor it is mapped to, and every position relative to the cells (`κ`, for `#n`), every cell's geometry
    after the call evaluates exactly as before: same leaves up to the identification, same senses, same operators. -/
theorem C18_region (p : Problem) (tol : Rat) (hp : ProblemWF p) (ρ κ : Nat → Bool)
    (hρ : ∀ d t, (mapOf p tol).lookup d = some t → ρ d = ρ t) :
    ∀ c ∈ p.cells, eval ρ κ (cellAfter p tol c).geometry = eval ρ κ c.geometry := by
  have : (fun n => ρ (dictFun (mapOf p tol) n)) = ρ := by
    funext n
    unfold dictFun
    cases h : (mapOf p tol).lookup n with
    | none => rfl
    | some t => exact (hρ n t h).symm
  intro c hc
  rw [eval_cellAfter p tol hp ρ κ c hc, this]

/-! ## C18_clean — no reference to a removed surface remains -/

theorem mem_keys_iff (x : Nat) (d : List (Nat × Nat)) : x ∈ d.map Prod.fst ↔ (d.lookup x).isSome = true := by
  rw [List.lookup_isSome_iff, List.mem_map]
  exact ⟨fun ⟨p, hp, e⟩ => ⟨p, hp, beq_iff_eq.2 e.symm⟩, fun ⟨p, hp, e⟩ => ⟨p, hp, (beq_iff_eq.1 e).symm⟩⟩

theorem cell_surfaces {c : Cell} (hl : ∀ n ∈ c.geometry.surfaceLeaves, n ∈ c.surfaces) (dict : List (Nat × Nat))
    (x : Nat) :
    x ∈ (c.removeDuplicateSurfaces dict).surfaces ↔
      (x ∈ c.surfaces ∨ ∃ n ∈ c.geometry.surfaceLeaves, dict.lookup n = some x)
        ∧ ¬ (x ∈ c.surfaces ∧ (dict.lookup x).isSome = true) := by
  rw [cell_removeDup hl]
  show x ∈ List.filter _ _ ↔ _
  rw [List.mem_filter, mem_walk_snd]
  simp only [Bool.not_eq_true', List.contains_eq_mem, decide_eq_false_iff_not, mem_keys_iff, restrict_isSome]

/-- After the call: (1) no geometry leaf, (2) no `cell.surfaces` entry, (3) no member of `problem.surfaces` and no
    periodic link of a member is a removed surface. -/
theorem C18_clean (p : Problem) (tol : Rat) (hp : ProblemWF p) :
    (∀ c ∈ p.cells, ∀ n ∈ (cellAfter p tol c).geometry.surfaceLeaves, n ∉ removedBy p tol)
    ∧ (∀ c ∈ p.cells, ∀ n ∈ (cellAfter p tol c).surfaces, n ∉ removedBy p tol)
    ∧ (∀ s ∈ (p.removeDuplicateSurfaces tol).1.surfaces,
        s.number ∉ removedBy p tol ∧ ∀ q, s.periodic = some q → q ∉ removedBy p tol) := by
  refine ⟨?_, ?_, ?_⟩
  · intro c hc n hn
    rw [cell_geometry (hp.listed c hc), leaves_subst] at hn
    obtain ⟨m, _, rfl⟩ := List.mem_map.1 hn
    exact dictFun_not_removed hp tol m
  · intro c hc n hn hd
    rw [cell_surfaces (hp.listed c hc)] at hn
    rcases hn.1 with h | ⟨m, _, h⟩
    · exact hn.2 ⟨h, ((loop_inv hp tol).dom n).1 hd⟩
    · exact (mapped_dup hp h).1 hd
  · intro s hs
    rw [surfaces_after] at hs
    obtain ⟨h1, h2⟩ := List.mem_filter.1 hs
    refine ⟨by simpa using h2, ?_⟩
    obtain ⟨s0, _, rfl⟩ := List.mem_map.1 h1
    intro q hq
    rw [repointPeriodic_eq] at hq
    obtain ⟨q0, _, rfl⟩ := Option.map_eq_some_iff.1 hq
    exact dictFun_not_removed hp tol q0

/-! ## C18_untouched — what is not a duplicate is not touched -/

/-- (1) a surface that is nobody's duplicate is not removed;
    (2) the surfaces after the call are exactly the not-removed surfaces, in their order, each identical to what it
        was except that a periodic link to a removed surface follows the map; a surface whose periodic partner (if any)
        is not removed is literally unchanged;
    (3) a cell none of whose listed surfaces is removed is literally unchanged. -/
theorem C18_untouched (p : Problem) (tol : Rat) (hp : ProblemWF p) :
    (∀ s ∈ p.surfaces, (∀ t ∈ p.surfaces, dup tol t s = false) → s.number ∉ removedBy p tol)
    ∧ ((p.removeDuplicateSurfaces tol).1.surfaces =
          (p.surfaces.filter fun s => !(removedBy p tol).contains s.number).map fun s => s.repointPeriodic (mapOf p tol))
    ∧ (∀ s : Surface, (∀ q, s.periodic = some q → q ∉ removedBy p tol) → s.repointPeriodic (mapOf p tol) = s)
    ∧ (∀ (s : Surface) m, let s' := s.repointPeriodic m
        s'.number = s.number ∧ s'.stype = s.stype ∧ s'.consts = s.consts ∧ s'.transform = s.transform
          ∧ s'.reflecting = s.reflecting ∧ s'.white = s.white)
    ∧ (∀ c ∈ p.cells, (∀ n ∈ c.surfaces, n ∉ removedBy p tol) → cellAfter p tol c = c) := by
  have I := loop_inv hp tol
  refine ⟨?_, ?_, ?_, ?_, ?_⟩
  · intro s hs hno hd
    obtain ⟨sd, hsd, sv, hsv, e1, _, _, hdup⟩ := C18_only p tol hp s.number hd
    rw [hp.inj sd hsd s hs e1, hno sv hsv] at hdup
    cases hdup
  · rw [surfaces_after, List.filter_map]
    refine congrArg _ (List.filter_congr fun s _ => ?_)
    show (!(removedBy p tol).contains (s.repointPeriodic _).number) = _
    rw [repointPeriodic_number]
  · intro s hq
    obtain ⟨_, _, _, _, per, _, _⟩ := s
    rw [repointPeriodic_eq]
    cases per with
    | none => rfl
    | some q =>
      have : (mapOf p tol).lookup q = none := Option.not_isSome_iff_eq_none.1 (mt (I.dom q).2 (hq q rfl))
      simp only [Option.map_some, dictFun, this, Option.getD_none]
  · intro s m
    rw [repointPeriodic_eq]
    exact ⟨rfl, rfl, rfl, rfl, rfl, rfl⟩
  · intro c _ hno
    show c.removeDuplicateSurfaces (mapOf p tol) = c
    unfold Cell.removeDuplicateSurfaces
    have : restrictDict (mapOf p tol) c.surfaces = [] :=
      List.filter_eq_nil_iff.2 fun pr hpr ha =>
        hno pr.1 (List.contains_iff_mem.1 ha) ((I.dom pr.1).2 ((mem_keys_iff _ _).1 (List.mem_map_of_mem hpr)))
    rw [this]; rfl

/-! ## the invariants are re-established (so the theorems apply to every later call as well) -/

theorem C18_wf_preserved (p : Problem) (tol : Rat) (hp : ProblemWF p) :
    ProblemWF (p.removeDuplicateSurfaces tol).1 := by
  refine ⟨?_, ?_, ?_⟩
  · rw [numbers_after]
    exact List.filter_sublist.nodup hp.nodup
  · intro s hs
    rw [surfaces_after] at hs
    obtain ⟨s0, hs0, rfl⟩ := List.mem_map.1 (List.mem_filter.1 hs).1
    rw [repointPeriodic_eq]
    exact hp.consts s0 hs0
  · intro c' hc' n hn
    rw [cells_after] at hc'
    obtain ⟨c, hc, rfl⟩ := List.mem_map.1 hc'
    rw [cell_geometry (hp.listed c hc), leaves_subst] at hn
    obtain ⟨m, hm, rfl⟩ := List.mem_map.1 hn
    rw [cell_surfaces (hp.listed c hc)]
    refine ⟨?_, fun h => dictFun_not_removed hp tol m (((loop_inv hp tol).dom _).2 h.2)⟩
    unfold dictFun
    cases hl : (mapOf p tol).lookup m with
    | none => exact Or.inl (hp.listed c hc m hm)
    | some t => exact Or.inr ⟨m, hm, hl⟩

def callSeq (p : Problem) (tols : List Rat) : Problem :=
  tols.foldl (fun p tol => (p.removeDuplicateSurfaces tol).1) p

/-- any history of calls (the quantifier "every tolerance", repeated): the invariants hold before every call, so
    `C18_only`, `C18_region`, `C18_clean`, `C18_untouched` apply to each call of the history. -/
theorem C18_history (tols : List Rat) : ∀ (p : Problem), ProblemWF p → ProblemWF (callSeq p tols) := by
  induction tols with
  | nil => intro p hp; exact hp
  | cons tol rest ih => intro p hp; exact ih _ (C18_wf_preserved p tol hp)

/-! ## non-vacuity: a concrete problem that satisfies the hypotheses and on which something happens

`1 PZ 0`, `2 PZ 0.00001`, `*3 PZ 0` (reflecting), `4 -1 PZ 5` (periodic with 1), `5 PZ 0.6`;
cell 1: `1 -2 : #(3 5)`, cell 2: `-5 #1`; tolerance 1e-4: surface 2 is merged into 1, nothing else. -/
def demo : Problem :=
  { surfaces := [⟨1, "PZ", [0], none, none, false, false⟩, ⟨2, "PZ", [1/100000], none, none, false, false⟩,
                 ⟨3, "PZ", [0], none, none, true, false⟩, ⟨4, "PZ", [5], none, some 1, false, false⟩,
                 ⟨5, "PZ", [3/5], none, none, false, false⟩],
    cells := [⟨1, .union (.inter (.leaf 1 true) (.leaf 2 false)) (.compl (.inter (.leaf 3 true) (.leaf 5 true))), [1, 2, 3, 5]⟩,
              ⟨2, .inter (.leaf 5 false) (.compl (.cellLeaf 1)), [5]⟩] }

theorem demo_merged : removedBy demo (1/10000) = [2] ∧ mapOf demo (1/10000) = [(2, 1)] := by decide +kernel

example : ProblemWF demo := ⟨by decide +kernel, by decide +kernel, by decide +kernel⟩
example : removedBy demo (1/10000) = [2] ∧ mapOf demo (1/10000) = [(2, 1)] := demo_merged
example : ((demo.removeDuplicateSurfaces (1/10000)).1.cells.map (·.geometry)) =
    [.union (.inter (.leaf 1 true) (.leaf 1 false)) (.compl (.inter (.leaf 3 true) (.leaf 5 true))),
     .inter (.leaf 5 false) (.compl (.cellLeaf 1))] := by
  rw [cells_after]
  unfold cellAfter
  rw [demo_merged.2]
  decide +kernel
/-- the hypothesis of `C18_region` is met by a valuation that is not constant -/
example : ∃ ρ : Nat → Bool, (∀ d t, (mapOf demo (1/10000)).lookup d = some t → ρ d = ρ t) ∧ ρ 1 ≠ ρ 3 := by
  refine ⟨fun n => n == 1 || n == 2, fun d t h => ?_, by decide⟩
  rw [demo_merged.2, lookup_cons_if] at h
  split at h
  · next hd =>
    obtain rfl := Option.some.inj h
    rw [hd]
    rfl
  · cases h
/-- look-alikes with a different number of constants (`1 K/Z 0 0 10 1/4`, `2 K/Z 0 0 10 1/4 -1`, `3 Z 1 2`,
    `4 Z 1 2 3 4`, `5 P 1 0 0 5`, `6 P` by three points) satisfy the hypotheses; no tolerance merges them -/
def lookalikes : Problem :=
  { surfaces := [⟨1, "K/Z", [0, 0, 10, 1/4], none, none, false, false⟩, ⟨2, "K/Z", [0, 0, 10, 1/4, -1], none, none, false, false⟩,
                 ⟨3, "Z", [1, 2], none, none, false, false⟩, ⟨4, "Z", [1, 2, 3, 4], none, none, false, false⟩,
                 ⟨5, "P", [1, 0, 0, 5], none, none, false, false⟩, ⟨6, "P", [1, 0, 0, 5, 5, 1, 0, 5, 0], none, none, false, false⟩],
    cells := [⟨1, .inter (.leaf 2 false) (.union (.leaf 4 true) (.leaf 6 false)), [2, 4, 6]⟩] }

theorem lookalikes_wf : ProblemWF lookalikes := ⟨by decide +kernel, by decide +kernel, by decide +kernel⟩

theorem lookalikes_generic : ∀ s ∈ lookalikes.surfaces, isFinder (classOf s.stype) = false := by decide +kernel

example : ProblemWF lookalikes := lookalikes_wf
example : ∀ s ∈ lookalikes.surfaces, isFinder (classOf s.stype) = false := lookalikes_generic
example : removedBy lookalikes 100 = [] := by
  refine List.eq_nil_iff_forall_not_mem.2 fun d hd => ?_
  obtain ⟨sd, hsd, _, _, rfl, _⟩ := C18_only lookalikes 100 lookalikes_wf d hd
  exact (C18_generic_kept lookalikes 100 lookalikes_wf sd hsd (lookalikes_generic sd hsd)).2.1 hd
/-- with tolerance 1 surface 5 (0.6 away) goes as well -/
example : removedBy demo 1 = [2, 5] := by decide +kernel

end MontePyVerif.Dedupe
