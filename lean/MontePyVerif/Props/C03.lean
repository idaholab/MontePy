import MontePyVerif.Model.Edits
/-! # C03 — valid edits are accepted and written exactly, and nothing else changes

Refinement of the heap model of the setters (`Model/Edits.lean`) to an abstract record of independent quantities,
`Quantity → Obs`, on which an assignment changes one entry and nothing else (`absAction`).  The concrete setters
write `ValueNode`s that live in a heap and may be shared; under the invariant `Inv` (quantity ↦ node injective up to
the particles of one cell's `imp:n,p=` entry; every semantic node sits at its tree position) the concrete assignment
has exactly the abstract effect, `Inv` is kept, and what `_update_values` + formatting print is the rendering of the
abstract problem.  "Nothing else changes" is stated against the quantities the documentation of each setter names
(`editTargets`), "valid edits are accepted" against `Valid`.

`Inv p ∧ α p = a` is carried as one simulation relation: through `Importance.__setitem__` (`setImp_sim`), through one
assignment (`exec_sim`) and along the assignments of an edit (`execs_sim`).  `plan` is walked setter by setter twice,
for `Within` (the frame) and for `Accepts`; where the assignments of one setter are needed literally, `ok_of_guard`
inverts its checks. -/
namespace MontePyVerif.Edits

/-! ## abstract semantics of an assignment -/

def isImp : Slot → Bool
  | .cellImp _ _ => true
  | _ => false

/-- one assignment on the abstract record: exactly one quantity changes.  (A node-backed quantity of an object that
    does not exist stays absent; an importance is created by the assignment.) -/
def absAction (a : AbstractProblem) : Action → AbstractProblem
  | .write s v => if isImp s || a (.node s) != .absent then upd a (.node s) (.val v) else a
  | .setField f o => upd a (.field f) o

def absActions (a : AbstractProblem) (as : List Action) : AbstractProblem := as.foldl absAction a

def Action.target : Action → Quantity
  | .write s _ => .node s
  | .setField f _ => .field f

theorem absActions_nil (a : AbstractProblem) : absActions a [] = a := rfl

theorem absActions_cons (a : AbstractProblem) (x : Action) (xs : List Action) :
    absActions a (x :: xs) = absActions (absAction a x) xs := rfl

theorem absAction_setField (a : AbstractProblem) (f : Field) (o : Obs) :
    absAction a (.setField f o) = upd a (.field f) o := rfl

theorem upd_eq {κ β : Type} [DecidableEq κ] (f : κ → β) (k : κ) (v : β) : upd f k v k = v :=
  if_pos rfl

theorem upd_ne {κ β : Type} [DecidableEq κ] (f : κ → β) (k j : κ) (v : β) (h : j ≠ k) : upd f k v j = f j :=
  if_neg h

theorem absAction_frame (a : AbstractProblem) (act : Action) (q : Quantity) (h : act.target ≠ q) :
    absAction a act q = a q := by
  cases act with
  | setField f o => exact upd_ne _ _ _ _ (Ne.symm h)
  | write s v =>
    simp only [absAction]
    split
    · exact upd_ne _ _ _ _ (Ne.symm h)
    · rfl

theorem absActions_frame (as : List Action) : ∀ (a : AbstractProblem) (q : Quantity),
    (∀ act ∈ as, act.target ≠ q) → absActions a as q = a q := by
  induction as with
  | nil => intro a q _; rfl
  | cons x xs ih =>
    intro a q h
    rw [absActions_cons, ih _ q fun act hm => h act (List.mem_cons_of_mem _ hm)]
    exact absAction_frame a x q (h x (List.mem_cons_self ..))

theorem absAction_write_target (a : AbstractProblem) (s : Slot) (v : Option Val)
    (h : isImp s = true ∨ a (.node s) ≠ .absent) : absAction a (.write s v) (.node s) = .val v := by
  have : (isImp s || a (.node s) != .absent) = true := by
    rcases h with h | h
    · rw [h]; rfl
    · rw [bne_iff_ne.2 h, Bool.or_true]
  simp only [absAction, this, if_true, upd_eq]

/-! ## heap lemmas -/

theorem α_node_some (p : Problem) (s : Slot) (id : NodeId) (h : p.slot s = some id) :
    α p (.node s) = .val (p.heap id).value := by
  simp [α, h]

theorem α_node_none (p : Problem) (s : Slot) (h : p.slot s = none) : α p (.node s) = .absent := by
  simp [α, h]

theorem α_write (p : Problem) (id : NodeId) (v : Option Val) (s : Slot) :
    α (p.write id v) (.node s) = if p.slot s = some id then .val v else α p (.node s) := by
  cases h : p.slot s with
  | none =>
    rw [α_node_none (p.write id v) s h, α_node_none p s h]
    simp
  | some j =>
    rw [α_node_some (p.write id v) s j h, α_node_some p s j h]
    by_cases hj : j = id
    · subst hj; simp [Problem.write, upd]
    · simp [Problem.write, upd, hj]

theorem α_field (p : Problem) (f : Field) : α p (.field f) = p.field f := rfl

theorem absent_iff (p : Problem) (s : Slot) : α p (.node s) = .absent ↔ p.slot s = none := by
  cases h : p.slot s with
  | none => simp [α_node_none _ _ h]
  | some j => simp [α_node_some _ _ j h]

theorem α_write_unique (p : Problem) (id : NodeId) (v : Option Val) (s : Slot) (hs : p.slot s = some id)
    (huniq : ∀ s', p.slot s' = some id → s' = s) : α (p.write id v) = upd (α p) (.node s) (.val v) := by
  funext q
  cases q with
  | field g => rfl
  | node s' =>
    rw [α_write]
    by_cases h : s' = s
    · rw [h, if_pos hs, upd_eq]
    · rw [if_neg fun h' => h (huniq s' h'), upd_ne _ _ _ _ fun hq => h (Quantity.node.inj hq)]

/-! ## a node allocated for a slot; `Inv` under writes and allocations -/

theorem Inv.next_free {p : Problem} (hI : Inv p) (s : Slot) : p.slot s ≠ some p.next :=
  fun h => Nat.lt_irrefl _ (hI.bound s _ h)

theorem α_fresh (p p1 : Problem) (hI : Inv p) (s : Slot) (n : VNode)
    (hslot : p1.slot = upd p.slot s (some p.next)) (hheap : p1.heap = upd p.heap p.next n)
    (hfield : p1.field = p.field) (v : Option Val) :
    α (p1.write p.next v) = upd (α p) (.node s) (.val v) := by
  have hold : ∀ s', s' ≠ s → p1.slot s' = p.slot s' := fun s' h => by rw [hslot, upd_ne _ _ _ _ h]
  -- in `p1` the fresh node is held by `s` only; away from `s`, `p1` reads as `p`
  rw [α_write_unique p1 p.next v s (by rw [hslot, upd_eq]) fun s' h' =>
    Classical.byContradiction fun hne => hI.next_free s' (hold s' hne ▸ h')]
  funext q
  by_cases hq : q = .node s
  · rw [hq, upd_eq, upd_eq]
  · rw [upd_ne _ _ _ _ hq, upd_ne _ _ _ _ hq]
    cases q with
    | field g => exact congrFun hfield g
    | node s' =>
      have hs' := hold s' fun h => hq (h ▸ rfl)
      cases h : p.slot s' with
      | none => rw [α_node_none _ _ (hs'.trans h), α_node_none _ _ h]
      | some j =>
        rw [α_node_some _ _ j (hs'.trans h), α_node_some _ _ j h, hheap,
          upd_ne _ _ _ _ fun (e : j = p.next) => hI.next_free s' (e ▸ h)]

/-- `Inv` does not mention the heap -/
theorem Inv_congr (p p' : Problem) (hI : Inv p) (h1 : p'.slot = p.slot) (h2 : p'.next = p.next)
    (h3 : p'.impKeys = p.impKeys) (h4 : p'.tree = p.tree) : Inv p' := by
  constructor
  · intro s s' id; rw [h1]; exact hI.inj s s' id
  · intro s id; rw [h1, h2]; exact hI.bound s id
  · intro i a; rw [h1, h3]; exact hI.keys i a
  · intro s hs; rw [h1, h4]; exact hI.reach s hs

theorem Inv_write (p : Problem) (hI : Inv p) (id : NodeId) (v : Option Val) : Inv (p.write id v) :=
  Inv_congr p _ hI rfl rfl rfl rfl

theorem Inv_alloc (p p1 : Problem) (hI : Inv p) (i : Nat) (part : String)
    (hslot : p1.slot = upd p.slot (.cellImp i part) (some p.next))
    (htree : p1.tree = upd p.tree (.cellImp i part) (some p.next))
    (hnext : p1.next = p.next + 1)
    (hkeys : ∀ j a, a ∈ p1.impKeys j ↔ (a ∈ p.impKeys j ∨ (j = i ∧ a = part))) : Inv p1 := by
  have hsl : ∀ s id, p1.slot s = some id → s = .cellImp i part ∧ id = p.next ∨ p.slot s = some id := by
    intro s id h
    rw [hslot] at h
    by_cases hs : s = .cellImp i part
    · rw [hs, upd_eq] at h; exact .inl ⟨hs, (Option.some.inj h).symm⟩
    · rw [upd_ne _ _ _ _ hs] at h; exact .inr h
  constructor
  · intro s s' id h h'
    rcases hsl s id h with ⟨rfl, rfl⟩ | h <;> rcases hsl s' _ h' with ⟨rfl, hid⟩ | h'
    · exact .inl rfl
    · exact (hI.next_free _ h').elim
    · exact (hI.next_free _ (hid ▸ h)).elim
    · exact hI.inj s s' id h h'
  · intro s id h
    rw [hnext]
    rcases hsl s id h with ⟨-, rfl⟩ | h
    · exact Nat.lt_succ_self _
    · exact Nat.lt_succ_of_lt (hI.bound s id h)
  · intro j a
    rw [hkeys, hslot, ← hI.keys j a]
    by_cases hja : Slot.cellImp j a = .cellImp i part
    · cases hja; simp [upd_eq]
    · rw [upd_ne _ _ _ _ hja]
      exact (or_iff_left fun (h : j = i ∧ a = part) => hja (by rw [h.1, h.2])).symm
  · intro s hs
    rw [hslot, htree]
    by_cases h : s = .cellImp i part
    · rw [h, upd_eq, upd_eq]
    · rw [upd_ne _ _ _ _ h, upd_ne _ _ _ _ h, hI.reach s hs]

/-! ## the simulation: an assignment has its abstract effect and keeps the invariant -/

theorem imp_not_shared (p : Problem) (hI : Inv p) (i : Nat) (part : String) (id : NodeId)
    (hs : p.slot (.cellImp i part) = some id) (hns : sharedImp p i part id = false)
    (s' : Slot) (h' : p.slot s' = some id) : s' = .cellImp i part := by
  rcases hI.inj _ _ _ hs h' with h | ⟨_, _, b, h1, rfl⟩
  · exact h.symm
  · cases h1
    by_cases hb : b = part
    · rw [hb]
    · have : sharedImp p i part id = true :=
        List.any_eq_true.2 ⟨b, (hI.keys i b).1 (by rw [h']; rfl), by simp [hb, h']⟩
      rw [this] at hns
      cases hns

theorem setImp_own (p : Problem) (i : Nat) (part : String) (v : Option Val) (id : NodeId)
    (h : p.slot (.cellImp i part) = some id) (hs : sharedImp p i part id = false) :
    setImp p i part v = p.write id v := by
  simp [setImp, h, hs]

/-- `Importance.__setitem__`: in each of its three cases (`_generate_default_cell_tree`, `copy.deepcopy(tree)`, the
    tree the particle has to itself) the particle ends with a node no other slot holds, which is then written -/
theorem setImp_sim (p : Problem) (hI : Inv p) (i : Nat) (part : String) (v : Option Val) :
    Inv (setImp p i part v) ∧ α (setImp p i part v) = upd (α p) (.node (.cellImp i part)) (.val v) := by
  cases hs : p.slot (.cellImp i part) with
  | none =>
    simp only [setImp, hs]
    refine ⟨Inv_write _ (Inv_alloc p _ hI i part rfl rfl rfl fun j a => ?_) _ _, ?_⟩
    · by_cases hj : j = i
      · subst hj; simp [upd]
      · simp [upd, hj]
    -- `by rfl`: the state after the allocation is read off the goal before the equations are checked
    · exact α_fresh p _ hI _ _ (by rfl) (by rfl) (by rfl) v
  | some id =>
    cases hsh : sharedImp p i part id with
    | true =>
      simp only [setImp, hs, hsh, if_true]
      refine ⟨Inv_write _ (Inv_alloc p _ hI i part rfl rfl rfl fun j a => ?_) _ _, ?_⟩
      -- the particle has a tree already, so it is among the keys
      · refine ⟨.inl, fun h => h.elim (fun h => h) ?_⟩
        rintro ⟨rfl, rfl⟩
        exact (hI.keys j a).1 (by rw [hs]; rfl)
      · exact α_fresh p _ hI _ _ (by rfl) (by rfl) (by rfl) v
    | false =>
      rw [setImp_own _ _ _ _ _ hs hsh]
      exact ⟨Inv_write p hI id v, α_write_unique p id v _ hs (imp_not_shared p hI i part id hs hsh)⟩

/-- a write goes through `Importance.__setitem__` or is a plain assignment to the node the slot holds -/
theorem Slot.cases_imp {motive : Slot → Prop} (imp : ∀ i part, motive (.cellImp i part))
    (plain : ∀ s, isImp s = false → motive s) (s : Slot) : motive s := by
  cases s with
  | cellImp i part => exact imp i part
  | _ => exact plain _ rfl

theorem execAction_plain (p : Problem) (s : Slot) (hImp : isImp s = false) (v : Option Val) :
    execAction p (.write s v) = (match p.slot s with
      | some id => p.write id v
      | none => p) := by
  cases s with
  | cellImp i part => cases hImp
  | _ => rfl

/-- `Inv p ∧ α p = a` is a simulation relation between `execAction` on the heap and `absAction` on the record -/
theorem exec_sim (p : Problem) (hI : Inv p) (act : Action) :
    Inv (execAction p act) ∧ α (execAction p act) = absAction (α p) act := by
  cases act with
  | setField f o =>
    refine ⟨Inv_congr p _ hI rfl rfl rfl rfl, funext fun q => ?_⟩
    cases q with
    | node s => rfl
    | field g => simp only [execAction, absAction, α, upd, Quantity.field.injEq]
  | write s v =>
    cases s using Slot.cases_imp with
    | imp i part => exact setImp_sim p hI i part v
    | plain s hImp =>
      rw [execAction_plain p s hImp]
      simp only [absAction, hImp, Bool.false_or]
      cases hs : p.slot s with
      | none => rw [α_node_none p s hs]; exact ⟨hI, rfl⟩
      | some id =>
        -- the quantity reads `.val _`, not `.absent`: the abstract assignment is the update
        rw [α_node_some p s id hs]
        refine ⟨Inv_write p hI id v, α_write_unique p id v s hs fun s' hs' => ?_⟩
        rcases hI.inj _ _ _ hs hs' with h | ⟨i, a, b, rfl, _⟩
        · exact h.symm
        · cases hImp

theorem exec_refines (p : Problem) (hI : Inv p) (act : Action) :
    α (execAction p act) = absAction (α p) act := (exec_sim p hI act).2

theorem execs_sim (as : List Action) (p : Problem) (hI : Inv p) :
    Inv (execActions p as) ∧ α (execActions p as) = absActions (α p) as :=
  List.foldl_rel (r := fun p a => Inv p ∧ α p = a) ⟨hI, rfl⟩ fun act _ p _ h => h.2 ▸ exec_sim p h.1 act

/-! ## the theorems of the property -/

theorem applyEdit_ok (p p' : Problem) (e : Edit) (h : applyEdit p e = .ok p') :
    ∃ as, plan p e = .ok as ∧ p' = execActions p as := by
  unfold applyEdit at h
  cases hp : plan p e with
  | error k => rw [hp] at h; cases h
  | ok as => rw [hp] at h; cases h; exact ⟨as, rfl, rfl⟩

/-- An accepted edit is a list of assignments (the ones its setter makes after its checks), and on
    the abstract record each of them changes its own quantity and nothing else — although concretely the values
    live in heap nodes that may be shared (`imp:n,p=1`), are copied on write or are allocated by the edit. -/
theorem C03_refines (p p' : Problem) (e : Edit) (hI : Inv p) (h : applyEdit p e = .ok p') :
    ∃ as, plan p e = .ok as ∧ α p' = absActions (α p) as := by
  obtain ⟨as, hp, rfl⟩ := applyEdit_ok p p' e h
  exact ⟨as, hp, (execs_sim as p hI).2⟩

/-- Every accepted edit keeps `Inv`, also the ones that allocate (a particle's first importance
    tree, the copy made on a write to a shared one). -/
theorem C03_inv_preserved (p p' : Problem) (e : Edit) (hI : Inv p) (h : applyEdit p e = .ok p') : Inv p' := by
  obtain ⟨as, _, rfl⟩ := applyEdit_ok p p' e h
  exact (execs_sim as p hI).1


/-- every step of an accepted history refines its abstract step, from a state that satisfies `Inv` -/
inductive Trace : Problem → List Edit → Problem → Prop where
  | nil (p : Problem) : Trace p [] p
  | cons (p p1 p' : Problem) (e : Edit) (es : List Edit) (as : List Action) :
      Inv p → plan p e = .ok as → α p1 = absActions (α p) as → Trace p1 es p' → Trace p (e :: es) p'

/-- Along an accepted history of any length every state satisfies `Inv` and every step is the abstract step. -/
theorem C03_history (es : List Edit) : ∀ (p₀ p' : Problem), Inv p₀ → applyEdits p₀ es = .ok p' →
    Inv p' ∧ Trace p₀ es p' := by
  induction es with
  | nil =>
    intro p₀ p' hI h
    cases h
    exact ⟨hI, Trace.nil _⟩
  | cons e es ih =>
    intro p₀ p' hI h
    unfold applyEdits at h
    cases h1 : applyEdit p₀ e with
    | error k => rw [h1] at h; cases h
    | ok p1 =>
      rw [h1] at h
      have hI1 := C03_inv_preserved p₀ p1 e hI h1
      obtain ⟨as, hp, hα⟩ := C03_refines p₀ p1 e hI h1
      obtain ⟨hI', tr⟩ := ih p1 p' hI1 h
      exact ⟨hI', Trace.cons p₀ p1 p' e es as hI hp hα tr⟩

theorem applyEdits_nil (p : Problem) : applyEdits p [] = .ok p := rfl

/-! ## frame: what an edit is about, and everything else -/

/-- the quantities an edit is about (read off the documentation of the setter, not off the model) -/
def editTargets (p : Problem) : Edit → List Quantity
  | .cellNumber i _ => [.node (.cellNumber i)]
  | .surfNumber i _ => [.node (.surfNumber i)]
  | .matNumber i _ => [.node (.matNumber i)]
  | .trNumber i _ => [.node (.trNumber i)]
  | .uniNumber u _ => [.field (.uniNumber u)]
  | .material i _ => [.field (.cellMat i)]
  | .atomDensity i _ => [.field (.cellAtomDens i), .node (.cellDensity i)]
  | .massDensity i _ => [.field (.cellAtomDens i), .node (.cellDensity i)]
  | .delDensity i => [.node (.cellDensity i)]
  | .importance i part _ => [.node (.cellImp i part)]
  | .importanceAll i _ => (modeParts p).map (fun a => .node (.cellImp i a))
  | .volume i _ => [.node (.cellVol i)]
  | .delVolume i => [.node (.cellVol i)]
  | .lattice i _ => [.node (.cellLat i)]
  | .delLattice i => [.node (.cellLat i)]
  | .universe i _ => [.field (.cellUni i)]
  | .claim _ cells => cells.map (fun i => .field (.cellUni i))
  | .notTruncated i _ => [.field (.cellNotTrunc i)]
  | .fillUniverse i _ => [.field (.cellFillUni i)]
  | .fillTransform i _ => [.field (.cellFillTr i)]
  | .surfConstants i vs => (List.range vs.length).map (fun k => .node (.surfConst i k))
  | .location i _ => [.node (.surfConst i 0)]
  | .radius i _ => [.node (.surfConst i 0), .node (.surfConst i 2)]
  | .coordinates i _ _ => [.node (.surfConst i 0), .node (.surfConst i 1)]
  | .reflecting i _ => [.field (.surfReflect i)]
  | .white i _ => [.field (.surfWhite i)]
  | .surfTransform i _ => [.field (.surfTr i)]
  | .periodic i _ => [.field (.surfPer i)]
  | .fraction m k _ => [.node (.matFrac m k)]
  | .laws m _ => [.field (.matLaws m)]
  | .displacement t _ => [.field (.trDisp t)]
  | .rotation t _ => [.field (.trRot t)]
  | .inDegrees t _ => [.field (.trDeg t)]
  | .mainToAux t _ => [.field (.trM2A t)]
  | .modeAdd _ => [.field .mode]
  | .modeRemove _ => [.field .mode]
  | .modeSet _ => [.field .mode]
  | .title _ => [.field .title]

/-- whatever `r` accepts assigns only to quantities in `ts` -/
def Within (ts : List Quantity) (r : Except ErrKind (List Action)) : Prop :=
  ∀ as, r = .ok as → ∀ act ∈ as, act.target ∈ ts

namespace Within
variable {ts ts' : List Quantity} {k : ErrKind} {as : List Action} {x y : Except ErrKind (List Action)}

theorem error : Within ts (.error k) := fun _ h => nomatch h

theorem targets : Within (as.map Action.target) (.ok as) := by
  intro as' h act hm
  cases h
  exact List.mem_map_of_mem hm

theorem mono (h : ts ⊆ ts') (hx : Within ts x) : Within ts' x := fun as hp act hm => h (hx as hp act hm)

theorem ite {c : Prop} [Decidable c] (hx : Within ts x) (hy : Within ts y) : Within ts (if c then x else y) := by
  split
  · exact hx
  · exact hy

theorem guard {c : Prop} [Decidable c] (hx : Within ts x) : Within ts (if c then .error k else x) := ite error hx

theorem filterMap {α : Type} {f : α → Option Action} {g : α → Quantity} {l : List α}
    (h : ∀ a act, f a = some act → act.target = g a) : Within (l.map g) (.ok (l.filterMap f)) := by
  intro as' h' act hm
  cases h'
  obtain ⟨a, ha, hact⟩ := List.mem_filterMap.1 hm
  exact List.mem_map.2 ⟨a, ha, (h a act hact).symm⟩

theorem map {α : Type} {f : α → Action} {g : α → Quantity} {l : List α}
    (h : ∀ a, (f a).target = g a) : Within (l.map g) (.ok (l.map f)) := by
  intro as' h' act hm
  cases h'
  obtain ⟨a, ha, rfl⟩ := List.mem_map.1 hm
  exact List.mem_map.2 ⟨a, ha, (h a).symm⟩

end Within

theorem setNumber_within {p : Problem} {mk : Nat → Slot} {count i : Nat} {fl : Bool} {v : PyVal} :
    Within [.node (mk i)] (setNumber p mk count i fl v) := by
  refine .guard ?_
  cases v with
  | int n => exact .guard (.guard .targets)
  | float q => exact .guard (.guard (.guard .targets))
  | _ => exact .error

theorem setFloat_within {s : Slot} {an : Bool} {lo : Option (Rat × Bool)} {v : PyVal} :
    Within [.node s] (setFloat s an lo v) := by
  cases lo with
  | none =>
    cases v with
    | none => exact .ite .targets .error
    | bool _ | int _ | float _ => exact .targets
    | _ => exact .error
  | some b =>
    cases v with
    | none => exact .ite .targets .error
    | bool _ | int _ | float _ => exact .guard .targets
    | _ => exact .error

theorem setBoolField_within {f : Field} {v : PyVal} : Within [.field f] (setBoolField f v) := by
  cases v with
  | bool b => exact .targets
  | _ => exact .error

/-- one `.guard` per check of the setter, `.targets` where the assignments made are literally the documented ones -/
theorem plan_within (p : Problem) (e : Edit) : Within (editTargets p e) (plan p e) := by
  cases e with
  | cellNumber i v | surfNumber i v | matNumber i v | trNumber i v => exact setNumber_within
  | uniNumber u v =>
    refine .guard ?_
    cases v with
    | int n => exact .guard (.guard .targets)
    | _ => exact .error
  | material i o | fillUniverse i o | fillTransform i o | surfTransform i o =>
    refine .guard ?_
    cases o with
    | some k => exact .guard .targets
    | none => exact .targets
  | atomDensity i v | massDensity i v =>
    refine .guard ?_
    split
    · exact .error
    · exact .guard .targets
  | importance i part v =>
    refine .guard (.guard ?_)
    split
    · exact .error
    · exact .guard .targets
  | importanceAll i v =>
    refine .guard ?_
    split
    · exact .error
    · exact .guard (.map fun _ => rfl)
  | delDensity i | delVolume i | delLattice i => exact .guard .targets
  | volume i v => exact .guard setFloat_within
  | lattice i v =>
    refine .guard ?_
    split
    · exact .targets
    · exact .ite .targets .error
    · exact .targets
    · exact .error
    · exact .error
  | «universe» i u | displacement i u | rotation i u => exact .guard (.guard .targets)
  | claim u cells => exact .guard (.guard (.map fun _ => rfl))
  | notTruncated i v =>
    refine .guard ?_
    cases v with
    | bool b => exact .guard .targets
    | _ => exact .error
  | surfConstants i vs =>
    refine .guard (.guard (.ite (.filterMap fun k act h => ?_) .error))
    split at h
    · cases h; rfl
    · cases h
  | location i v => exact .guard (.ite setFloat_within .error)
  | radius i v =>
    refine .guard ?_
    split
    · exact .mono (List.cons_subset_cons _ (List.nil_subset _)) setFloat_within
    · exact .mono (List.subset_cons_self ..) setFloat_within
    · exact .error
  | coordinates i a b =>
    refine .guard (.ite ?_ .error)
    split
    · exact .error
    · exact .error
    · split
      · exact .targets
      · exact .error
  | reflecting i v | white i v | inDegrees i v | mainToAux i v => exact .guard setBoolField_within
  | periodic i j =>
    refine .guard ?_
    cases j with
    | some k => exact .guard (.ite .targets .error)
    | none => exact .targets
  | fraction m k v =>
    refine .guard ?_
    split
    · exact .error
    · exact setFloat_within
  | laws m ls =>
    refine .guard ?_
    split
    · exact .targets
    · exact .error
  | modeAdd _ | modeSet _ | title _ => exact .targets
  | modeRemove part => exact .ite .targets .error

theorem mem_of_eq_single {q t : Quantity} {l : List Quantity} (h : q = t) (ht : t ∈ l) : q ∈ l := h ▸ ht

theorem plan_targets (p : Problem) (e : Edit) (as : List Action) (hp : plan p e = .ok as) :
    ∀ act ∈ as, act.target ∈ editTargets p e := plan_within p e as hp

/-- The "nothing else changes" half at full strength: after any accepted edit, every quantity the
    edit is not about reads exactly as before — every other attribute of the object, every other object, the other
    particles of a shared IMP entry, the other cells of a data-block card. -/
theorem C03_frame (p p' : Problem) (e : Edit) (hI : Inv p) (h : applyEdit p e = .ok p')
    (q : Quantity) (hq : q ∉ editTargets p e) : α p' q = α p q := by
  obtain ⟨as, hp, hα⟩ := C03_refines p p' e hI h
  rw [hα]
  apply absActions_frame
  intro act hm heq
  exact hq (heq ▸ plan_targets p e as hp act hm)

/-! ## valid edits are accepted -/

/-- `i` addresses an existing object (written as the negation of the guard of the code) -/
abbrev inRange (i n : Nat) : Prop := ¬ (i ≥ n)

/-- the documented preconditions of each setter: existing objects, arguments of the documented type and range,
    new numbers not in use.  (Number arguments are `int`s, values are `float`s; the model also accepts the other
    spellings Python allows.)  Left out: no call of `surface_constants`, `radius`, `coordinates`, `fraction` or the
    thermal laws is `Valid`, nor is `not_truncated = True`, so `C03_accepts` says nothing about these. -/
def Valid (p : Problem) : Edit → Prop
  | .cellNumber i (.int n) => inRange i p.ncells ∧ ¬ (n ≤ 0) ∧ (numbersInUse p .cellNumber p.ncells).contains (n : Rat) = false
  | .surfNumber i (.int n) => inRange i p.nsurfs ∧ ¬ (n ≤ 0) ∧ (numbersInUse p .surfNumber p.nsurfs).contains (n : Rat) = false
  | .matNumber i (.int n) => inRange i p.nmats ∧ ¬ (n ≤ 0) ∧ (numbersInUse p .matNumber p.nmats).contains (n : Rat) = false
  | .trNumber i (.int n) => inRange i p.ntrs ∧ ¬ (n ≤ 0) ∧ (numbersInUse p .trNumber p.ntrs).contains (n : Rat) = false
  | .uniNumber u (.int n) => inRange u p.nunis ∧ ¬ (n ≤ 0) ∧ (uniNumbersInUse p).contains n = false
  | .material i none => inRange i p.ncells
  | .material i (some m) => inRange i p.ncells ∧ inRange m p.nmats
  | .atomDensity i (.float q) => inRange i p.ncells ∧ ¬ (q < 0)
  | .massDensity i (.float q) => inRange i p.ncells ∧ ¬ (q < 0)
  | .delDensity i => inRange i p.ncells
  | .importance i part (.float q) => inRange i p.ncells ∧ (modeParts p).contains part = true ∧ ¬ (q < 0)
  | .importanceAll i (.float q) => inRange i p.ncells ∧ ¬ (q < 0)
  | .volume i (.float q) => inRange i p.ncells ∧ ¬ (q < 0)
  | .volume i .none => inRange i p.ncells
  | .delVolume i => inRange i p.ncells
  | .lattice i (.int n) => inRange i p.ncells ∧ (n = 1 ∨ n = 2)
  | .delLattice i => inRange i p.ncells
  | .universe i u => inRange i p.ncells ∧ inRange u p.nunis
  | .claim u cells => inRange u p.nunis ∧ cells.any (fun i => i ≥ p.ncells) = false
  | .notTruncated i (.bool false) => inRange i p.ncells
  | .fillUniverse i none => inRange i p.ncells
  | .fillUniverse i (some u) => inRange i p.ncells ∧ inRange u p.nunis
  | .fillTransform i none => inRange i p.ncells
  | .fillTransform i (some t) => inRange i p.ncells ∧ inRange t p.ntrs
  | .location i (.float _) => inRange i p.nsurfs ∧ p.surfKind i = .axisPlane
  | .reflecting i (.bool _) => inRange i p.nsurfs
  | .white i (.bool _) => inRange i p.nsurfs
  | .surfTransform i none => inRange i p.nsurfs
  | .surfTransform i (some t) => inRange i p.nsurfs ∧ inRange t p.ntrs
  | .periodic i none => inRange i p.nsurfs
  | .periodic i (some j) => inRange i p.nsurfs ∧ inRange j p.nsurfs ∧ p.surfKind j = p.surfKind i
  | .displacement t xs => inRange t p.ntrs ∧ ¬ (xs.length ≠ 3)
  | .rotation t xs => inRange t p.ntrs ∧ ¬ (xs.length < 5 ∨ xs.length > 9)
  | .inDegrees t (.bool _) => inRange t p.ntrs
  | .mainToAux t (.bool _) => inRange t p.ntrs
  | .modeAdd _ => True
  | .modeRemove part => (modeParts p).contains part = true
  | .modeSet _ => True
  | .title _ => True
  | _ => False

/-- no check of the setter fires -/
def Accepts {β : Type} (r : Except ErrKind β) : Prop := ∃ b, r = .ok b

namespace Accepts
variable {β : Type} {c : Prop} [Decidable c] {k : ErrKind} {x y : Except ErrKind β} {b : β}

theorem ok : Accepts (.ok b : Except ErrKind β) := ⟨b, rfl⟩

theorem guard (hc : ¬ c) (h : Accepts x) : Accepts (if c then .error k else x) := by rwa [if_neg hc]

theorem pos (hc : c) (h : Accepts x) : Accepts (if c then x else y) := by rwa [if_pos hc]

end Accepts

/-- each conjunct of `Valid` refutes one check of the setter -/
theorem plan_accepts (p : Problem) (e : Edit) (hv : Valid p e) : Accepts (plan p e) := by
  cases e with
  | cellNumber i v | surfNumber i v | matNumber i v | trNumber i v | uniNumber i v =>
    cases v with
    | int n => exact .guard hv.1 (.guard hv.2.1 (.guard (Bool.eq_false_iff.1 hv.2.2) .ok))
    | _ => exact hv.elim
  | material i o | fillUniverse i o | fillTransform i o | surfTransform i o =>
    cases o with
    | none => exact .guard hv .ok
    | some k => exact .guard hv.1 (.guard hv.2 .ok)
  | atomDensity i v | massDensity i v | importanceAll i v =>
    cases v with
    | float q => exact .guard hv.1 (.guard hv.2 .ok)
    | _ => exact hv.elim
  | delDensity i | delVolume i | delLattice i => exact .guard hv .ok
  | importance i part v =>
    cases v with
    | float q => exact .guard hv.1 (.guard (by rw [hv.2.1]; decide) (.guard hv.2.2 .ok))
    | _ => exact hv.elim
  | volume i v =>
    cases v with
    | float q => exact .guard hv.1 (.guard (by simp [hv.2]) .ok)
    | none => exact .guard hv .ok
    | _ => exact hv.elim
  | lattice i v =>
    cases v with
    | int n => exact .guard hv.1 (.pos hv.2 .ok)
    | _ => exact hv.elim
  | «universe» i u | displacement i u | rotation i u => exact .guard hv.1 (.guard hv.2 .ok)
  | claim u cells => exact .guard hv.1 (.guard (Bool.eq_false_iff.1 hv.2) .ok)
  | notTruncated i v =>
    cases v with
    | bool b =>
      cases b with
      | false => exact .guard hv (.guard (by simp) .ok)
      | true => exact hv.elim
    | _ => exact hv.elim
  | location i v =>
    cases v with
    | float q => exact .guard hv.1 (.pos hv.2 .ok)
    | _ => exact hv.elim
  | reflecting i v | white i v | inDegrees i v | mainToAux i v =>
    cases v with
    | bool b => exact .guard hv .ok
    | _ => exact hv.elim
  | periodic i j =>
    cases j with
    | none => exact .guard hv .ok
    | some j => exact .guard hv.1 (.guard hv.2.1 (.pos hv.2.2 .ok))
  | modeAdd _ | modeSet _ | title _ => exact .ok
  | modeRemove part => exact .pos hv .ok
  -- `Valid` holds of no call of the remaining setters (surface constants, radius, coordinates, fraction, laws)
  | _ => exact hv.elim

/-- A valid edit is accepted: no check of the setter fires. -/
theorem C03_accepts (p : Problem) (e : Edit) (hv : Valid p e) : ∃ p', applyEdit p e = .ok p' := by
  obtain ⟨as, hp⟩ := plan_accepts p e hv
  exact ⟨execActions p as, by rw [applyEdit, hp]⟩

/-! ## the edited quantity carries the new value: the setters one reads about in the property -/

theorem ok_of_guard {β : Type} {c : Prop} [Decidable c] {k : ErrKind} {x : Except ErrKind β} {b : β}
    (h : (if c then .error k else x) = .ok b) : ¬ c ∧ x = .ok b := by
  split at h
  · cases h
  · exact ⟨‹_›, h⟩

/-- the value check of the density and importance setters (`float(value)`, then `value < 0 → ValueError`) -/
theorem ok_of_nonneg {v : PyVal} {f : Rat → List Action} {as : List Action}
    (h : (match pyNum v with
      | none => .error .typeError
      | some q => if q < 0 then .error .valueError else .ok (f q) : Except ErrKind (List Action)) = .ok as) :
    ∃ q, pyNum v = some q ∧ 0 ≤ q ∧ as = f q := by
  split at h
  · cases h
  · obtain ⟨hq, h⟩ := ok_of_guard h
    cases h
    exact ⟨_, ‹_›, Rat.not_lt.mp hq, rfl⟩

/-- Setting the importance of one particle of a cell gives that particle the value and changes
    no other quantity — in particular not the other particles of the cell, also when they were parsed from one
    `imp:n,p=` entry and share one tree (the setter copies on write). -/
theorem C03_importance (p p' : Problem) (i : Nat) (part : String) (v : PyVal) (hI : Inv p)
    (h : applyEdit p (.importance i part v) = .ok p') :
    (∃ q, pyNum v = some q ∧ α p' (.node (.cellImp i part)) = .val (some (.num q))) ∧
    (∀ x, x ≠ .node (.cellImp i part) → α p' x = α p x) := by
  constructor
  · obtain ⟨as, hp, hα⟩ := C03_refines p p' _ hI h
    obtain ⟨q, hq, -, rfl⟩ := ok_of_nonneg (ok_of_guard (ok_of_guard hp).2).2
    refine ⟨q, hq, ?_⟩
    rw [hα, absActions_cons, absActions_nil]
    exact absAction_write_target _ _ _ (.inl rfl)
  · intro x hx
    exact C03_frame p p' _ hI h x fun hm => hx (List.mem_singleton.1 hm)

/-- `mass_density = q` stores the magnitude in the density node (when the cell has one), records the mode in the flag, and
    changes nothing else; the mode is written as the sign (`density.is_negative = not is_atom_dens`) whenever the cell
    has a material.  Symmetrically for `atom_density`. -/
theorem C03_density (p p' : Problem) (i : Nat) (v : PyVal) (atom : Bool) (hI : Inv p)
    (h : applyEdit p (if atom then .atomDensity i v else .massDensity i v) = .ok p') :
    α p' (.field (.cellAtomDens i)) = .flag atom ∧
    (∀ id, p.slot (.cellDensity i) = some id → ∃ q, pyNum v = some q ∧ 0 ≤ q ∧
        α p' (.node (.cellDensity i)) = .val (some (.num q))) ∧
    (∀ m, α p' (.field (.cellMat i)) = .ptr (some m) → written p' (.cellDensitySign i) = .flag (!atom)) ∧
    (∀ x, x ≠ .field (.cellAtomDens i) → x ≠ .node (.cellDensity i) → α p' x = α p x) := by
  obtain ⟨as, hp, hα⟩ := C03_refines p p' _ hI h
  obtain ⟨q, hq, hq0, rfl⟩ : ∃ q, pyNum v = some q ∧ 0 ≤ q ∧
      as = [.setField (.cellAtomDens i) (.flag atom), .write (.cellDensity i) (some (.num q))] := by
    cases atom <;> exact ok_of_nonneg (ok_of_guard hp).2
  have hflag : α p' (.field (.cellAtomDens i)) = .flag atom := by
    rw [hα, absActions_cons, absActions_cons, absActions_nil, absAction_frame _ _ _ Quantity.noConfusion,
      absAction_setField, upd_eq]
  refine ⟨hflag, ?_, ?_, ?_⟩
  · intro id hid
    refine ⟨q, hq, hq0, ?_⟩
    rw [hα, absActions_cons, absActions_cons, absActions_nil]
    refine absAction_write_target _ _ _ (.inr ?_)
    rw [absAction_frame _ _ _ Quantity.noConfusion, α_node_some _ _ id hid]
    nofun
  · intro m hm
    simp only [written, show p'.field (.cellMat i) = _ from hm, show p'.field (.cellAtomDens i) = _ from hflag]
  · intro x hx1 hx2
    rw [hα]
    apply absActions_frame
    intro act hm
    rcases List.mem_cons.1 hm with rfl | hm
    · exact Ne.symm hx1
    · rw [List.mem_singleton.1 hm]; exact Ne.symm hx2

theorem execAction_ncells (p : Problem) (act : Action) : (execAction p act).ncells = p.ncells := by
  cases act with
  | setField f o => rfl
  | write s v =>
    cases s using Slot.cases_imp with
    | imp i part =>
      simp only [execAction, setImp]
      split
      · rfl
      · split <;> rfl
    | plain s hImp =>
      rw [execAction_plain p s hImp]
      split <;> rfl

theorem execActions_ncells (as : List Action) : ∀ p : Problem, (execActions p as).ncells = p.ncells := by
  induction as with
  | nil => intro p; rfl
  | cons a as ih => intro p; show (execActions (execAction p a) as).ncells = _; rw [ih, execAction_ncells]

theorem applyEdit_ncells (p p' : Problem) (e : Edit) (h : applyEdit p e = .ok p') : p'.ncells = p.ncells := by
  obtain ⟨as, _, rfl⟩ := applyEdit_ok p p' e h
  exact execActions_ncells as p

theorem dataRowValues_frame (p p' : Problem) (e : Edit) (mk : Nat → Slot) (hI : Inv p)
    (h : applyEdit p e = .ok p') (j : Nat) (hj : Quantity.node (mk j) ∉ editTargets p e) :
    (dataRowValues p' mk)[j]? = (dataRowValues p mk)[j]? := by
  unfold dataRowValues
  rw [applyEdit_ncells p p' e h, List.getElem?_map, List.getElem?_map]
  cases hr : (List.range p.ncells)[j]? with
  | none => rfl
  | some k =>
    obtain ⟨_, rfl⟩ := List.getElem?_eq_some_iff.1 hr
    rw [List.getElem_range, Option.map_some, Option.map_some, C03_frame p p' e hI h _ hj]

/-- A data-block card (VOL, LAT, one particle of IMP) is rebuilt from one node per cell, in
    cell order.  After any accepted edit the row holds the same values at every position the edit is not about:
    editing one cell's datum changes only that cell's position of the card. -/
theorem C03_datablock_row (p p' : Problem) (e : Edit) (mk : Nat → Slot) (hI : Inv p)
    (h : applyEdit p e = .ok p') (hn : p'.ncells = p.ncells) (j : Nat)
    (hj : Quantity.node (mk j) ∉ editTargets p e) :
    (dataRowValues p' mk)[j]? = (dataRowValues p mk)[j]? :=
  dataRowValues_frame p p' e mk hI h j hj

/-! ## what is written -/

theorem nodeNumber_eq (p : Problem) (s : Slot) : nodeNumber p s = α p (.node s) := by
  cases h : p.slot s <;> simp [nodeNumber, α, h]

theorem writtenNode_eq (p : Problem) (hI : Inv p) (s : Slot) : writtenNode p s = α p (.node s) := by
  have key : treeAfterUpdate p s = p.slot s := by
    unfold treeAfterUpdate
    cases hr : relinked s with
    | true => rfl
    | false => exact hI.reach s hr
  cases h : p.slot s <;> simp [writtenNode, key, α, h]

/-- Under `Inv`, every position of the file prints the value its quantity has in the abstract
    problem: the node-backed quantities their value (the semantic node is the node at the tree position), references
    the number of the pointee (material, universe, fill universe and transform, surface transform / periodic surface
    with its sign), the density the sign of its mode, the surface the modifier of its boundary flags, and nothing
    for a deleted pointer.  (A transform set on a FILL that was read without one is written too: `Fill._update_cell_values`
    adds the parentheses, finding C03-F1.) -/
theorem C03_written (p : Problem) (hI : Inv p) (k : WKey) : written p k = render (α p) k := by
  -- the two tables are the same text; `written` reads the number of a pointee through `nodeNumber`
  cases k with
  | node s => exact writtenNode_eq p hI s
  | cellMaterial i | cellFillTr i | surfPointer i => simp only [written, nodeNumber_eq]; rfl
  | _ => rfl

/-- `C03_written` as one closed proposition, the form the check lists among its obligations -/
def C03_written_statement : Prop :=
  ∀ p : Problem, Inv p → ∀ k : WKey, written p k = render (α p) k

theorem C03_written_all : C03_written_statement := fun p hI k => C03_written p hI k

/-! ## a move to another universe keeps the not-truncated mark (`Cell.universe = u`, `Universe.claim`) -/

def moveActions (u : Nat) (cells : List Nat) : List Action :=
  cells.map (fun i => .setField (.cellUni i) (.ptr (some u)))

/-- the entry of the U input: the number of the universe under the sign of the mark (nothing for universe 0) -/
def signedU : Obs → Obs → Obs
  | .int n, .flag nt => if n = 0 then .absent else .int (if nt then -n else n)
  | _, _ => .absent

theorem absActions_move_frame (u : Nat) (cells : List Nat) (a : AbstractProblem) (q : Quantity)
    (hq : ∀ i ∈ cells, q ≠ .field (.cellUni i)) : absActions a (moveActions u cells) q = a q := by
  apply absActions_frame
  intro act hm heq
  obtain ⟨i, hi, rfl⟩ := List.mem_map.1 hm
  exact hq i hi heq.symm

theorem absActions_move_target (u : Nat) (cells : List Nat) : ∀ (a : AbstractProblem) (i : Nat), i ∈ cells →
    absActions a (moveActions u cells) (.field (.cellUni i)) = .ptr (some u) := by
  induction cells with
  | nil => intro a i h; cases h
  | cons x xs ih =>
    intro a i hi
    rw [show moveActions u (x :: xs) = .setField (.cellUni x) (.ptr (some u)) :: moveActions u xs from rfl,
      absActions_cons]
    by_cases hx : i ∈ xs
    · exact ih _ i hx
    · obtain rfl : i = x := (List.mem_cons.1 hi).resolve_right hx
      rw [absActions_move_frame u xs _ _ fun j hj h => hx (by cases h; exact hj), absAction_setField, upd_eq]

theorem move_keeps_mark (p p' : Problem) (u : Nat) (cells : List Nat)
    (hα : α p' = absActions (α p) (moveActions u cells)) :
    (∀ j, α p' (.field (.cellNotTrunc j)) = α p (.field (.cellNotTrunc j))) ∧
    (∀ i ∈ cells, α p' (.field (.cellUni i)) = .ptr (some u) ∧
      written p' (.cellU i) = signedU (α p (.field (.uniNumber u))) (α p (.field (.cellNotTrunc i)))) ∧
    (∀ x, (∀ i ∈ cells, x ≠ .field (.cellUni i)) → α p' x = α p x) := by
  have frame : ∀ x, (∀ i ∈ cells, x ≠ .field (.cellUni i)) → α p' x = α p x := by
    intro x hx
    rw [hα]
    exact absActions_move_frame u cells _ x hx
  refine ⟨fun j => frame _ fun i _ => nofun, ?_, frame⟩
  intro i hi
  have hu : p'.field (.cellUni i) = .ptr (some u) := by
    show α p' (.field (.cellUni i)) = _
    rw [hα]
    exact absActions_move_target u cells _ i hi
  have hn : p'.field (.uniNumber u) = α p (.field (.uniNumber u)) := frame (.field (.uniNumber u)) fun i _ => nofun
  have hm : p'.field (.cellNotTrunc i) = α p (.field (.cellNotTrunc i)) := frame (.field (.cellNotTrunc i)) fun i _ => nofun
  refine ⟨hu, ?_⟩
  simp only [written, hu, hn, hm]
  rfl

/-- `cell.universe = u` edits the universe of the cell and nothing else: the
    not-truncated mark of every cell (the minus sign of `u=-n`) reads as before, and the cell is written with the number
    of its new universe under the sign of the mark it had before the move. -/
theorem C03_universe_keeps_mark (p p' : Problem) (i u : Nat) (hI : Inv p) (h : applyEdit p (.universe i u) = .ok p') :
    (∀ j, α p' (.field (.cellNotTrunc j)) = α p (.field (.cellNotTrunc j))) ∧
    α p' (.field (.cellUni i)) = .ptr (some u) ∧
    written p' (.cellU i) = signedU (α p (.field (.uniNumber u))) (α p (.field (.cellNotTrunc i))) ∧
    (∀ x, x ≠ .field (.cellUni i) → α p' x = α p x) := by
  obtain ⟨as, hp, hα⟩ := C03_refines p p' _ hI h
  cases (ok_of_guard (ok_of_guard hp).2).2
  obtain ⟨h1, h2, h3⟩ := move_keeps_mark p p' u [i] hα
  exact ⟨h1, (h2 i (List.mem_singleton.2 rfl)).1, (h2 i (List.mem_singleton.2 rfl)).2,
    fun x hx => h3 x fun j hj => List.mem_singleton.1 hj ▸ hx⟩

/-- `universe.claim(cells)` moves every cell given and edits nothing else: the statement of
    `C03_universe_keeps_mark` for every claimed cell, for lists of any length. -/
theorem C03_claim_keeps_mark (p p' : Problem) (u : Nat) (cells : List Nat) (hI : Inv p)
    (h : applyEdit p (.claim u cells) = .ok p') :
    (∀ j, α p' (.field (.cellNotTrunc j)) = α p (.field (.cellNotTrunc j))) ∧
    (∀ i ∈ cells, α p' (.field (.cellUni i)) = .ptr (some u) ∧
      written p' (.cellU i) = signedU (α p (.field (.uniNumber u))) (α p (.field (.cellNotTrunc i)))) ∧
    (∀ x, (∀ i ∈ cells, x ≠ .field (.cellUni i)) → α p' x = α p x) := by
  obtain ⟨as, hp, hα⟩ := C03_refines p p' _ hI h
  cases (ok_of_guard (ok_of_guard hp).2).2
  exact move_keeps_mark p p' u cells hα

/-! ## non-vacuity: a concrete state with a shared `imp:n,p=1` entry satisfies every hypothesis -/

def demoSlot : Slot → Option NodeId
  | .cellNumber 0 => some 0
  | .cellDensity 0 => some 1
  | .cellImp 0 "n" => some 2
  | .cellImp 0 "p" => some 2
  | .cellVol 0 => some 3
  | .cellLat 0 => some 4
  | _ => none

/-- `1 0 -1 imp:n,p=1` with `mode n p`: the two particles share node 2 -/
def demo : Problem where
  heap := fun id => { value := if id = 2 then some (.num 1) else if id = 0 then some (.num 1) else none, negatable := false, isNeg := none }
  next := 5
  slot := demoSlot
  tree := demoSlot
  field := fun f => if f = .mode then .strs (some ["n", "p"]) else if f = .cellMat 0 then .ptr none else .absent
  impKeys := fun i => if i = 0 then ["n", "p"] else []
  ncells := 1
  nsurfs := 0
  nmats := 0
  ntrs := 0
  nunis := 0
  surfKind := fun _ => .generic
  nconst := fun _ => 0

/-- the nodes of `demo` with the slot that owns each; node 2 is also held by the photon importance -/
theorem demoSlot_some {s : Slot} {id : NodeId} (h : demoSlot s = some id) :
    s = .cellImp 0 "p" ∧ id = 2 ∨
    [Slot.cellNumber 0, .cellDensity 0, .cellImp 0 "n", .cellVol 0, .cellLat 0][id]? = some s := by
  unfold demoSlot at h
  split at h <;> cases h
  case h_4 => exact .inl ⟨rfl, rfl⟩
  all_goals exact .inr rfl

theorem demo_inv : Inv demo := by
  constructor
  · intro s s' id h h'
    rcases demoSlot_some h with ⟨rfl, rfl⟩ | hs <;> rcases demoSlot_some h' with ⟨rfl, hid⟩ | hs'
    · exact .inl rfl
    · cases hs'; exact .inr ⟨0, "p", "n", rfl, rfl⟩
    · subst hid; cases hs; exact .inr ⟨0, "n", "p", rfl, rfl⟩
    · exact .inl (Option.some.inj (hs.symm.trans hs'))
  · intro s id h
    rcases demoSlot_some h with ⟨-, rfl⟩ | hs
    · decide
    · exact (List.getElem?_eq_some_iff.1 hs).1
  · intro i a
    simp only [demo]
    unfold demoSlot
    split <;> simp_all
  · intro s _
    rfl

example : Inv demo := demo_inv
example : ∀ k, written demo k = render (α demo) k := C03_written demo demo_inv
theorem demo_valid : Valid demo (.importance 0 "n" (.float 2)) := by
  unfold Valid; decide
example : Valid demo (.volume 0 (.float 3)) := by unfold Valid; decide
example : Valid demo (.cellNumber 0 (.int 7)) := by unfold Valid; decide
/-- the shared entry really is shared, and the edit really separates it: photon keeps 1 -/
example : demo.slot (.cellImp 0 "n") = demo.slot (.cellImp 0 "p") := rfl
example : sharedImp demo 0 "n" 2 = true := rfl
example : ∃ p', applyEdit demo (.importance 0 "n" (.float 2)) = .ok p' ∧
    α p' (.node (.cellImp 0 "n")) = .val (some (.num 2)) ∧ α p' (.node (.cellImp 0 "p")) = .val (some (.num 1)) := by
  obtain ⟨p', h⟩ := C03_accepts demo (.importance 0 "n" (.float 2)) demo_valid
  obtain ⟨⟨q, hq, hv⟩, hfr⟩ := C03_importance demo p' 0 "n" (.float 2) demo_inv h
  cases hq
  exact ⟨p', h, hv, (hfr _ (by simp)).trans rfl⟩

/-- `1 0 -1 u=-6 imp:n,p=1` next to a universe 5: a cell that carries the not-truncated mark, and a universe to move it to -/
def demoU : Problem :=
  { demo with
    nunis := 2
    field := fun f => if f = .cellUni 0 then .ptr (some 0) else if f = .cellNotTrunc 0 then .flag true
      else if f = .uniNumber 0 then .int 6 else if f = .uniNumber 1 then .int 5 else demo.field f }

theorem demoU_inv : Inv demoU := Inv_congr demo demoU demo_inv rfl rfl rfl rfl

/-- non-vacuity of `C03_universe_keeps_mark` / `C03_claim_keeps_mark`: the marked cell moved to universe 5 is written `u=-5` -/
example : written demoU (.cellU 0) = .int (-6) := rfl
example : ∃ p', applyEdit demoU (.universe 0 1) = .ok p' ∧ written p' (.cellU 0) = .int (-5) ∧
    α p' (.field (.cellNotTrunc 0)) = .flag true := by
  obtain ⟨p', h⟩ := C03_accepts demoU (.universe 0 1) (by unfold Valid; decide)
  obtain ⟨h1, _, h3, _⟩ := C03_universe_keeps_mark demoU p' 0 1 demoU_inv h
  exact ⟨p', h, h3.trans rfl, (h1 0).trans rfl⟩
example : ∃ p', applyEdit demoU (.claim 1 [0]) = .ok p' ∧ written p' (.cellU 0) = .int (-5) := by
  obtain ⟨p', h⟩ := C03_accepts demoU (.claim 1 [0]) (by unfold Valid; decide)
  obtain ⟨_, h2, _⟩ := C03_claim_keeps_mark demoU p' 1 [0] demoU_inv h
  exact ⟨p', h, (h2 0 (List.mem_singleton.2 rfl)).2.trans rfl⟩

/-- what goes wrong without copy-on-write (the code before the fix; DESIGN 7.3 #10): a plain `node.value = v` on
    the shared node changes the photon importance as well — the frame theorem needs `Importance.__setitem__`'s copy. -/
theorem C03_shared_write_refuted :
    ¬ (∀ (p : Problem) (id : NodeId) (v : Option Val) (s : Slot), Inv p → p.slot s = some id →
        ∀ s', s' ≠ s → α (p.write id v) (.node s') = α p (.node s')) := by
  intro h
  -- both sides are closed: photon reads 2 after the write and 1 before
  exact absurd (h demo 2 (some (.num 2)) (.cellImp 0 "n") demo_inv rfl (.cellImp 0 "p") (by decide)) (by decide)

end MontePyVerif.Edits
