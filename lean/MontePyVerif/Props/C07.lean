import MontePyVerif.Props.C19
import MontePyVerif.Props.C07Columns
/-!
# C07 — untouched inputs and tokens are written verbatim; edits stay local

Same model of the writer loop as C19 (`Props/C19.lean`): state `Nat → τ`, formatter
`fmt i : (Nat → τ) → τ × List Str`.  Locality is a *frame* property:

* every formatter has a read-set (`ReadsOnly`): the objects whose state can influence its lines —
  the object itself, the objects it refers to by number (a cell reads its surfaces, complements,
  material, universe and fill; an `MT` card reads its material; a surface reads its transform and
  periodic partner) and, for data-block cards that list per-cell data, every cell;
* an edit touches a set of objects (`Touches`).

The harness measures the read-sets on the real code: it diffs every input of the unedited and of the
edited write and demands that the changed ones lie in the property's own `affected` rule.

`C07_untouched_verbatim` is the leaf-echo mechanism ("only nodes whose value changed are
re-formatted").

`Props/C07Columns.lean` is imported for the check, not for a proof: `tools/props/c07.py` audits the theorems of both
files through this module alone.
-/
namespace MontePyVerif.Local
open MontePyVerif.Spec.File (Str)
open MontePyVerif.Repeat

variable {τ : Type}

def ReadsOnly (fmt : Fmt τ) (reads : Nat → List Nat) : Prop :=
  ∀ i s s', (∀ j ∈ reads i, s j = s' j) → (fmt i s).2 = (fmt i s').2

def Touches (e : (Nat → τ) → (Nat → τ)) (A : List Nat) : Prop :=
  ∀ s j, j ∉ A → e s j = s j

/-- **C07_local** — an input that does not read any touched object is written exactly as before,
    whatever else is in the problem and wherever it stands in the file. -/
theorem C07_local (fmt : Fmt τ) (hi : Idem fmt) (hv : Invisible fmt) (reads : Nat → List Nat)
    (hr : ReadsOnly fmt reads) (e : (Nat → τ) → (Nat → τ)) (A : List Nat) (he : Touches e A)
    (is : List Nat) (s : Nat → τ) :
    ∀ k (hk : k < is.length), (∀ j ∈ reads is[k], j ∉ A) →
      (writeAll fmt is (e s)).2[k]'(by rw [writeAll_lines fmt hi hv]; simpa using hk) =
      (writeAll fmt is s).2[k]'(by rw [writeAll_lines fmt hi hv]; simpa using hk) := by
  intro k hk hdis
  simp only [writeAll_lines fmt hi hv, List.getElem_map]
  exact hr _ _ _ (fun j hj => he s j (hdis j hj))

/-- a history of edits, each touching its own set -/
def runEdits : List (((Nat → τ) → (Nat → τ)) × List Nat) → (Nat → τ) → (Nat → τ)
  | [], s => s
  | (e, _) :: t, s => runEdits t (e s)

theorem runEdits_touches (es : List (((Nat → τ) → (Nat → τ)) × List Nat)) (hes : ∀ p ∈ es, Touches p.1 p.2) :
    Touches (runEdits es) (es.flatMap (·.2)) := by
  induction es with
  | nil => intro s j _; rfl
  | cons p t ih =>
    intro s j hj
    rw [List.flatMap_cons, List.mem_append, not_or] at hj
    exact (ih (fun q hq => hes q (List.mem_cons_of_mem _ hq)) (p.1 s) j hj.2).trans
      (hes p List.mem_cons_self s j hj.1)

/-- **C07_local_history** — the same along any sequence of edits: an input whose read-set avoids
    every touched set keeps its text. -/
theorem C07_local_history (fmt : Fmt τ) (hi : Idem fmt) (hv : Invisible fmt) (reads : Nat → List Nat)
    (hr : ReadsOnly fmt reads) (es : List (((Nat → τ) → (Nat → τ)) × List Nat))
    (hes : ∀ p ∈ es, Touches p.1 p.2) (is : List Nat) (s : Nat → τ) :
    ∀ k (hk : k < is.length), (∀ p ∈ es, ∀ j ∈ reads is[k], j ∉ p.2) →
      (writeAll fmt is (runEdits es s)).2[k]'(by rw [writeAll_lines fmt hi hv]; simpa using hk) =
      (writeAll fmt is s).2[k]'(by rw [writeAll_lines fmt hi hv]; simpa using hk) := by
  intro k hk hdis
  refine C07_local fmt hi hv reads hr _ _ (runEdits_touches es hes) is s k hk fun j hj hm => ?_
  obtain ⟨p, hp, hjp⟩ := List.mem_flatMap.1 hm
  exact hdis p hp j hj hjp

/-! ### the leaf-echo mechanism -/

/-- a leaf of the syntax tree: original token, trailing padding, and — when its value was changed
    through the API — the text the formatter produces for the new value -/
structure Leaf where
  token : Str
  pad : Str
  changed : Bool
  newText : Str

/-- `ValueNode.format`: an unchanged value short-circuits to the original token -/
def Leaf.format (l : Leaf) : Str := (if l.changed then l.newText else l.token) ++ l.pad

/-- `SyntaxNode.format`: concatenation of the leaves in order -/
def formatInput (ls : List Leaf) : Str := (ls.map Leaf.format).flatten

/-- the text the input was read from (lossless tree: every character is in one token or padding) -/
def sourceText (ls : List Leaf) : Str := (ls.map (fun l => l.token ++ l.pad)).flatten

/-- **C07_untouched_verbatim** — an input none of whose leaves changed is written as its source
    text; and whatever was edited, every unedited leaf is written as its original token and padding,
    an edited one as its new text and original padding, in the original order (nothing else moves). -/
theorem C07_untouched_verbatim (ls : List Leaf) :
    ((∀ l ∈ ls, l.changed = false) → formatInput ls = sourceText ls) ∧
    formatInput ls = (ls.map (fun l => if l.changed then l.newText ++ l.pad else l.token ++ l.pad)).flatten := by
  constructor
  · intro h
    unfold formatInput sourceText
    congr 1
    apply List.map_congr_left
    intro l hl
    simp [Leaf.format, h l hl]
  · unfold formatInput
    congr 1
    apply List.map_congr_left
    intro l _
    unfold Leaf.format
    split <;> rfl

/-! ### Non-vacuity -/

/-- a three-object problem: object 0 reads itself and object 1 (a cell and its surface), 1 and 2 read only themselves -/
def exFmt : Fmt Nat := fun i s => (s i, [toString (if i = 0 then s 0 * 100 + s 1 else s i) |>.toList])
def exReads : Nat → List Nat := fun i => if i = 0 then [0, 1] else [i]

theorem exFmt_pure (s : Nat → Nat) (i : Nat) : (fmtAt exFmt s i).1 = s := by
  funext j
  simp only [fmtAt, exFmt]
  split
  · rename_i h; rw [h]
  · rfl
example : Idem exFmt := by intro s i; rw [exFmt_pure]
example : Invisible exFmt := by intro s i j _; rw [exFmt_pure]
example : ReadsOnly exFmt exReads := by
  intro i s s' h
  simp only [exFmt, exReads] at *
  by_cases h0 : i = 0
  · subst h0; simp at h; simp [h.1, h.2]
  · simp [h0] at h ⊢; rw [h]
/-- renumbering object 1 (the surface) touches `[1]`: every other object keeps its state -/
example : Touches (fun (s : Nat → Nat) j => if j = 1 then 7 else s j) [1] := by
  intro s j hj; simp at hj; simp [hj]

end MontePyVerif.Local
