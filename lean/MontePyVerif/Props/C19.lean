import MontePyVerif.Spec.File
import MontePyVerif.Props.C19Gen
/-!
# C19 — writing is repeatable: observation is pure and output is a fixed point

The writer loop of `MCNP_Problem.write_to_file` calls `format_for_mcnp_input` on every object in
turn.  Formatting is *not* a pure function in MontePy: it first pushes current values into the
syntax tree (`_update_values`), and several nodes adjust themselves while formatting
(`ListNode.format` inserts separating padding, `ParticleNode` re-sorts, `Importance._format_tree`
removes particles from a shared classifier, …).  A formatter may also *read* other objects (a
data-block `IMP` card reads every cell; a cell reads the numbers of its surfaces and material).

Model: the problem state is `Nat → τ` (object index ↦ that object's state); object `i`'s formatter
`fmt i : (Nat → τ) → τ × List Str` reads the whole state and returns the new state of object `i`
and its lines.  Two local conditions on the formatters are enough for every global repeatability
statement of C19, for any number of objects, any order and any history of observations:

* `Idem`       — formatting an object a second time gives the same lines and leaves it as it is;
* `Invisible`  — what formatting does to object `i` is not visible to the formatter of `j ≠ i`.

The harness tests `Idem` on the real formatters for every explored object (`format_for_mcnp_input`
twice, `tools/props/c19.py`); `Invisible` is covered only by the global statements, which it checks
on the bytes of real files.

`Props/C19Gen.lean` is imported for the check, not for a proof: `tools/props/c19.py` audits the theorems of both
files through this module alone.
-/
namespace MontePyVerif.Repeat
open MontePyVerif.Spec.File (Str)

variable {τ : Type}

abbrev Fmt (τ : Type) := Nat → (Nat → τ) → τ × List Str

/-- `obj.format_for_mcnp_input(...)` on object `i`: only object `i` may change -/
def fmtAt (fmt : Fmt τ) (s : Nat → τ) (i : Nat) : (Nat → τ) × List Str :=
  (fun j => if j = i then (fmt i s).1 else s j, (fmt i s).2)

/-- the writer loop over the objects `is`, in order: final state and the lines of each object -/
def writeAll (fmt : Fmt τ) : List Nat → (Nat → τ) → (Nat → τ) × List (List Str)
  | [], s => (s, [])
  | i :: t, s => ((writeAll fmt t (fmtAt fmt s i).1).1, (fmtAt fmt s i).2 :: (writeAll fmt t (fmtAt fmt s i).1).2)

def Idem (fmt : Fmt τ) : Prop :=
  ∀ s i, fmt i (fmtAt fmt s i).1 = ((fmt i s).1, (fmt i s).2)

def Invisible (fmt : Fmt τ) : Prop :=
  ∀ s i j, i ≠ j → fmt j (fmtAt fmt s i).1 = fmt j s

/-- an edit is *blind to observation* when the formatters cannot tell, after the edit, whether an
    observation took place before it -/
def EditBlind (fmt : Fmt τ) (e : (Nat → τ) → (Nat → τ)) : Prop :=
  ∀ s k i, fmt i (e (fmtAt fmt s k).1) = fmt i (e s)

theorem EditBlind.pass {fmt : Fmt τ} {e : (Nat → τ) → (Nat → τ)} (he : EditBlind fmt e) (obs : List Nat) :
    ∀ (s : Nat → τ) (i : Nat), fmt i (e (writeAll fmt obs s).1) = fmt i (e s) := by
  induction obs with
  | nil => intro s i; rfl
  | cons k t ih => intro s i; exact (ih _ i).trans (he s k i)

theorem fmt_after_one (fmt : Fmt τ) (hi : Idem fmt) (hv : Invisible fmt) (s : Nat → τ) (k i : Nat) :
    fmt i (fmtAt fmt s k).1 = fmt i s := by
  by_cases h : k = i
  · subst h; rw [hi s k]
  · exact hv s k i h

theorem fmt_after_pass (fmt : Fmt τ) (hi : Idem fmt) (hv : Invisible fmt) (js : List Nat) :
    ∀ (s : Nat → τ) (i : Nat), fmt i (writeAll fmt js s).1 = fmt i s :=
  EditBlind.pass (e := id) (fmt_after_one fmt hi hv) js

/-- under the two local conditions every object is written as if it were formatted alone on the
    state the write started from: all of C19 and C07 goes through this -/
theorem writeAll_lines (fmt : Fmt τ) (hi : Idem fmt) (hv : Invisible fmt) (is : List Nat) :
    ∀ (s : Nat → τ), (writeAll fmt is s).2 = is.map (fun i => (fmt i s).2) := by
  induction is with
  | nil => intro s; rfl
  | cons i t ih =>
    intro s
    simp only [writeAll, List.map_cons, ih, fmt_after_one fmt hi hv]
    rfl

/-- **C19_observe_then_edit** — observations interleaved with edits: an observation before an edit
    that is blind to it does not change the bytes written after the edit. -/
theorem C19_observe_then_edit (fmt : Fmt τ) (hi : Idem fmt) (hv : Invisible fmt)
    (e : (Nat → τ) → (Nat → τ)) (he : EditBlind fmt e) (obs is : List Nat) (s : Nat → τ) :
    (writeAll fmt is (e (writeAll fmt obs s).1)).2 = (writeAll fmt is (e s)).2 := by
  rw [writeAll_lines fmt hi hv, writeAll_lines fmt hi hv]
  exact List.map_congr_left fun i _ => by rw [he.pass obs s i]

/-- **C19_observe** — inspecting any objects `obs` (formatting them, in any order, any number of
    times) before writing does not change what is written. -/
theorem C19_observe (fmt : Fmt τ) (hi : Idem fmt) (hv : Invisible fmt) (obs is : List Nat) (s : Nat → τ) :
    (writeAll fmt is (writeAll fmt obs s).1).2 = (writeAll fmt is s).2 :=
  C19_observe_then_edit fmt hi hv id (fmt_after_one fmt hi hv) obs is s

/-- **C19_twice** — writing twice in a row gives the same lines as writing once. -/
theorem C19_twice (fmt : Fmt τ) (hi : Idem fmt) (hv : Invisible fmt) (is : List Nat) (s : Nat → τ) :
    (writeAll fmt is (writeAll fmt is s).1).2 = (writeAll fmt is s).2 :=
  C19_observe fmt hi hv is is s

/-! ### Non-vacuity: a formatter that mutates in place and satisfies the conditions, one that does not -/

/-- object state: (text, has the separating blank been inserted?) — `ListNode.format` inserts a
    separating blank only where none exists -/
def padOnce : Fmt (Str × Bool) := fun i s =>
  let t := s i
  if t.2 then (t, [t.1]) else ((t.1 ++ [' '], true), [t.1 ++ [' ']])

example : Idem padOnce := by
  intro s i
  simp only [padOnce, fmtAt]
  by_cases h : (s i).2 = true <;> simp [h]

example : Invisible padOnce := by
  intro s i j hij
  have : j ≠ i := fun e => hij e.symm
  simp [padOnce, fmtAt, this]

/-- the mutation "append padding on every call" violates `Idem` (and the real write-twice test) -/
def padAlways : Fmt (Str × Bool) := fun i s => (((s i).1 ++ [' '], true), [(s i).1 ++ [' ']])

example : ¬ Idem padAlways := by
  intro h
  have := h (fun _ => (['a'], false)) 0
  simp [padAlways, fmtAt] at this

end MontePyVerif.Repeat
