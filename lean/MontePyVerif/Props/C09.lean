import MontePyVerif.Gen.CellData
import MontePyVerif.Gen.Constants
import MontePyVerif.Model.CellData
import MontePyVerif.Spec.CellData
import MontePyVerif.Lemmas.ListBasics
/-!
# C09 — per-cell data mean the same in either block and are written exactly once

The model (`Model/CellData.lean`) writes cards; `render` hands them to the independent reader of
`Spec/CellData.lean` (how MCNP assigns per-cell data).  The theorems hold for all states, all flag assignments and —
`C09_history` — all histories of API operations, and for any closeness test `close` (the code's is `closeGen`).

Every statement about a written file goes through `table_write`: the Spec's table at datum `(k, p)` of a cell is what
the cell-level instance of `k` put on the cell's card plus what the data-level instance's cards give at the cell's index.
The three loops that print particles in groups (`impFormatCell`, `tryCombineValues`, `impFormatTreeData`) are
instances of one loop, `cover`; exactly-once and disjointness are proved for `cover`.
-/
namespace MontePyVerif.C09
open MontePyVerif.CellData
open MontePyVerif

/-! ## from the model's cards to the Spec's items -/

def convK : K → Spec.CellData.K
  | .imp => .imp | .vol => .vol | .u => .u | .lat => .lat | .fill => .fill

def convParam (p : MParam) : Spec.CellData.Param := ⟨convK p.k, p.ps, p.v⟩
def convCard (c : MCard) : Spec.CellData.DataCard := ⟨convK c.k, c.ps, c.vec⟩

def conv : MItem → Spec.CellData.Item
  | .cell n ps => .cell n (ps.map convParam)
  | .data c => .data (convCard c)
  | .other => .other
  | .blank => .blank

def render (items : List MItem) : List Spec.CellData.Item := items.map conv

/-- the code's closeness test: `math.isclose` with `constants.rel_tol` / `abs_tol` as extracted -/
def closeGen : Rat → Rat → Bool :=
  isclose (mkRat Gen.relTolNum Gen.relTolDen) (mkRat Gen.absTolNum Gen.absTolDen)

/-- two values denote the same datum: equal, or close by the test the code combined them with -/
def same (close : Rat → Rat → Bool) (a b : Rat) : Prop := a = b ∨ close a b = true ∨ close b a = true

/-! ## the registry: the model's classes are the code's classes -/

/-- `Cell._INPUTS_TO_PROPERTY` (class, attribute, cant_repeat), every `_class_prefix()` and the default of
    `CellDataPrintController`, as extracted from the source on this run, are the model's `K`. Adding, removing or
    renaming a per-cell class re-opens every proof below. -/
theorem C09_registry :
    Gen.cellDataClasses = K.all.map (fun k => (k.cls, k.attr, k.cantRepeat, k.pfx, Flags.default.get k)) := by
  rfl

/-! ## the printing rule -/

/-- `format_for_mcnp_input` prints iff `(in_cell_block ≠ print_in_data_block) ∧ worth printing` — the truth table. -/
theorem C09_rule (inCellBlock flag worth : Bool) :
    prints inCellBlock flag worth = true ↔ (inCellBlock ≠ flag) ∧ worth = true := by
  cases inCellBlock <;> cases flag <;> cases worth <;> simp [prints]

theorem formatCellInst_off {flags : Flags} {k : K} (close : Rat → Rat → Bool) (c : Cell) (h : flags.get k = true) :
    formatCellInst close flags c k = [] := by
  simp [formatCellInst, prints, h]

theorem formatDataInst_off {st : St} {k : K} (close : Rat → Rat → Bool) (h : st.flags.get k = false) :
    formatDataInst close st k = .ok [] := by
  simp [formatDataInst, prints, h]

/-- for every class of the generated list: the cell-level instance prints nothing when the flag sends the class to
    the data block or the cell has no information; the data-level instance prints nothing when the flag keeps the
    class in the cell block or no cell has information. -/
theorem C09_rule_table :
    ∀ row ∈ Gen.cellDataClasses, ∃ k : K, k.pfx = row.2.2.2.1 ∧
      (∀ close flags c, flags.get k = true → formatCellInst close flags c k = []) ∧
      (∀ close flags c, hasInformation c k = false → formatCellInst close flags c k = []) ∧
      (∀ close st, st.flags.get k = false → formatDataInst close st k = .ok []) ∧
      (∀ close st, st.cells.any (fun d => hasInformation d k) = false → formatDataInst close st k = .ok []) := by
  intro row hrow
  rw [C09_registry] at hrow
  simp only [List.mem_map] at hrow
  obtain ⟨k, _, rfl⟩ := hrow
  refine ⟨k, rfl, ?_, ?_, ?_, ?_⟩
  · intro close flags c h; exact formatCellInst_off close c h
  · intro close flags c h; simp [formatCellInst, prints, h]
  · intro close st h; exact formatDataInst_off close h
  · intro close st h; simp [formatDataInst, prints, h]

example : prints true false true = true ∧ prints false true true = true ∧ prints true true true = false := by decide

/-! ## how the Spec reads a written file -/
open MontePyVerif.Spec.CellData (Item Item.card? Item.cell? splitBlank blocks cellCards dataCards table cellEntries dataEntries cardEntry applies Blk)

theorem splitBlank_append (xs ys : List Item) (h : ∀ x ∈ xs, x.isBlank = false) :
    splitBlank (xs ++ Item.blank :: ys) = (xs, ys) := by
  induction xs with
  | nil => rfl
  | cons x t ih =>
    have ht := ih (fun y hy => h y (List.mem_cons_of_mem _ hy))
    simp only [List.cons_append, splitBlank, h x List.mem_cons_self, ht, Bool.false_eq_true, if_false]

theorem blocks_append (a b c rest : List Item) (ha : ∀ x ∈ a, x.isBlank = false) (hb : ∀ x ∈ b, x.isBlank = false)
    (hc : ∀ x ∈ c, x.isBlank = false) :
    blocks (a ++ Item.blank :: (b ++ Item.blank :: (c ++ Item.blank :: rest))) = (a, b, c) := by
  simp only [blocks, splitBlank_append _ _ ha, splitBlank_append _ _ hb, splitBlank_append _ _ hc]

def NoBlank (xs : List MItem) : Prop := ∀ x ∈ xs, x ≠ MItem.blank

theorem NoBlank.render {xs : List MItem} (h : NoBlank xs) : ∀ x ∈ render xs, x.isBlank = false := by
  intro x hx
  obtain ⟨y, hy, rfl⟩ := List.mem_map.mp hx
  cases y with
  | blank => exact absurd rfl (h _ hy)
  | _ => rfl

theorem NoBlank.append {a b : List MItem} (ha : NoBlank a) (hb : NoBlank b) : NoBlank (a ++ b) :=
  fun x hx => (List.mem_append.mp hx).elim (ha x) (hb x)

theorem noBlank_map {α : Type} (f : α → MItem) (hf : ∀ a, f a ≠ MItem.blank) (l : List α) : NoBlank (l.map f) := by
  intro x hx
  obtain ⟨a, _, rfl⟩ := List.mem_map.mp hx
  exact hf a

def mcard? : MItem → Option MCard
  | .data c => some c
  | _ => none

def cardsOf (xs : List MItem) : List MCard := xs.filterMap mcard?

theorem cardsOf_append (a b : List MItem) : cardsOf (a ++ b) = cardsOf a ++ cardsOf b :=
  List.filterMap_append

theorem cardsOf_data (cs : List MCard) : cardsOf (cs.map MItem.data) = cs := by
  rw [cardsOf, List.filterMap_map]
  exact List.filterMap_some

theorem cardsOf_cells (close : Rat → Rat → Bool) (f : Flags) (cs : List Cell) : cardsOf (cs.map (formatCell close f)) = [] := by
  rw [cardsOf, List.filterMap_map]
  exact List.filterMap_eq_nil_iff.mpr (fun _ _ => rfl)

theorem dataCards_render (xs : List MItem) :
    (render xs).filterMap Item.card? = (cardsOf xs).map convCard := by
  rw [render, cardsOf, List.filterMap_map, List.map_filterMap]
  congr 1
  funext x
  cases x <;> rfl

theorem blocks_written (a d : List MItem) (ha : NoBlank a) (hd : NoBlank d) :
    blocks (render (a ++ [MItem.blank] ++ [MItem.other] ++ [MItem.blank] ++ d ++ [MItem.blank]))
      = (render a, [Item.other], render d) ∧
    cardsOf (a ++ [MItem.blank] ++ [MItem.other] ++ [MItem.blank] ++ d ++ [MItem.blank]) = cardsOf a ++ cardsOf d := by
  constructor
  · have e : render (a ++ [MItem.blank] ++ [MItem.other] ++ [MItem.blank] ++ d ++ [MItem.blank])
        = render a ++ Item.blank :: ([Item.other] ++ Item.blank :: (render d ++ Item.blank :: [])) := by
      simp [render, conv]
    rw [e]
    exact blocks_append _ _ _ _ ha.render (by simp [Item.isBlank]) hd.render
  · simp only [cardsOf_append, show cardsOf [MItem.blank] = [] from rfl, show cardsOf [MItem.other] = [] from rfl,
      List.append_nil]

/-! ### the entries for datum `(k, p)` -/

theorem applies_conv (k' k : K) (ps : List P) (p : P) :
    applies (convK k') ps (convK k) p = (k' == k && (k != K.imp || ps.contains p)) := by
  cases k' <;> cases k <;> rfl

/-- the entries the data cards `cs` give for datum `(k, p)` of the `i`-th cell -/
def ent (cs : List MCard) (i : Nat) (k : K) (p : P) : List Rat := dataEntries (cs.map convCard) i (convK k) p

theorem ent_eq (cs : List MCard) (i : Nat) (k : K) (p : P) :
    ent cs i k p = cs.filterMap (fun c => if c.k == k && (k != K.imp || c.ps.contains p) then (c.vec[i]?).join else none) := by
  simp only [ent, dataEntries, List.filterMap_map, Function.comp_def, cardEntry, convCard, applies_conv]

theorem ent_append (a b : List MCard) (i : Nat) (k : K) (p : P) : ent (a ++ b) i k p = ent a i k p ++ ent b i k p := by
  simp only [ent_eq, List.filterMap_append]

theorem ent_other (cs : List MCard) (i : Nat) (k : K) (p : P) (h : ∀ c ∈ cs, c.k ≠ k) : ent cs i k p = [] := by
  rw [ent_eq, List.filterMap_eq_nil_iff]
  intro c hc
  simp [h c hc]

/-- the entries the parameters `ps` of a cell card give for datum `(k, p)` -/
def cellEnt (ps : List MParam) (k : K) (p : P) : List Rat := cellEntries (ps.map convParam) (convK k) p

theorem cellEnt_eq (ps : List MParam) (k : K) (p : P) :
    cellEnt ps k p = (ps.filter (fun q => q.k == k && (k != K.imp || q.ps.contains p))).map (·.v) := by
  simp only [cellEnt, cellEntries, List.filter_map, List.map_map, Function.comp_def, convParam, applies_conv]

theorem cellEnt_append (a b : List MParam) (k : K) (p : P) : cellEnt (a ++ b) k p = cellEnt a k p ++ cellEnt b k p := by
  simp only [cellEnt_eq, List.filter_append, List.map_append]

theorem cellEnt_other (ps : List MParam) (k : K) (p : P) (h : ∀ q ∈ ps, q.k ≠ k) : cellEnt ps k p = [] := by
  rw [cellEnt_eq, List.map_eq_nil_iff, List.filter_eq_nil_iff]
  intro q hq
  simp [h q hq]

/-! ## what a write formats, and what the Spec reads of it -/

theorem formatDataInst_nonimp (close : Rat → Rat → Bool) (st : St) (k : K) (hk : k ≠ K.imp) :
    formatDataInst close st k
      = if prints false (st.flags.get k) (st.cells.any (fun d => hasInformation d k)) then
          (collectNewValues k st.cells).map (fun vs => [(⟨k, [], vs, k == K.vol && !st.volCalc⟩ : MCard)])
        else .ok [] := by
  fun_cases formatDataInst close st k with
  | case1 => exact absurd rfl hk
  | case2 k hp e hc | case3 k hp vs hc => rw [if_pos hp, hc]; rfl
  | case4 k hp => rw [if_neg hp]

theorem formatDataInst_nonimp_ok {close : Rat → Rat → Bool} {st : St} {k : K} (hk : k ≠ K.imp) {cs : List MCard}
    (h : formatDataInst close st k = .ok cs) :
    (prints false (st.flags.get k) (st.cells.any (fun d => hasInformation d k)) = false ∧ cs = []) ∨
      ∃ vs, collectNewValues k st.cells = .ok vs ∧ cs = [⟨k, [], vs, k == K.vol && !st.volCalc⟩] := by
  rw [formatDataInst_nonimp close st k hk] at h
  split at h
  · cases hvs : collectNewValues k st.cells with
    | error e => rw [hvs] at h; cases h
    | ok vs => rw [hvs] at h; cases h; exact Or.inr ⟨vs, rfl, rfl⟩
  · rename_i hp
    cases h
    exact Or.inl ⟨by simpa using hp, rfl⟩

theorem formatDataInst_class {close : Rat → Rat → Bool} {st : St} {k : K} {cs : List MCard}
    (h : formatDataInst close st k = .ok cs) : ∀ c ∈ cs, c.k = k := by
  intro c hc
  by_cases hk : k = K.imp
  · subst hk
    simp only [formatDataInst, impFormatData] at h
    split at h
    · split at h
      · cases h
      · cases h
        obtain ⟨g, _, rfl⟩ := List.mem_map.mp hc
        rfl
    · cases h; cases hc
  · rcases formatDataInst_nonimp_ok hk h with ⟨_, rfl⟩ | ⟨vs, _, rfl⟩
    · cases hc
    · cases List.mem_singleton.mp hc
      rfl

def instCards (close : Rat → Rat → Bool) (st : St) (k : K) : List MCard :=
  match formatDataInst close st k with
  | .ok cs => cs
  | .error _ => []

theorem instCards_class (close : Rat → Rat → Bool) (st : St) (k : K) : ∀ c ∈ instCards close st k, c.k = k := by
  unfold instCards
  split
  · rename_i cs h; exact formatDataInst_class h
  · exact fun _ h => nomatch h

/-- one loop describes both loops of a write -/
theorem formatDataInsts_eq (close : Rat → Rat → Bool) (st : St) :
    ∀ ks : List K, formatDataInsts close st ks = formatDataInputs close st (ks.map some)
  | [] => rfl
  | k :: ks => by simp only [formatDataInsts, List.map_cons, formatDataInputs, formatDataInsts_eq close st ks]

theorem formatDataInputs_ok {close : Rat → Rat → Bool} {st : St} {l : List (Option K)} {r : List MItem}
    (h : formatDataInputs close st l = .ok r) :
    NoBlank r ∧ cardsOf r = (l.filterMap id).flatMap (instCards close st) ∧
      ∀ k, some k ∈ l → formatDataInst close st k = .ok (instCards close st k) := by
  fun_induction formatDataInputs close st l generalizing r with
  | case1 => cases h; exact ⟨(fun _ h => nomatch h), rfl, fun _ h => nomatch h⟩
  | case2 | case4 | case5 => cases h
  | case3 rest r' hr ih =>
    cases h
    obtain ⟨nb, hcards, hok⟩ := ih hr
    exact ⟨List.forall_mem_cons.mpr ⟨nofun, nb⟩, hcards, fun k hk => hok k (by simpa using hk)⟩
  | case6 k rest cs hk r' hr ih =>
    cases h
    obtain ⟨nb, hcards, hok⟩ := ih hr
    have hi : instCards close st k = cs := by simp only [instCards, hk]
    refine ⟨(noBlank_map MItem.data (fun _ h => MItem.noConfusion h) cs).append nb, ?_, fun k' hk' => ?_⟩
    · rw [cardsOf_append, cardsOf_data, hcards, List.filterMap_cons_some (f := id) rfl, List.flatMap_cons, hi]
    · rcases List.mem_cons.mp hk' with e | hk'
      · cases e; rw [hi]; exact hk
      · exact hok k' hk'

/-- well-formed `data_inputs`: the data-level instance of a class is listed at most once -/
def DataInputsOnce (st : St) : Prop := ∀ k, st.dataInputs.count (some k) ≤ 1

/-- the classes whose data-level instance a write formats, in order -/
def writtenClasses (st : St) : List K :=
  st.dataInputs.filterMap id ++ K.all.filter (fun k => !st.dataInputs.contains (some k))

theorem K.mem_all (k : K) : k ∈ K.all := by cases k <;> decide

theorem count_all (k : K) : K.all.count k = 1 := by cases k <;> decide

theorem count_writtenClasses {st : St} (hw : DataInputsOnce st) (k : K) : (writtenClasses st).count k = 1 := by
  have e : (st.dataInputs.filterMap id).count k = st.dataInputs.count (some k) := List.count_filterMap
  rw [writtenClasses, List.count_append, e]
  by_cases hin : some k ∈ st.dataInputs
  · have h0 : (K.all.filter (fun k => !st.dataInputs.contains (some k))).count k = 0 :=
      List.count_eq_zero.mpr (fun hm => by simpa [hin] using (List.mem_filter.mp hm).2)
    have := List.one_le_count_iff.mpr hin
    have := hw k
    omega
  · rw [List.count_eq_zero.mpr hin, List.count_filter (by simpa using hin), count_all]

/-- the shape of every written file: the cell cards, a blank line, the surface block, a blank line, the data
    inputs followed by the modifier cards (`d`), and only then the blank line that ends the data block -/
theorem write_ok {close : Rat → Rat → Bool} {st : St} {items : List MItem}
    (h : writeToFile close st = .ok items) :
    ∃ d, items = st.cells.map (formatCell close st.flags) ++ [MItem.blank] ++ [MItem.other] ++ [MItem.blank] ++ d ++ [MItem.blank] ∧
      NoBlank d ∧ cardsOf d = (writtenClasses st).flatMap (instCards close st) ∧
      ∀ k, formatDataInst close st k = .ok (instCards close st k) := by
  unfold writeToFile at h
  cases hd : formatDataInputs close st st.dataInputs with
  | error e => simp [hd] at h
  | ok d =>
    cases hm : runChildrenFormat close st with
    | error e => simp [hd, hm] at h
    | ok m =>
      simp only [hd, hm, Except.ok.injEq] at h
      obtain ⟨nd, cd, okd⟩ := formatDataInputs_ok hd
      rw [runChildrenFormat, formatDataInsts_eq] at hm
      obtain ⟨nm, cm, okm⟩ := formatDataInputs_ok hm
      refine ⟨d ++ m, by rw [← h, List.append_assoc _ d m], nd.append nm, ?_, fun k => ?_⟩
      · have e : ∀ ks : List K, (ks.map some).filterMap id = ks := fun ks => by
          rw [List.filterMap_map]; exact List.filterMap_some
        rw [cardsOf_append, cd, cm, e, writtenClasses, List.flatMap_append]
      · by_cases hin : some k ∈ st.dataInputs
        · exact okd k hin
        · exact okm k (List.mem_map_of_mem (List.mem_filter.mpr ⟨K.mem_all k, by simpa using hin⟩))

theorem read_write {close : Rat → Rat → Bool} {st : St} {items : List MItem}
    (h : writeToFile close st = .ok items) :
    cellCards (render items) = st.cells.map (fun c => (c.number, (K.all.flatMap (formatCellInst close st.flags c)).map convParam)) ∧
    dataCards (render items) = ((writtenClasses st).flatMap (instCards close st)).map convCard ∧
    (render items).filterMap Item.card? = dataCards (render items) ∧
    ∀ k, formatDataInst close st k = .ok (instCards close st k) := by
  obtain ⟨d, hitems, nd, hcards, hok⟩ := write_ok h
  -- `nofun` in place of `noConfusion` is dear here: it evaluates `formatCell`
  obtain ⟨hb, hc⟩ := blocks_written _ d (noBlank_map (formatCell close st.flags) (fun _ h => MItem.noConfusion h) st.cells) nd
  rw [← hitems] at hb hc
  have hdc : dataCards (render items) = ((writtenClasses st).flatMap (instCards close st)).map convCard := by
    rw [dataCards, hb, dataCards_render, hcards]
  refine ⟨?_, hdc, ?_, hok⟩
  · rw [cellCards, hb]
    simp [render, conv, formatCell, List.filterMap_map, Function.comp_def, Item.cell?]
  · rw [hdc, dataCards_render, hc, cardsOf_cells, hcards]
    rfl

/-! ## the loop that prints particles in groups

`Importance._format_tree` (cell block and data block) and `_try_combine_values` are one loop. -/

section Cover
variable {E G : Type} (key : E → P) (parts : G → List P) (emit : E → List P → Option (G × List P))

def cover : List E → List P → List G
  | [], _ => []
  | e :: rest, cov =>
    if cov.contains (key e) then cover rest cov
    else match emit e cov with
      | some (g, new) => g :: cover rest (cov ++ new)
      | none => cover rest cov

/-- given an invariant `I` of the covered particles: an entry whose particle is not covered emits a group of uncovered
    particles, and covers exactly these (and its own particle) -/
def Covering (I : List P → Prop) (l : List E) : Prop :=
  ∀ e ∈ l, ∀ cov g new, I cov → key e ∉ cov → emit e cov = some (g, new) →
    I (cov ++ new) ∧ (∀ x ∈ parts g, x ∉ cov ∧ x ∈ new) ∧ ∀ x ∈ new, x ∈ parts g ∨ x = key e

variable {key parts emit} {I : List P → Prop}

theorem Covering.tail {e : E} {l : List E} (H : Covering key parts emit I (e :: l)) : Covering key parts emit I l :=
  fun x hx => H x (List.mem_cons_of_mem _ hx)

theorem cover_mem {l : List E} {cov : List P} {g : G} (hg : g ∈ cover key emit l cov) :
    ∃ e ∈ l, ∃ cov' new, key e ∉ cov' ∧ emit e cov' = some (g, new) := by
  have lift {e : E} {rest : List E} {p : E → Prop} : (∃ x ∈ rest, p x) → ∃ x ∈ e :: rest, p x :=
    fun ⟨x, hx, h⟩ => ⟨x, List.mem_cons_of_mem _ hx, h⟩
  fun_induction cover key emit l cov with
  | case1 => cases hg
  | case2 e rest cov hk ih => exact lift (ih hg)
  | case3 e rest cov hk g0 new hem ih =>
    rcases List.mem_cons.mp hg with rfl | hg
    · exact ⟨e, List.mem_cons_self, cov, new, by simpa using hk, hem⟩
    · exact lift (ih hg)
  | case4 e rest cov hk hem ih => exact lift (ih hg)

theorem cover_covered {q : P} (l : List E) (cov : List P) (H : Covering key parts emit I l) (hI : I cov) (hq : q ∈ cov) :
    ∀ g ∈ cover key emit l cov, q ∉ parts g := by
  fun_induction cover key emit l cov with
  | case1 => exact fun _ h => nomatch h
  | case2 e rest cov hk ih => exact ih H.tail hI hq
  | case3 e rest cov hk g new hem ih =>
    obtain ⟨hI', hp, _⟩ := H e List.mem_cons_self cov g new hI (by simpa using hk) hem
    intro g' hg'
    rcases List.mem_cons.mp hg' with rfl | hg'
    · exact fun h => (hp q h).1 hq
    · exact ih H.tail hI' (List.mem_append_left _ hq) g' hg'
  | case4 e rest cov hk hem ih => exact ih H.tail hI hq

theorem cover_once {q : P} (l : List E) (cov : List P) (H : Covering key parts emit I l)
    (hkey : ∀ e ∈ l, key e = q → ∀ cov, I cov → q ∉ cov → ∃ g new, emit e cov = some (g, new) ∧ q ∈ parts g)
    (hI : I cov) (hq : q ∉ cov) (hex : q ∈ l.map key) :
    ∃ g, (cover key emit l cov).filter (fun g => (parts g).contains q) = [g] := by
  fun_induction cover key emit l cov with
  | case1 => cases hex
  | case2 e rest cov hk ih =>
    have hne : q ≠ key e := fun h => hq (h ▸ by simpa using hk)
    exact ih H.tail (fun x hx => hkey x (List.mem_cons_of_mem _ hx)) hI hq ((List.mem_cons.mp hex).resolve_left hne)
  | case3 e rest cov hk g new hem ih =>
    obtain ⟨hI', hp, hnew⟩ := H e List.mem_cons_self cov g new hI (by simpa using hk) hem
    by_cases hin : q ∈ parts g
    · refine ⟨g, ?_⟩
      rw [List.filter_cons_of_pos (by simpa using hin), List.filter_eq_nil_iff.mpr]
      intro g' hg'
      simpa using cover_covered rest _ H.tail hI' (List.mem_append_right _ (hp q hin).2) g' hg'
    · have hne : q ≠ key e := by
        intro h
        obtain ⟨g', new', hem', hq'⟩ := hkey e List.mem_cons_self h.symm cov hI hq
        rw [hem] at hem'
        cases hem'
        exact hin hq'
      have hq' : q ∉ cov ++ new := fun h => (List.mem_append.mp h).elim hq (fun h => (hnew q h).elim hin hne)
      rw [List.filter_cons_of_neg (by simpa using hin)]
      exact ih H.tail (fun x hx => hkey x (List.mem_cons_of_mem _ hx)) hI' hq'
        ((List.mem_cons.mp hex).resolve_left hne)
  | case4 e rest cov hk hem ih =>
    have hne : q ≠ key e := by
      intro h
      obtain ⟨g', new', hem', _⟩ := hkey e List.mem_cons_self h.symm cov hI hq
      rw [hem] at hem'
      cases hem'
    exact ih H.tail (fun x hx => hkey x (List.mem_cons_of_mem _ hx)) hI hq ((List.mem_cons.mp hex).resolve_left hne)

theorem cover_disjoint (l : List E) (cov : List P) (H : Covering key parts emit I l) (hI : I cov) :
    ∀ g1 ∈ cover key emit l cov, ∀ g2 ∈ cover key emit l cov, ∀ x, x ∈ parts g1 → x ∈ parts g2 → g1 = g2 := by
  fun_induction cover key emit l cov with
  | case1 => exact fun _ h => nomatch h
  | case2 e rest cov hk ih => exact ih H.tail hI
  | case3 e rest cov hk g new hem ih =>
    obtain ⟨hI', hp, _⟩ := H e List.mem_cons_self cov g new hI (by simpa using hk) hem
    have later : ∀ g' ∈ cover key emit rest (cov ++ new), ∀ x ∈ parts g, x ∉ parts g' := fun g' hg' x hx =>
      cover_covered rest _ H.tail hI' (List.mem_append_right _ (hp x hx).2) g' hg'
    intro g1 h1 g2 h2 x hx1 hx2
    rcases List.mem_cons.mp h1 with rfl | h1' <;> rcases List.mem_cons.mp h2 with rfl | h2'
    · rfl
    · exact absurd hx2 (later g2 h2' x hx1)
    · exact absurd hx1 (later g1 h1' x hx2)
    · exact ih H.tail hI' g1 h1' g2 h2' x hx1 hx2
  | case4 e rest cov hk hem ih => exact ih H.tail hI
end Cover

/-! ### the cell card: `impFormatCell` is such a loop -/

def emitCell (close : Rat → Rat → Bool) (es : List ImpE) (e : ImpE) (printed : List P) : Option (MParam × List P) :=
  some (⟨K.imp, impKeep close es printed e, e.v⟩, impKeep close es printed e ++ [e.p])

theorem impFormatCell_eq (close : Rat → Rat → Bool) (es : List ImpE) : ∀ (l : List ImpE) (printed : List P),
    impFormatCell close es l printed = cover (·.p) (emitCell close es) l printed
  | [], _ => rfl
  | e :: rest, printed => by
    simp only [impFormatCell, cover, emitCell, List.append_assoc, impFormatCell_eq close es rest]

theorem impKeep_mem (close : Rat → Rat → Bool) (es : List ImpE) (printed : List P) (e : ImpE) (p : P) :
    p ∈ impKeep close es printed e ↔
      p ∈ e.cl ∧ (p = e.p ∨ (p ∉ printed ∧ close (impGet es e.p) (impGet es p) = true)) := by
  simp [impKeep, List.mem_filter]

theorem covering_cell (close : Rat → Rat → Bool) (es l : List ImpE) :
    Covering (·.p) MParam.ps (emitCell close es) (fun _ => True) l := by
  intro e _ cov g new _ hk hem
  cases hem
  refine ⟨trivial, fun x hx => ⟨?_, List.mem_append_left _ hx⟩, fun x hx => ?_⟩
  · rcases ((impKeep_mem close es cov e x).mp hx).2 with rfl | h
    · exact hk
    · exact h.1
  · rcases List.mem_append.mp hx with h | h
    · exact Or.inl h
    · exact Or.inr (List.mem_singleton.mp h)

theorem impFormatCell_mem {close : Rat → Rat → Bool} {es l : List ImpE} {printed : List P} {q : MParam}
    (hq : q ∈ impFormatCell close es l printed) : q.k = K.imp ∧
      ∃ e ∈ l, q.v = e.v ∧ ∀ x ∈ q.ps, x = e.p ∨ close (impGet es e.p) (impGet es x) = true := by
  rw [impFormatCell_eq] at hq
  obtain ⟨e, he, cov, new, _, hem⟩ := cover_mem hq
  cases hem
  refine ⟨rfl, e, he, rfl, fun x hx => ?_⟩
  exact ((impKeep_mem close es cov e x).mp hx).2.imp_right And.right

/-- **each importance a cell holds is printed exactly once on its card** (`Importance._format_tree`, cell-block
    branch, for ANY list of entries), every tree naming its own particle (`hcl`) -/
theorem impFormatCell_once (close : Rat → Rat → Bool) (es l : List ImpE) (printed : List P) (p : P)
    (hp : p ∉ printed) (hex : p ∈ l.map (·.p)) (hcl : ∀ e ∈ l, e.p ∈ e.cl) :
    ∃ q, (impFormatCell close es l printed).filter (fun q => q.ps.contains p) = [q] := by
  rw [impFormatCell_eq]
  refine cover_once l printed (covering_cell close es l) ?_ trivial hp hex
  intro e he hep cov _ _
  exact ⟨_, _, rfl, (impKeep_mem close es cov e p).mpr ⟨hep ▸ hcl e he, Or.inl hep.symm⟩⟩

/-! ## the table of a written file -/

theorem formatCellInst_class (close : Rat → Rat → Bool) (f : Flags) (c : Cell) (k : K) :
    ∀ q ∈ formatCellInst close f c k, q.k = k := by
  fun_cases formatCellInst close f c k with
  | case1 => exact fun q hq => (impFormatCell_mem hq).1
  | case2 k hp v hv =>
    rw [hv]
    intro q hq
    cases List.mem_singleton.mp hq
    rfl
  | case3 k hp hv => rw [hv]; exact fun q hq => nomatch hq
  | case4 => exact fun q hq => nomatch hq

theorem ent_replicate_succ (n : Nat) (e : List Rat) :
    (List.replicate (n + 1) e).flatten = e ++ (List.replicate n e).flatten := by
  simp [List.replicate_succ]

theorem flatMap_count {β : Type} (g : List β → List Rat) (hnil : g [] = []) (happ : ∀ a b, g (a ++ b) = g a ++ g b)
    (f : K → List β) (k : K) (hoth : ∀ k', k' ≠ k → g (f k') = []) (ks : List K) :
    g (ks.flatMap f) = (List.replicate (ks.count k) (g (f k))).flatten := by
  induction ks with
  | nil => exact hnil
  | cons k' rest ih =>
    rw [List.flatMap_cons, happ, ih]
    by_cases e : k' = k
    · rw [e, List.count_cons_self, ent_replicate_succ]
    · rw [hoth k' e, List.count_cons_of_ne e, List.nil_append]

theorem flatMap_once {β : Type} (g : List β → List Rat) (hnil : g [] = []) (happ : ∀ a b, g (a ++ b) = g a ++ g b)
    (f : K → List β) (k : K) (hoth : ∀ k', k' ≠ k → g (f k') = []) (ks : List K) (h1 : ks.count k = 1) :
    g (ks.flatMap f) = g (f k) := by
  rw [flatMap_count g hnil happ f k hoth, h1]
  exact List.append_nil _

theorem cellEnt_all (close : Rat → Rat → Bool) (f : Flags) (c : Cell) (k : K) (p : P) :
    cellEnt (K.all.flatMap (formatCellInst close f c)) k p = cellEnt (formatCellInst close f c k) k p :=
  flatMap_once (cellEnt · k p) rfl (cellEnt_append · · k p) _ k
    (fun k' e => cellEnt_other _ k p (fun q hq => formatCellInst_class close f c k' q hq ▸ e)) _ (count_all k)

theorem ent_written (close : Rat → Rat → Bool) {st : St} (hw : DataInputsOnce st) (i : Nat) (k : K) (p : P) :
    ent ((writtenClasses st).flatMap (instCards close st)) i k p = ent (instCards close st k) i k p :=
  flatMap_once (ent · i k p) rfl (ent_append · · i k p) _ k
    (fun k' e => ent_other _ i k p (fun c hc => instCards_class close st k' c hc ▸ e)) _ (count_writtenClasses hw k)

/-- **every emitted per-cell data card lies inside the data block proper**: all the cell-parameter cards of the
    written file are among the cards MCNP reads (none after the blank line that ends the data block) -/
theorem C09_in_block (close : Rat → Rat → Bool) (st : St) (items : List MItem)
    (h : writeToFile close st = .ok items) :
    Spec.CellData.allDataCardsRead (render items) = true := by
  simp [Spec.CellData.allDataCardsRead, (read_write h).2.2.1]

example : ∃ items, writeToFile closeGen
    { cells := [⟨1, [⟨0, 1, [0]⟩], some 3, some 2, false, none, none, false, false, Flags.default⟩], mode := [0],
      flags := Flags.default, volCalc := true, dataInputs := [none], realTree := [], nextId := 0 } = .ok items ∧
    Spec.CellData.dataCards (render items) ≠ [] := by
  refine ⟨_, rfl, ?_⟩
  decide

theorem table_write {close : Rat → Rat → Bool} {st : St} (hw : DataInputsOnce st) {items : List MItem}
    (h : writeToFile close st = .ok items) {i : Nat} {c : Cell} (hc : st.cells[i]? = some c) (k : K) (p : P) :
    ∃ cs, formatDataInst close st k = .ok cs ∧
      table (render items) i (convK k) p
        = (cellEnt (formatCellInst close st.flags c k) k p).map (fun v => (Blk.cell, v))
          ++ (ent cs i k p).map (fun v => (Blk.data, v)) := by
  obtain ⟨h1, h2, _, hok⟩ := read_write h
  refine ⟨_, hok k, ?_⟩
  rw [table, h1, h2, List.getElem?_map, hc, ← cellEnt_all close st.flags c k p, ← ent_written close hw i k p]
  rfl

/-! ## VOL, U, LAT, FILL -/

theorem collect_ok {k : K} {cells : List Cell} {vs : List (Option Rat)} (h : collectNewValues k cells = .ok vs) :
    vs.length = cells.length ∧
      ∀ (i : Nat) (c : Cell), cells[i]? = some c → ∃ v, treeValue c k = .ok v ∧ vs[i]? = some v := by
  fun_induction collectNewValues k cells generalizing vs with
  | case1 => cases h; exact ⟨rfl, by simp⟩
  | case2 | case3 => cases h
  | case4 c0 rest v hv vs' hvs ih =>
    cases h
    obtain ⟨hl, hg⟩ := ih hvs
    refine ⟨congrArg (· + 1) hl, fun i c hc => ?_⟩
    cases i with
    | zero => cases hc; exact ⟨v, hv, rfl⟩
    | succ j => exact hg j c hc

/-- what a cell's `_tree_value` is, when there is one, is the datum its cell-level instance prints -/
theorem treeValue_ok {c : Cell} {k : K} {o : Option Rat} (h : treeValue c k = .ok o) :
    o.toList = if hasInformation c k then (cellValue c k).toList else [] := by
  obtain ⟨number, imp, vol, uni, ntr, lat, fill, fc, fm, setIn⟩ := c
  cases k with
  | imp => cases h; rfl
  | vol => cases h; cases vol <;> rfl
  | lat => cases h; cases lat <;> rfl
  | u =>
    cases h
    cases uni with
    | none => rfl
    | some n => cases n <;> rfl
  | fill =>
    -- only a fill without transform and matrix has a `_tree_value`
    cases fc <;> cases fm <;> cases h
    cases fill <;> rfl

theorem ent_single (k : K) (hk : k ≠ K.imp) (vs : List (Option Rat)) (no : Bool) (i : Nat) (p : P) :
    ent [⟨k, [], vs, no⟩] i k p = ((vs[i]?).join).toList := by
  simp only [ent_eq, List.filterMap_cons, List.filterMap_nil, beq_self_eq_true, bne_iff_ne.mpr hk, Bool.true_or,
    Bool.and_self, if_true]
  cases (vs[i]?).join <;> rfl

theorem cellEnt_inst (close : Rat → Rat → Bool) (f : Flags) (c : Cell) (k : K) (hk : k ≠ K.imp) (p : P) :
    cellEnt (formatCellInst close f c k) k p
      = if prints true (f.get k) (hasInformation c k) then (cellValue c k).toList else [] := by
  fun_cases formatCellInst close f c k with
  | case1 => exact absurd rfl hk
  | case2 k hp v hv =>
    rw [if_pos hp, hv]
    simp [cellEnt_eq, hk]
  | case3 k hp hv => rw [if_pos hp, hv]; rfl
  | case4 k hp => rw [if_neg hp]; rfl

theorem table_nonimp {close : Rat → Rat → Bool} {st : St} (hw : DataInputsOnce st) {items : List MItem}
    (h : writeToFile close st = .ok items) {i : Nat} {c : Cell} (hc : st.cells[i]? = some c)
    {k : K} (hk : k ≠ K.imp) (p : P) :
    table (render items) i (convK k) p
      = (if hasInformation c k then (cellValue c k).toList else []).map
          (fun v => (if st.flags.get k then Blk.data else Blk.cell, v)) := by
  obtain ⟨cs, hcs, ht⟩ := table_write hw h hc k p
  rw [ht]
  cases hf : st.flags.get k with
  | false =>
    rw [formatDataInst_off close hf] at hcs
    cases hcs
    rw [cellEnt_inst close st.flags c k hk p, hf]
    -- nothing in the data block; `prints true false w` is `w`
    exact List.append_nil _
  | true =>
    rw [formatCellInst_off close c hf]
    rcases formatDataInst_nonimp_ok hk hcs with ⟨hp, rfl⟩ | ⟨vs, hvs, rfl⟩
    · -- no cell has information: `prints false true w` is `w`
      rw [hf] at hp
      rw [eq_false_of_ne_true (List.any_eq_false.mp hp c (List.mem_of_getElem? hc))]
      rfl
    · obtain ⟨v, hv, hget⟩ := (collect_ok hvs).2 i c hc
      rw [ent_single k hk, hget, ← treeValue_ok hv]
      rfl

/-- **exactly once, in the block the flag names, with the cell's value** (VOL, U, LAT, FILL): a datum the cell holds
    occurs in the written file exactly once — on the cell's own card if the flag keeps the class in the cell block,
    else in the data-block card at the cell's index. -/
theorem C09_exactly_once (close : Rat → Rat → Bool) (st : St) (hw : DataInputsOnce st) (items : List MItem)
    (h : writeToFile close st = .ok items) (i : Nat) (c : Cell) (hc : st.cells[i]? = some c)
    (k : K) (hk : k ≠ K.imp) (p : P) (v : Rat) (hv : treeValue c k = .ok (some v)) :
    table (render items) i (convK k) p = [(if st.flags.get k then Blk.data else Blk.cell, v)] := by
  rw [table_nonimp hw h hc hk p, ← treeValue_ok hv]
  rfl

/-- **nothing spurious** (VOL, U, LAT, FILL): a cell that holds no datum of the class (no volume, universe 0 or
    none, no lattice, no fill) gets none from the written file, in either block, under any flag assignment. -/
theorem C09_no_spurious (close : Rat → Rat → Bool) (st : St) (hw : DataInputsOnce st) (items : List MItem)
    (h : writeToFile close st = .ok items) (i : Nat) (c : Cell) (hc : st.cells[i]? = some c)
    (k : K) (hk : k ≠ K.imp) (p : P) (hv : treeValue c k = .ok none) :
    table (render items) i (convK k) p = [] := by
  rw [table_nonimp hw h hc hk p, ← treeValue_ok hv]
  rfl

/-- **aligned**: the vector of the data-block card of a class (VOL, U, LAT, FILL), whenever it is written, has one
    entry per cell, and entry `i` is the value of the `i`-th cell in cell order (a jump where the cell holds none). -/
theorem C09_aligned (close : Rat → Rat → Bool) (st : St) (k : K) (hk : k ≠ K.imp) (cs : List MCard)
    (h : formatDataInst close st k = .ok cs) :
    ∀ card ∈ cs, card.vec.length = st.cells.length ∧
      ∀ (i : Nat) (c : Cell), st.cells[i]? = some c → ∃ v, treeValue c k = .ok v ∧ card.vec[i]? = some v := by
  intro card hcard
  rcases formatDataInst_nonimp_ok hk h with ⟨_, rfl⟩ | ⟨vs, hvs, rfl⟩
  · cases hcard
  · cases List.mem_singleton.mp hcard
    exact collect_ok hvs

/-- **same meaning under any two flag assignments** (VOL, U, LAT, FILL): the datum the written file gives a cell is
    the same value whatever the flags are — only the block differs. -/
theorem C09_same_meaning (close : Rat → Rat → Bool) (st : St) (hw : DataInputsOnce st) (f1 f2 : Flags)
    (items1 items2 : List MItem)
    (h1 : writeToFile close { st with flags := f1 } = .ok items1)
    (h2 : writeToFile close { st with flags := f2 } = .ok items2)
    (i : Nat) (c : Cell) (hc : st.cells[i]? = some c) (k : K) (hk : k ≠ K.imp) (p : P) :
    (table (render items1) i (convK k) p).map (·.2) = (table (render items2) i (convK k) p).map (·.2) := by
  rw [table_nonimp (st := { st with flags := f1 }) hw h1 hc hk p,
    table_nonimp (st := { st with flags := f2 }) hw h2 hc hk p, List.map_map, List.map_map]
  rfl

/-- FILL with a transform or a matrix cannot be printed in the data block: when such a cell has a fill to print and
    FILL goes to the data block the write is refused (`ValueError`); it never writes a vector without that fill. -/
theorem C09_fill_complex_refused (close : Rat → Rat → Bool) (st : St) (c : Cell) (hc : c ∈ st.cells)
    (hx : c.fillComplex = true ∨ c.fillMulti = true) (hi : hasInformation c K.fill = true)
    (hf : st.flags.get K.fill = true) :
    formatDataInst close st K.fill = .error .valueError := by
  have hany : st.cells.any (fun d => hasInformation d K.fill) = true := List.any_eq_true.mpr ⟨c, hc, hi⟩
  have hc' : treeValue c K.fill = .error .valueError := by
    simp only [treeValue, Bool.or_eq_true, hx, if_true]
  have : ∀ cells : List Cell, c ∈ cells → collectNewValues K.fill cells = .error .valueError := by
    intro cells
    induction cells with
    | nil => exact fun h => nomatch h
    | cons c0 rest ih =>
      intro h
      simp only [collectNewValues]
      cases h0 : treeValue c0 K.fill with
      | error e =>
        simp only [treeValue] at h0
        split at h0 <;> cases h0
        rfl
      | ok v =>
        rcases List.mem_cons.mp h with rfl | h'
        · rw [hc'] at h0; cases h0
        · simp only [ih h']
  rw [formatDataInst_nonimp close st K.fill (by decide), hf, hany, this st.cells hc]
  rfl

/-! ## loading -/

theorem pushToCells_data (pr : Parsed) (vec : List (Option Rat)) (hd : pr.dataVec = some vec) (hne : vec ≠ []) :
    pushToCells pr = if checkRedundantDefinitions pr then .error .malformedInput
      else .ok ((List.range pr.cellVals.length).map (fun i => (vec[i]?).join)) := by
  rw [pushToCells, hd]
  simp only [List.isEmpty_iff, hne, if_false]

/-- **loading is aligned**: when a class is given in the data block, entry `i` of the card goes to the `i`-th cell
    (a jump or a missing trailing entry leaves the cell without datum; extra entries go nowhere) -/
theorem C09_load_aligned (pr : Parsed) (vec : List (Option Rat)) (vals : List (Option Rat))
    (hd : pr.dataVec = some vec) (hne : vec ≠ []) (h : pushToCells pr = .ok vals) :
    vals.length = pr.cellVals.length ∧ ∀ i, i < pr.cellVals.length → vals[i]? = some ((vec[i]?).join) := by
  rw [pushToCells_data pr vec hd hne] at h
  split at h
  · cases h
  · cases h
    exact ⟨by simp, fun i hi => by simp [hi]⟩

/-- **data in both blocks is refused**: a class given on some cell card and in the data block is
    `MalformedInputError`, it is never loaded twice -/
theorem C09_load_redundant (pr : Parsed) (vec : List (Option Rat)) (hd : pr.dataVec = some vec) (hne : vec ≠ [])
    (hc : ∃ v ∈ pr.cellVals, v.isSome = true) : pushToCells pr = .error .malformedInput := by
  rw [pushToCells_data pr vec hd hne, if_pos]
  exact List.any_eq_true.mpr hc

example : pushToCells ⟨[none, none, none], some [some 3, none, some 2]⟩ = .ok [some 3, none, some 2] := by rfl
example : pushToCells ⟨[none, some 1, none], some [some 3]⟩ = .error .malformedInput := by rfl

/-! ## importances on the cell card -/

theorem cellEnt_imp (ps : List MParam) (h : ∀ q ∈ ps, q.k = K.imp) (p : P) :
    cellEnt ps K.imp p = (ps.filter (fun q => q.ps.contains p)).map (·.v) := by
  rw [cellEnt_eq]
  congr 1
  exact List.filter_congr (fun q hq => by simp [h q hq])

/-- **importances on the cell card: exactly once per particle the cell holds**: when IMP is kept in the cell block,
    every particle for which the cell holds an importance (every tree naming its own particle) is given by exactly one
    `IMP` entry of the cell's own card and by nothing in the data block; the value is that of the particle's own entry
    or of an entry it was found close to.  When IMP goes to the data block the cell card gives none. -/
theorem C09_imp_cell_once (close : Rat → Rat → Bool) (st : St) (hw : DataInputsOnce st) (items : List MItem)
    (h : writeToFile close st = .ok items) (i : Nat) (c : Cell) (hc : st.cells[i]? = some c) (p : P) :
    (st.flags.imp = false → (∃ e ∈ c.imp, e.p = p) → (∀ e ∈ c.imp, e.p ∈ e.cl) →
      ∃ v, table (render items) i (convK K.imp) p = [(Blk.cell, v)] ∧
        ((∃ e ∈ c.imp, e.p = p ∧ v = e.v) ∨
         ∃ e ∈ c.imp, v = e.v ∧ close (impGet c.imp e.p) (impGet c.imp p) = true)) ∧
    (st.flags.imp = true → ∀ x ∈ table (render items) i (convK K.imp) p, x.1 = Blk.data) := by
  obtain ⟨cs, hcs, ht⟩ := table_write hw h hc K.imp p
  rw [ht]
  constructor
  · intro hf hex hcl
    rw [formatDataInst_off (k := K.imp) close hf] at hcs
    cases hcs
    have hfmt : formatCellInst close st.flags c K.imp = impFormatCell close c.imp c.imp [] := by
      rw [formatCellInst, show st.flags.get K.imp = false from hf]
      rfl
    obtain ⟨q, hq⟩ := impFormatCell_once close c.imp c.imp [] p List.not_mem_nil (List.mem_map.mpr hex) hcl
    obtain ⟨hq1, hq2⟩ := List.mem_filter.mp (hq ▸ List.mem_singleton.mpr rfl)
    obtain ⟨_, e, he, hv, hps⟩ := impFormatCell_mem hq1
    refine ⟨q.v, ?_, ?_⟩
    · rw [hfmt, cellEnt_imp _ (fun q hq => (impFormatCell_mem hq).1), hq]
      rfl
    · rcases hps p (List.contains_iff_mem.mp hq2) with rfl | hc
      · exact Or.inl ⟨e, he, rfl, hv⟩
      · exact Or.inr ⟨e, he, hv, hc⟩
  · intro hf x hx
    rw [formatCellInst_off (k := K.imp) close c hf] at hx
    obtain ⟨_, _, rfl⟩ := List.mem_map.mp hx
    rfl

example :
    let c : Cell := ⟨1, [⟨0, 1, [0, 1]⟩, ⟨1, 1, [0, 1]⟩, ⟨2, 2, [2]⟩], none, some 0, false, none, none, false, false, Flags.default⟩
    (∀ e ∈ c.imp, e.p ∈ e.cl) ∧
    cellEnt (impFormatCell (fun a b => a == b) c.imp c.imp []) K.imp 1 = [1] ∧
    cellEnt (impFormatCell (fun a b => a == b) c.imp c.imp []) K.imp 2 = [2] := by
  refine ⟨by decide, by decide, by decide⟩

/-! ## importances in the data block: the vectors -/

theorem impHas_eq (es : List ImpE) (p : P) : impHas es p = (es.find? (fun e => e.p == p)).isSome :=
  List.isSome_find?.symm

theorem impCollectOne_cons (p : P) (c : Cell) (rest : List Cell) :
    impCollectOne p (c :: rest) = if impHas c.imp p then (impCollectOne p rest).map (impGet c.imp p :: ·)
      else .error .particleTypeNotInCell := by
  rw [impCollectOne, impHas_eq, impGet]
  cases c.imp.find? (fun e => e.p == p) with
  | none => rfl
  | some e => cases impCollectOne p rest <;> rfl

theorem impCollectOne_get {p : P} {cells : List Cell} {vs : List Rat} (h : impCollectOne p cells = .ok vs) :
    vs.length = cells.length ∧
      ∀ (i : Nat) (c : Cell), cells[i]? = some c → impHas c.imp p = true ∧ vs[i]? = some (impGet c.imp p) := by
  induction cells generalizing vs with
  | nil => cases h; exact ⟨rfl, by simp⟩
  | cons c0 rest ih =>
    rw [impCollectOne_cons] at h
    split at h
    · rename_i h0
      cases hvs : impCollectOne p rest with
      | error e => rw [hvs] at h; cases h
      | ok vs' =>
        rw [hvs] at h
        cases h
        obtain ⟨hl, hg⟩ := ih hvs
        refine ⟨congrArg (· + 1) hl, fun i c hc => ?_⟩
        cases i with
        | zero => cases hc; exact ⟨h0, rfl⟩
        | succ j => exact hg j c hc
    · cases h

theorem impCollect_ok {cells : List Cell} {mode : List P} {nv : List (P × List Rat × List P)}
    (h : impCollect cells mode = .ok nv) : nv.map (·.1) = mode ∧ ∀ x ∈ nv, impCollectOne x.1 cells = .ok x.2.1 := by
  fun_induction impCollect cells mode generalizing nv with
  | case1 => cases h; exact ⟨rfl, fun _ h => nomatch h⟩
  | case2 | case3 => cases h
  | case4 p rest vs hvs r hr ih =>
    cases h
    obtain ⟨hk, hm⟩ := ih hr
    refine ⟨congrArg (p :: ·) hk, fun x hx => ?_⟩
    rcases List.mem_cons.mp hx with rfl | hx'
    · exact hvs
    · exact hm x hx'

/-- an IMP vector cannot have a hole: collecting the vector of a particle for which some cell holds no importance
    raises `ParticleTypeNotInCell`.  (`impCollect`, `impFormatData` and `writeToFile` pass the error on, so the write is
    refused when IMP goes to the data block and the particle is in the mode; that step is not stated here.) -/
theorem C09_imp_refused (cells : List Cell) (p : P) (c : Cell) (hc : c ∈ cells) (hp : impHas c.imp p = false) :
    impCollectOne p cells = .error .particleTypeNotInCell := by
  induction cells with
  | nil => cases hc
  | cons c0 rest ih =>
    rw [impCollectOne_cons]
    rcases List.mem_cons.mp hc with rfl | hc'
    · rw [hp]; rfl
    · rw [ih hc']
      split <;> rfl

/-! ## importances in the data block: `_try_combine_values` -/

theorem combineInner_mem {close : Rat → Rat → Bool} {nv : List (P × List Rat × List P)} {p : P} {gold : List Rat}
    {pair cov : List P} {t : P} (ht : t ∈ combineInner close nv p gold pair cov) :
    t ∉ cov ∧ t ≠ p ∧ allClose close gold (newVals nv t) = true := by
  fun_induction combineInner close nv p gold pair cov with
  | case1 => cases ht
  | case2 a rest cov hcond ih => exact ih ht
  | case3 a rest cov hcond hclose ih =>
    have hcond' : ¬ (a = p ∨ a ∈ cov) := by simpa using hcond
    rcases List.mem_cons.mp ht with rfl | ht'
    · exact ⟨fun h => hcond' (Or.inr h), fun h => hcond' (Or.inl h), hclose⟩
    · obtain ⟨h1, h2, h3⟩ := ih ht'
      exact ⟨fun h => h1 (List.mem_append_left _ h), h2, h3⟩
  | case4 a rest cov hcond hclose ih => exact ih ht

def groupsOf (q : P) (gs : List (List P × List Rat)) : List (List P × List Rat) := gs.filter (fun g => g.1.contains q)

def Disjoint (gs : List (List P × List Rat)) : Prop :=
  ∀ g1 ∈ gs, ∀ g2 ∈ gs, ∀ x, x ∈ g1.1 → x ∈ g2.1 → g1 = g2

def emitCombine (close : Rat → Rat → Bool) (nv : List (P × List Rat × List P)) (x : P × List Rat × List P)
    (cov : List P) : Option ((List P × List Rat) × List P) :=
  some ((x.1 :: combineInner close nv x.1 x.2.1 x.2.2 (cov ++ [x.1]), x.2.1),
    [x.1] ++ combineInner close nv x.1 x.2.1 x.2.2 (cov ++ [x.1]))

theorem tryCombineValues_eq (close : Rat → Rat → Bool) (nv : List (P × List Rat × List P)) :
    ∀ (l : List (P × List Rat × List P)) (cov : List P),
      tryCombineValues close nv l cov = cover (·.1) (emitCombine close nv) l cov
  | [], _ => rfl
  | (p, gold, pair) :: rest, cov => by
    simp only [tryCombineValues, cover, emitCombine, List.append_assoc, tryCombineValues_eq close nv rest]

theorem covering_combine (close : Rat → Rat → Bool) (nv l : List (P × List Rat × List P)) :
    Covering (·.1) Prod.fst (emitCombine close nv) (fun _ => True) l := by
  intro x _ cov g new _ hk hem
  cases hem
  refine ⟨trivial, fun t ht => ⟨?_, ht⟩, fun t ht => Or.inl ht⟩
  rcases List.mem_cons.mp ht with rfl | ht
  · exact hk
  · exact fun h => (combineInner_mem ht).1 (List.mem_append_left _ h)

theorem tryCombine_mem {close : Rat → Rat → Bool} {nv l : List (P × List Rat × List P)} {cov : List P}
    {g : List P × List Rat} (hg : g ∈ tryCombineValues close nv l cov) :
    ∃ x ∈ l, g.1.head? = some x.1 ∧ g.2 = x.2.1 ∧ ∀ t ∈ g.1, t = x.1 ∨ allClose close g.2 (newVals nv t) = true := by
  rw [tryCombineValues_eq] at hg
  obtain ⟨x, hx, cov', new, _, hem⟩ := cover_mem hg
  cases hem
  refine ⟨x, hx, rfl, rfl, fun t ht => ?_⟩
  rcases List.mem_cons.mp ht with rfl | ht
  · exact Or.inl rfl
  · exact Or.inr (combineInner_mem ht).2.2

/-- **every particle of the mode is in exactly one group** (`_try_combine_values`, for ANY vectors and pairings) -/
theorem tryCombine_once (close : Rat → Rat → Bool) (nv l : List (P × List Rat × List P)) (cov : List P) (q : P)
    (hq : q ∉ cov) (hex : q ∈ l.map (·.1)) : ∃ g, groupsOf q (tryCombineValues close nv l cov) = [g] := by
  rw [tryCombineValues_eq]
  exact cover_once l cov (covering_combine close nv l)
    (fun x _ hxq cov _ _ => ⟨_, _, rfl, hxq ▸ List.mem_cons_self⟩) trivial hq hex

theorem tryCombine_disjoint (close : Rat → Rat → Bool) (nv l : List (P × List Rat × List P)) (cov : List P) :
    Disjoint (tryCombineValues close nv l cov) := by
  rw [tryCombineValues_eq]
  exact cover_disjoint l cov (covering_combine close nv l) trivial

/-! ### the data-block trees: identity -/

/-- the invariant of `_real_tree`: one entry per particle, every particle its OWN tree, identities below the next
    fresh one -/
def RTInv (rt : List (P × Nat)) (n : Nat) : Prop :=
  (rt.map (·.1)).Nodup ∧ (rt.map (·.2)).Nodup ∧ ∀ x ∈ rt, x.2 < n

theorem rtId_of_mem {rt : List (P × Nat)} (hk : (rt.map (·.1)).Nodup) {p : P} {t : Nat} (h : (p, t) ∈ rt) :
    rtId rt p = some t := by
  unfold rtId
  cases hf : rt.find? (fun x => x.1 == p) with
  | none => exact absurd (beq_self_eq_true p) (List.find?_eq_none.mp hf (p, t) h)
  | some x =>
    have e := List.find?_some hf
    rw [ListBasics.eq_of_nodup_map hk (List.mem_of_find?_eq_some hf) h (eq_of_beq e)]
    rfl

theorem mem_of_rtId {rt : List (P × Nat)} {p : P} {t : Nat} (h : rtId rt p = some t) : (p, t) ∈ rt := by
  obtain ⟨x, hf, rfl⟩ := Option.map_eq_some_iff.mp h
  have e := List.find?_some hf
  exact eq_of_beq e ▸ List.mem_of_find?_eq_some hf

theorem rt_inj {rt : List (P × Nat)} (hi : (rt.map (·.2)).Nodup) {p p' : P} {t : Nat}
    (h : (p, t) ∈ rt) (h' : (p', t) ∈ rt) : p = p' :=
  congrArg Prod.fst (ListBasics.eq_of_nodup_map hi h h' rfl)

theorem nodup_concat {α : Type} {l : List α} {a : α} (h : l.Nodup) (ha : a ∉ l) : (l ++ [a]).Nodup := by
  rw [List.nodup_append]
  refine ⟨h, by simp, fun x hx y hy => ?_⟩
  cases List.mem_singleton.mp hy
  exact fun e => ha (e ▸ hx)

theorem allocate_inv (ps : List P) (rt : List (P × Nat)) (n : Nat) (h : RTInv rt n) :
    RTInv (allocate rt n ps).1 (allocate rt n ps).2 := by
  fun_induction allocate rt n ps with
  | case1 => exact h
  | case2 rt n p ps hold ih => exact ih h
  | case3 rt n p ps hnew ih =>
    obtain ⟨h1, h2, h3⟩ := h
    refine ih ⟨?_, ?_, fun x hx => ?_⟩
    · rw [List.map_append]
      refine nodup_concat h1 (fun hm => hnew ?_)
      obtain ⟨x, hx, e⟩ := List.mem_map.mp hm
      exact List.any_eq_true.mpr ⟨x, hx, beq_iff_eq.mpr e⟩
    · rw [List.map_append]
      refine nodup_concat h2 (fun hm => ?_)
      obtain ⟨x, hx, e⟩ := List.mem_map.mp hm
      exact Nat.ne_of_lt (h3 x hx) e
    · rcases List.mem_append.mp hx with hx | hx
      · exact Nat.lt_succ_of_lt (h3 x hx)
      · cases List.mem_singleton.mp hx
        exact Nat.lt_succ_self n

theorem allocate_mono (ps : List P) (rt : List (P × Nat)) (n : Nat) : ∀ x ∈ rt, x ∈ (allocate rt n ps).1 := by
  intro x hx
  fun_induction allocate rt n ps with
  | case1 => exact hx
  | case2 rt n p ps hold ih => exact ih hx
  | case3 rt n p ps hnew ih => exact ih (List.mem_append_left _ hx)

theorem allocate_keys (ps : List P) (rt : List (P × Nat)) (n : Nat) : ∀ p ∈ ps, ∃ t, (p, t) ∈ (allocate rt n ps).1 := by
  intro p hp
  fun_induction allocate rt n ps with
  | case1 => cases hp
  | case2 rt n p0 ps hold ih =>
    rcases List.mem_cons.mp hp with rfl | hp'
    · obtain ⟨x, hx, hxp⟩ := List.any_eq_true.mp hold
      exact ⟨x.2, allocate_mono ps rt n _ (eq_of_beq hxp ▸ hx)⟩
    · exact ih hp'
  | case3 rt n p0 ps hnew ih =>
    rcases List.mem_cons.mp hp with rfl | hp'
    · exact ⟨n, allocate_mono ps _ _ _ (List.mem_append_right _ (List.mem_singleton.mpr rfl))⟩
    · exact ih hp'

/-! ### what a tree holds after `_update_values`, and what `_format_tree` prints -/

theorem treeAfter_mem {writes : List (Nat × (List P × List Rat))} {t : Nat} {g : List P × List Rat}
    (h : treeAfter writes t = some g) : (t, g) ∈ writes := by
  obtain ⟨w, hl, rfl⟩ := Option.map_eq_some_iff.mp h
  obtain ⟨hw, ht⟩ := List.mem_filter.mp (List.mem_of_getLast? hl)
  exact eq_of_beq ht ▸ hw

theorem treeAfter_of_all {writes : List (Nat × (List P × List Rat))} {t : Nat} {g : List P × List Rat}
    (hne : (t, g) ∈ writes) (hall : ∀ g', (t, g') ∈ writes → g' = g) : treeAfter writes t = some g := by
  unfold treeAfter
  have hmem : (t, g) ∈ writes.filter (fun w => w.1 == t) := List.mem_filter.mpr ⟨hne, beq_self_eq_true t⟩
  cases hl : (writes.filter (fun w => w.1 == t)).getLast? with
  | none => rw [List.getLast?_eq_none_iff.mp hl] at hmem; cases hmem
  | some w =>
    obtain ⟨hw, ht⟩ := List.mem_filter.mp (List.mem_of_getLast? hl)
    rw [Option.map_some, hall w.2 (eq_of_beq ht ▸ hw)]

theorem impWrites_mem {rt : List (P × Nat)} {gs : List (List P × List Rat)} {t : Nat} {g : List P × List Rat} :
    (t, g) ∈ impWrites rt gs ↔ g ∈ gs ∧ ∃ p ∈ g.1, rtId rt p = some t := by
  simp only [impWrites, List.mem_flatMap, List.mem_filterMap, Option.map_eq_some_iff]
  constructor
  · rintro ⟨g', hg', p, hp, t', ht', heq⟩
    cases heq
    exact ⟨hg', p, hp, ht'⟩
  · rintro ⟨hg, p, hp, ht⟩
    exact ⟨g, hg, p, hp, t, ht, rfl⟩

theorem treeAfter_group {rt : List (P × Nat)} {n : Nat} (hinv : RTInv rt n) {gs : List (List P × List Rat)}
    (hd : Disjoint gs) {q : P} {tq : Nat} (hq : (q, tq) ∈ rt) {gq : List P × List Rat} (hgq : gq ∈ gs) (hqg : q ∈ gq.1) :
    treeAfter (impWrites rt gs) tq = some gq := by
  apply treeAfter_of_all
  · exact impWrites_mem.mpr ⟨hgq, q, hqg, rtId_of_mem hinv.1 hq⟩
  · intro g' hg'
    obtain ⟨hg'gs, p, hp, hpt⟩ := impWrites_mem.mp hg'
    have : q = p := rt_inj hinv.2.1 hq (mem_of_rtId hpt)
    subst this
    exact hd g' hg'gs gq hgq q hp hqg

theorem treeAfter_own {rt : List (P × Nat)} {n : Nat} (hinv : RTInv rt n) {gs : List (List P × List Rat)}
    {p : P} {t : Nat} (hp : (p, t) ∈ rt) {g : List P × List Rat} (h : treeAfter (impWrites rt gs) t = some g) :
    g ∈ gs ∧ p ∈ g.1 := by
  obtain ⟨hg, p', hp', hpt⟩ := impWrites_mem.mp (treeAfter_mem h)
  have : p = p' := rt_inj hinv.2.1 hp (mem_of_rtId hpt)
  subst this
  exact ⟨hg, hp'⟩

/-- what is printed so far is a union of whole groups -/
def Whole (gs : List (List P × List Rat)) (printed : List P) : Prop :=
  ∀ x ∈ printed, ∃ g ∈ gs, x ∈ g.1 ∧ ∀ y ∈ g.1, y ∈ printed

theorem whole_append {gs : List (List P × List Rat)} {printed : List P} (h : Whole gs printed)
    {g : List P × List Rat} (hg : g ∈ gs) : Whole gs (printed ++ g.1) := by
  intro x hx
  rcases List.mem_append.mp hx with hx | hx
  · obtain ⟨g0, hg0, hx0, hall⟩ := h x hx
    exact ⟨g0, hg0, hx0, fun y hy => List.mem_append_left _ (hall y hy)⟩
  · exact ⟨g, hg, hx, fun y hy => List.mem_append_right _ hy⟩

def emitTree (writes : List (Nat × (List P × List Rat))) (e : P × Nat) (_ : List P) :
    Option ((List P × List Rat) × List P) :=
  (treeAfter writes e.2).map (fun g => (g, g.1))

theorem emitTree_eq_some {writes : List (Nat × (List P × List Rat))} {e : P × Nat} {cov new : List P}
    {g : List P × List Rat} : emitTree writes e cov = some (g, new) ↔ treeAfter writes e.2 = some g ∧ new = g.1 := by
  rw [emitTree, Option.map_eq_some_iff]
  constructor
  · rintro ⟨g', hg', heq⟩
    cases heq
    exact ⟨hg', rfl⟩
  · rintro ⟨hg, rfl⟩
    exact ⟨g, hg, rfl⟩

theorem impFormatTreeData_eq (writes : List (Nat × (List P × List Rat))) : ∀ (ents : List (P × Nat)) (printed : List P),
    impFormatTreeData writes ents printed = cover (·.1) (emitTree writes) ents printed
  | [], _ => rfl
  | (p, t) :: rest, printed => by
    rw [impFormatTreeData, cover, emitTree]
    cases treeAfter writes t <;> simp only [Option.map, impFormatTreeData_eq writes rest]

theorem covering_tree {rt : List (P × Nat)} {n : Nat} (hinv : RTInv rt n) {gs : List (List P × List Rat)}
    (hd : Disjoint gs) : Covering (·.1) Prod.fst (emitTree (impWrites rt gs)) (Whole gs) rt := by
  intro e he cov g new hwh hk hem
  obtain ⟨hg', rfl⟩ := emitTree_eq_some.mp hem
  obtain ⟨hggs, hpg⟩ := treeAfter_own hinv he hg'
  refine ⟨whole_append hwh hggs, fun x hx => ⟨fun hxc => ?_, hx⟩, fun x hx => Or.inl hx⟩
  obtain ⟨g0, hg0, hx0, hall⟩ := hwh x hxc
  cases hd g0 hg0 g hggs x hx0 hx
  exact hk (hall _ hpg)

theorem fmt_sub {rt : List (P × Nat)} {gs : List (List P × List Rat)} {ents : List (P × Nat)} {printed : List P}
    {g : List P × List Rat} (hg : g ∈ impFormatTreeData (impWrites rt gs) ents printed) : g ∈ gs := by
  rw [impFormatTreeData_eq] at hg
  obtain ⟨e, _, cov, new, _, hem⟩ := cover_mem hg
  exact (impWrites_mem.mp (treeAfter_mem (emitTree_eq_some.mp hem).1)).1

/-- `_format_tree` (data block): **with every particle its own tree, a particle that has a tree and is in a group is
    printed exactly once, with its group** -/
theorem fmt_once {rt : List (P × Nat)} {n : Nat} (hinv : RTInv rt n) {gs : List (List P × List Rat)}
    (hd : Disjoint gs) (q : P) (tq : Nat) (gq : List P × List Rat) (hgq : gq ∈ gs) (hqg : q ∈ gq.1)
    (hmem : (q, tq) ∈ rt) : groupsOf q (impFormatTreeData (impWrites rt gs) rt []) = [gq] := by
  have hkey : ∀ e ∈ rt, e.1 = q → ∀ cov, Whole gs cov → q ∉ cov →
      ∃ g new, emitTree (impWrites rt gs) e cov = some (g, new) ∧ q ∈ g.1 := by
    intro e he heq cov _ _
    obtain ⟨p, t⟩ := e
    cases heq
    exact ⟨gq, gq.1, emitTree_eq_some.mpr ⟨treeAfter_group hinv hd he hgq hqg, rfl⟩, hqg⟩
  obtain ⟨g, hg⟩ := cover_once rt [] (covering_tree hinv hd) hkey (fun _ h => nomatch h) List.not_mem_nil
    (List.mem_map.mpr ⟨(q, tq), hmem, rfl⟩)
  rw [← impFormatTreeData_eq] at hg
  obtain ⟨h1, h2⟩ := List.mem_filter.mp (hg ▸ List.mem_singleton.mpr rfl)
  cases hd g (fmt_sub h1) gq hgq q (by simpa using h2) hqg
  exact hg

/-- the sets the data-level IMP instance prints for the collected values `nv`: the groups of `_try_combine_values`,
    written to the trees by `_update_values`, as `_format_tree` finds them -/
def printedGroups (close : Rat → Rat → Bool) (st : St) (nv : List (P × List Rat × List P)) : List (List P × List Rat) :=
  impFormatTreeData
    (impWrites (impRealTreeAfter st (tryCombineValues close nv nv [])).1 (tryCombineValues close nv nv []))
    (impRealTreeAfter st (tryCombineValues close nv nv [])).1 []

theorem formatDataInst_imp (close : Rat → Rat → Bool) (st : St) :
    formatDataInst close st K.imp = if impDataPrints st then impFormatData close st else .ok [] := rfl

theorem impFormatData_ok {close : Rat → Rat → Bool} {st : St} {cs : List MCard} (h : impFormatData close st = .ok cs) :
    ∃ nv, impCollect st.cells st.mode = .ok nv ∧
      cs = (printedGroups close st nv).map (fun g => ⟨K.imp, g.1, g.2.map some, false⟩) := by
  unfold impFormatData impGroups at h
  cases hnv : impCollect st.cells st.mode with
  | error e => rw [hnv] at h; cases h
  | ok nv => rw [hnv] at h; cases h; exact ⟨nv, rfl, rfl⟩

theorem printedGroups_mem {close : Rat → Rat → Bool} {st : St} {nv : List (P × List Rat × List P)}
    (hnv : impCollect st.cells st.mode = .ok nv) {g : List P × List Rat} (hg : g ∈ printedGroups close st nv) :
    ∃ p ∈ st.mode, g.1.head? = some p ∧ impCollectOne p st.cells = .ok g.2 ∧
      ∀ t ∈ g.1, t = p ∨ allClose close g.2 (newVals nv t) = true := by
  obtain ⟨x, hx, h1, h2, h3⟩ := tryCombine_mem (fmt_sub hg)
  obtain ⟨hk, hm⟩ := impCollect_ok hnv
  exact ⟨x.1, hk ▸ List.mem_map_of_mem hx, h1, h2 ▸ hm x hx, h3⟩

/-- **IMP cards of the data block are aligned**: every `IMP` card the data-level instance writes has one entry per
    cell (no jump), and entry `i` is the importance the `i`-th cell (in cell order) holds for the card's first
    particle.  (That the other particles of a combined card were found close to it entry by entry, by
    `_try_combine_values`, is `printedGroups_mem`; `C09_imp_data_once` uses it.) -/
theorem C09_imp_data_aligned (close : Rat → Rat → Bool) (st : St) (cs : List MCard)
    (h : formatDataInst close st K.imp = .ok cs) :
    ∀ card ∈ cs, ∃ p, card.ps.head? = some p ∧ card.vec.length = st.cells.length ∧
      ∀ (i : Nat) (c : Cell), st.cells[i]? = some c → impHas c.imp p = true ∧ card.vec[i]? = some (some (impGet c.imp p)) := by
  intro card hcard
  rw [formatDataInst_imp] at h
  split at h
  · obtain ⟨nv, hnv, rfl⟩ := impFormatData_ok h
    obtain ⟨g, hg, rfl⟩ := List.mem_map.mp hcard
    obtain ⟨p, _, h1, hone, _⟩ := printedGroups_mem hnv hg
    obtain ⟨hl, hget⟩ := impCollectOne_get hone
    refine ⟨p, h1, by simp [hl], fun i c hc => ?_⟩
    obtain ⟨a, b⟩ := hget i c hc
    exact ⟨a, by simp [b]⟩
  · cases h
    cases hcard

theorem newVals_collect {cells : List Cell} {mode : List P} {nv : List (P × List Rat × List P)}
    (h : impCollect cells mode = .ok nv) {q : P} (hq : q ∈ mode) :
    impCollectOne q cells = .ok (newVals nv q) := by
  obtain ⟨hk, hm⟩ := impCollect_ok h
  unfold newVals
  cases hf : nv.find? (fun x => x.1 == q) with
  | none =>
    rw [← hk] at hq
    obtain ⟨x, hx, rfl⟩ := List.mem_map.mp hq
    simpa using List.find?_eq_none.mp hf x hx
  | some x =>
    have e := List.find?_some hf
    exact eq_of_beq e ▸ hm x (List.mem_of_find?_eq_some hf)

theorem allClose_get {close : Rat → Rat → Bool} {a b : List Rat} (h : allClose close a b = true)
    {i : Nat} {x y : Rat} (hx : a[i]? = some x) (hy : b[i]? = some y) : close x y = true := by
  fun_induction allClose close a b generalizing i with
  | case1 a0 as b0 bs ih =>
    obtain ⟨h0, h'⟩ := Bool.and_eq_true_iff.mp h
    cases i with
    | zero => cases hx; cases hy; exact h0
    | succ j => exact ih h' hx hy
  | case2 a b hne =>
    cases a with
    | nil => cases hx
    | cons a0 as =>
      cases b with
      | nil => cases hy
      | cons b0 bs => exact (hne a0 as b0 bs rfl rfl).elim

theorem ent_groups (gs : List (List P × List Rat)) (i : Nat) (q : P) :
    ent (gs.map (fun g => (⟨K.imp, g.1, g.2.map some, false⟩ : MCard))) i K.imp q
      = (groupsOf q gs).filterMap (fun g => ((g.2.map some)[i]?).join) := by
  rw [ent_eq, groupsOf, List.filterMap_map, List.filterMap_filter]
  rfl

/-- **with every particle its own tree, the data block prints every particle of the mode exactly once** -/
theorem impData_once (close : Rat → Rat → Bool) {st : St} (hrt : RTInv st.realTree st.nextId)
    {nv : List (P × List Rat × List P)} (hnv : impCollect st.cells st.mode = .ok nv) {q : P} (hq : q ∈ st.mode) :
    ∃ g, groupsOf q (printedGroups close st nv) = [g] := by
  have hex : q ∈ nv.map (·.1) := (impCollect_ok hnv).1 ▸ hq
  obtain ⟨g, hg⟩ := tryCombine_once close nv nv [] q List.not_mem_nil hex
  obtain ⟨hggs, hqg⟩ := List.mem_filter.mp (hg ▸ List.mem_singleton.mpr rfl)
  have hqg' : q ∈ g.1 := by simpa using hqg
  obtain ⟨tq, htq⟩ := allocate_keys _ st.realTree st.nextId q (List.mem_flatMap.mpr ⟨g, hggs, hqg'⟩)
  exact ⟨g, fmt_once (allocate_inv _ st.realTree st.nextId hrt) (tryCombine_disjoint close nv nv []) q tq g hggs hqg' htq⟩

/-- **importances in the data block: exactly once per particle of the mode** — for every state in which every
    particle has its OWN data-block tree (`RTInv`), when IMP goes to the data block and the write succeeds, the file
    gives the `i`-th cell exactly one importance for every particle `q` of the mode, in the data block, at the cell's
    index; its value is the importance the cell holds for `q`, or the importance it holds for a particle of the
    mode, close at this cell to the one it holds for `q` (a combined `imp:n,p` card). -/
theorem C09_imp_data_once (close : Rat → Rat → Bool) (st : St) (hw : DataInputsOnce st)
    (hrt : RTInv st.realTree st.nextId) (items : List MItem)
    (h : writeToFile close st = .ok items) (hf : st.flags.imp = true)
    (i : Nat) (c : Cell) (hc : st.cells[i]? = some c) (q : P) (hq : q ∈ st.mode) :
    ∃ v, table (render items) i (convK K.imp) q = [(Blk.data, v)] ∧
      (v = impGet c.imp q ∨ ∃ p ∈ st.mode, v = impGet c.imp p ∧ close v (impGet c.imp q) = true) := by
  obtain ⟨cs, hcs, ht⟩ := table_write hw h hc K.imp q
  have hany : st.cells.any (fun d => hasInformation d K.imp) = true :=
    List.any_eq_true.mpr ⟨c, List.mem_of_getElem? hc, rfl⟩
  have hpr : impDataPrints st = true := by rw [impDataPrints, hf, hany]; rfl
  rw [formatDataInst_imp, if_pos hpr] at hcs
  obtain ⟨nv, hnv, rfl⟩ := impFormatData_ok hcs
  obtain ⟨g, hg⟩ := impData_once close hrt hnv hq
  obtain ⟨hgm, hqg⟩ := List.mem_filter.mp (hg ▸ List.mem_singleton.mpr rfl)
  -- `g` holds the vector of a particle `p` of the mode; `q` is `p` or its vector is close to `p`'s
  obtain ⟨p, hp, _, hone, hcl⟩ := printedGroups_mem hnv hgm
  obtain ⟨_, hi⟩ := (impCollectOne_get hone).2 i c hc
  refine ⟨impGet c.imp p, ?_, ?_⟩
  · rw [ht, formatCellInst_off (k := K.imp) close c hf, ent_groups, hg, List.filterMap_cons, List.getElem?_map, hi]
    rfl
  · rcases hcl q (by simpa using hqg) with rfl | hclose
    · exact Or.inl rfl
    · obtain ⟨_, hqi⟩ := (impCollectOne_get (newVals_collect hnv hq)).2 i c hc
      exact Or.inr ⟨p, hp, rfl, allClose_get hclose hi hqi⟩

/-- **identity matters** (witnesses): if two particles share ONE data-block tree — what `dict.fromkeys(parts, tree)`
    would make — and then get different vectors, the later write wins: one particle is not printed at all
    (first witness), or one is printed twice and the other not at all (second witness, the other set order). -/
theorem C09_imp_shared_tree_refuted :
    let rt : List (P × Nat) := [(0, 0), (1, 0)]                      -- n and p share tree 0
    let gs : List (List P × List Rat) := [([0], [1, 1]), ([1], [1, 8])]   -- the particles differ: two sets
    let gs' : List (List P × List Rat) := [([1], [1, 8]), ([0], [1, 1])]
    ¬ RTInv rt 1 ∧
    groupsOf 0 (impFormatTreeData (impWrites rt gs) rt []) = [] ∧
    (groupsOf 0 (impFormatTreeData (impWrites rt gs') rt [])).length = 2 ∧
    groupsOf 1 (impFormatTreeData (impWrites rt gs') rt []) = [] := by
  refine ⟨?_, by decide, by decide, by decide⟩
  intro h
  have := h.2.1
  simp at this

/-! ## histories, writes included -/

theorem afterWrite_cases (close : Rat → Rat → Bool) (st : St) :
    afterWrite close st = st ∨ ∃ gs, afterWrite close st
      = { st with realTree := (impRealTreeAfter st gs).1, nextId := (impRealTreeAfter st gs).2 } := by
  fun_cases afterWrite close st
  · exact Or.inl rfl
  · exact Or.inr ⟨_, rfl⟩
  · exact Or.inl rfl
  · exact Or.inl rfl

theorem step_frame (close : Rat → Rat → Bool) (st : St) (op : Op) :
    (step close st op).1 = afterWrite close st ∨
      ((step close st op).1.dataInputs = st.dataInputs ∧ (step close st op).1.realTree = st.realTree ∧
        (step close st op).1.nextId = st.nextId) := by
  fun_cases step close st op
  · exact Or.inl rfl
  all_goals exact Or.inr ⟨rfl, rfl, rfl⟩

theorem step_dataInputs (close : Rat → Rat → Bool) (st : St) (op : Op) :
    (step close st op).1.dataInputs = st.dataInputs := by
  rcases step_frame close st op with h | h
  · rw [h]
    rcases afterWrite_cases close st with h | ⟨gs, h⟩ <;> rw [h]
  · exact h.1

theorem step_rt (close : Rat → Rat → Bool) (st : St) (op : Op) (h : RTInv st.realTree st.nextId) :
    RTInv (step close st op).1.realTree (step close st op).1.nextId := by
  rcases step_frame close st op with e | ⟨_, e1, e2⟩
  · rw [e]
    rcases afterWrite_cases close st with e | ⟨gs, e⟩ <;> rw [e]
    · exact h
    · exact allocate_inv _ _ _ h
  · rw [e1, e2]
    exact h

theorem run_induction (close : Rat → Rat → Bool) (I : St → Prop) (hstep : ∀ st op, I st → I (step close st op).1)
    (st : St) (h : I st) (ops : List Op) : I (run close st ops) := by
  induction ops generalizing st with
  | nil => exact h
  | cons op rest ih => exact ih _ (hstep st op h)

/-- the invariant the theorems need (each data-level instance is listed at most once in `data_inputs`) holds after
    ANY history, writes included -/
theorem C09_history_wf (close : Rat → Rat → Bool) (st : St) (hw : DataInputsOnce st) (ops : List Op) :
    DataInputsOnce (run close st ops) :=
  run_induction close DataInputsOnce (fun st op h k => by rw [step_dataInputs]; exact h k) st hw ops

/-- **every particle keeps its own data-block tree**: the identity invariant holds after ANY history (a write creates
    trees: fresh ones) -/
theorem C09_history_trees (close : Rat → Rat → Bool) (st : St) (h : RTInv st.realTree st.nextId) (ops : List Op) :
    RTInv (run close st ops).realTree (run close st ops).nextId :=
  run_induction close (fun s => RTInv s.realTree s.nextId) (step_rt close) st h ops

/-- **history**: after ANY sequence of edits, flag changes, cell insertions, deletions, reorderings, observations and
    WRITES (each of which may create data-block trees), the file that is written next gives every datum a cell then
    holds exactly once, in the block the flag then names, aligned to the cell's position at that time, with the cell's
    value — VOL, U, LAT, FILL, and the importance of every particle of the mode when IMP goes to the data block
    (cell block: `C09_imp_cell_once` speaks of one state, and assumes that every importance tree of the cell names its
    own particle, `∀ e ∈ c.imp, e.p ∈ e.cl`, which no theorem here shows to be kept along a history) — and every
    per-cell card is inside the data block. -/
theorem C09_history (close : Rat → Rat → Bool) (st : St) (hw : DataInputsOnce st)
    (hrt : RTInv st.realTree st.nextId) (ops : List Op) (items : List MItem)
    (h : writeToFile close (run close st ops) = .ok items) :
    Spec.CellData.allDataCardsRead (render items) = true ∧
    ∀ (i : Nat) (c : Cell), (run close st ops).cells[i]? = some c →
      (∀ (k : K), k ≠ K.imp → ∀ (p : P),
        (∀ v, treeValue c k = .ok (some v) →
          table (render items) i (convK k) p = [(if (run close st ops).flags.get k then Blk.data else Blk.cell, v)]) ∧
        (treeValue c k = .ok none → table (render items) i (convK k) p = [])) ∧
      ((run close st ops).flags.imp = true → ∀ q ∈ (run close st ops).mode,
        ∃ v, table (render items) i (convK K.imp) q = [(Blk.data, v)] ∧
          (v = impGet c.imp q ∨ ∃ p ∈ (run close st ops).mode, v = impGet c.imp p ∧ close v (impGet c.imp q) = true)) := by
  have hw' := C09_history_wf close st hw ops
  have hrt' := C09_history_trees close st hrt ops
  refine ⟨C09_in_block close _ items h, ?_⟩
  intro i c hc
  refine ⟨?_, ?_⟩
  · intro k hk p
    exact ⟨fun v hv => C09_exactly_once close _ hw' items h i c hc k hk p v hv,
      fun hv => C09_no_spurious close _ hw' items h i c hc k hk p hv⟩
  · intro hf q hq
    exact C09_imp_data_once close _ hw' hrt' items h hf i c hc q hq

/-- non-vacuity: a history that begins with a WRITE (IMP in the data block: the write creates the trees of n and p),
    then an edit that makes the particles differ, an append, a move and a flag change; the next write succeeds and
    gives cell 0 its two different importances in the data block, and the volume of the moved cell at its new index -/
example :
    let eq : Rat → Rat → Bool := fun a b => a == b
    let st : St := { cells := [⟨1, [⟨0, 1, [0, 1]⟩, ⟨1, 1, [0, 1]⟩], some 3, some 2, false, none, none, false, false, ⟨false, false, false, false, false⟩⟩,
                               ⟨2, [⟨0, 1, [0, 1]⟩, ⟨1, 1, [0, 1]⟩], none, some 0, false, none, none, false, false, ⟨false, false, false, false, false⟩⟩],
                     mode := [0, 1], flags := ⟨true, false, false, false, false⟩, volCalc := true, dataInputs := [none],
                     realTree := [], nextId := 0 }
    let ops := [Op.write, Op.setImp 0 [1] 8, Op.observe,
                Op.append ⟨3, [⟨0, 0, [0]⟩, ⟨1, 0, [1]⟩], some 5, none, false, none, none, false, false, ⟨false, false, false, false, false⟩⟩,
                Op.moveEnd 1, Op.setFlag K.vol true]
    DataInputsOnce st ∧ RTInv st.realTree st.nextId ∧
    (run eq st [Op.write]).realTree = [(0, 0), (1, 1)] ∧
    ∃ items, writeToFile eq (run eq st ops) = .ok items ∧
      table (render items) 0 (convK K.imp) 0 = [(Blk.data, 1)] ∧ table (render items) 0 (convK K.imp) 1 = [(Blk.data, 8)] ∧
      table (render items) 0 (convK K.vol) 0 = [(Blk.data, 3)] ∧ table (render items) 1 (convK K.vol) 0 = [(Blk.data, 5)] := by
  refine ⟨?_, ?_, by decide, _, rfl, by decide⟩
  · intro k; cases k <;> decide
  · exact ⟨by simp, by simp, by simp⟩

/-! ## undo after an intermediate write: the file is a function of the CURRENT values, not of the history -/

/-- `write_to_file` (and any observation) leaves every value the file is a function of alone: the cells with their
    data, the flags, `allow_mcnp_volume_calc`, `data_inputs`, the mode. Only the data-block importance trees change. -/
theorem C09_write_frame (close : Rat → Rat → Bool) (st : St) :
    (afterWrite close st).cells = st.cells ∧ (afterWrite close st).flags = st.flags ∧
    (afterWrite close st).volCalc = st.volCalc ∧ (afterWrite close st).dataInputs = st.dataInputs ∧
    (afterWrite close st).mode = st.mode := by
  rcases afterWrite_cases close st with h | ⟨gs, h⟩ <;> rw [h] <;> exact ⟨rfl, rfl, rfl, rfl, rfl⟩

/-- the data-block card of VOL / U / LAT / FILL and every cell card are functions of the CURRENT values (cells, flags,
    `allow_mcnp_volume_calc`) only: `cell_modifier.py: _update_values` rebuilds the list from the cells at every write
    (`update_with_new_values`), whatever an earlier write left in it -/
theorem C09_values_only (close : Rat → Rat → Bool) (s t : St) (hc : s.cells = t.cells) (hf : s.flags = t.flags)
    (hv : s.volCalc = t.volCalc) (k : K) (hk : k ≠ K.imp) :
    formatDataInst close s k = formatDataInst close t k ∧
    s.cells.map (formatCell close s.flags) = t.cells.map (formatCell close t.flags) := by
  refine ⟨?_, by rw [hc, hf]⟩
  rw [formatDataInst_nonimp close s k hk, formatDataInst_nonimp close t k hk, hc, hf, hv]

/-- UNDO, for ANY history with writes anywhere in it: if the history ends with the cells (and flags) it started with —
    edits undone after intermediate writes — the file written then gives every cell, for VOL / U / LAT / FILL,
    exactly the datum the ORIGINAL state holds, once, in the block the flag names, at the cell's index; and nothing to
    a cell that holds none. Nothing of an earlier write (a jump where the datum was unset) survives. -/
theorem C09_undo (close : Rat → Rat → Bool) (st : St) (hw : DataInputsOnce st)
    (hrt : RTInv st.realTree st.nextId) (ops : List Op) (items : List MItem)
    (h : writeToFile close (run close st ops) = .ok items)
    (hc : (run close st ops).cells = st.cells) (hf : (run close st ops).flags = st.flags) :
    ∀ (i : Nat) (c : Cell), st.cells[i]? = some c → ∀ (k : K), k ≠ K.imp → ∀ (p : P),
      (∀ v, treeValue c k = .ok (some v) →
        table (render items) i (convK k) p = [(if st.flags.get k then Blk.data else Blk.cell, v)]) ∧
      (treeValue c k = .ok none → table (render items) i (convK k) p = []) := by
  intro i c hi k hk p
  have H := (C09_history close st hw hrt ops items h).2 i c (by rw [hc]; exact hi)
  have := H.1 k hk p
  rw [hf] at this
  exact this

/-- non-vacuity of `C09_undo`: unset (volume deleted, back to universe 0), WRITE, the values of the file again, WRITE -/
example :
    let eq : Rat → Rat → Bool := fun a b => a == b
    let st : St := { cells := [⟨1, [⟨0, 1, [0]⟩], some 3, some 1, false, none, none, false, false, ⟨false, false, false, false, false⟩⟩,
                               ⟨2, [⟨0, 1, [0]⟩], some 5, some 2, false, none, none, false, false, ⟨false, false, false, false, false⟩⟩,
                               ⟨3, [⟨0, 0, [0]⟩], some 7, some 2, false, none, none, false, false, ⟨false, false, false, false, false⟩⟩],
                     mode := [0], flags := ⟨true, true, true, true, true⟩, volCalc := true, dataInputs := [none],
                     realTree := [], nextId := 0 }
    let ops := [Op.setVol 1 none, Op.setUni 1 0, Op.write, Op.setVol 1 (some 5), Op.setUni 1 2, Op.write]
    (run eq st ops).cells = st.cells ∧ (run eq st ops).flags = st.flags ∧
    (∃ items, writeToFile eq (run eq st [Op.setVol 1 none, Op.setUni 1 0]) = .ok items ∧
      table (render items) 1 (convK K.vol) 0 = [] ∧ table (render items) 1 (convK K.u) 0 = []) ∧
    ∃ items, writeToFile eq (run eq st ops) = .ok items ∧
      table (render items) 1 (convK K.vol) 0 = [(Blk.data, 5)] ∧ table (render items) 1 (convK K.u) 0 = [(Blk.data, 2)] := by
  refine ⟨by rfl, by rfl, ⟨_, rfl, by decide⟩, _, rfl, by decide⟩

/-! ## the cell's parameters tree: every modifier class keeps its place whatever else the card carries

`Cell.format_for_mcnp_input` reaches a cell-level modifier only through its node in `cell._tree["parameters"]`
(`formatCellTree`); the write theorems above are about `formatCell`, which visits every class.  The two are the same
card because `_parse_keyword_modifiers` leaves a node for EVERY class, for any other parameters on the card. -/

theorem K.pfxC_eq (k : K) : k.pfxC = k.pfx.toList := by
  cases k <;> decide +kernel

theorem mem_slots (ps : List Param) (k : K) :
    k ∈ slots ps ↔ k ∈ foundClassPrefixes ps ∨ k ∈ defaultsAppended ps := by
  simp [slots, List.mem_filter, K.mem_all]

theorem mem_defaultsAppended (ps : List Param) (k : K) :
    k ∈ defaultsAppended ps ↔
      k ∉ foundClassPrefixes ps ∧ (k ≠ K.imp ∨ ps.any (fun p => hasInfix K.imp.pfxC p.key) = false) := by
  simp [defaultsAppended, List.mem_filter, K.mem_all]

theorem mem_slots_of (ps : List Param) (k : K)
    (h : k ≠ K.imp ∨ ps.any (fun p => hasInfix K.imp.pfxC p.key) = false) : k ∈ slots ps := by
  rw [mem_slots]
  by_cases hf : k ∈ foundClassPrefixes ps
  · exact Or.inl hf
  · exact Or.inr ((mem_defaultsAppended ps k).mpr ⟨hf, h⟩)

/-- for ANY parameters on the card — any keys, any prefixes —, every class other than IMP has a node in the
    parameters tree after `_parse_keyword_modifiers`: given on the card, or its blank tree appended -/
theorem C09_slots_others (ps : List Param) (k : K) (hk : k ≠ K.imp) : k ∈ slots ps :=
  mem_slots_of ps k (Or.inl hk)

theorem found_of_imp_key (ps : List Param) (hi : impKeysAreImp ps = true)
    (h : ps.any (fun p => hasInfix K.imp.pfxC p.key) = true) : K.imp ∈ foundClassPrefixes ps := by
  obtain ⟨p, hp, hin⟩ := List.any_eq_true.mp h
  refine List.mem_filter.mpr ⟨by decide, List.any_eq_true.mpr ⟨p, hp, ?_⟩⟩
  simpa [hin] using List.all_eq_true.mp hi p hp

/-- when every key that contains `imp` is an IMP parameter (`impKeysAreImp`: the only shape the IMP-only guard of the
    second loop looks at), every class has its node: the walk over the tree is the walk over all classes, and the
    card the code writes (`formatCellTree`) is the card the write theorems are about (`formatCell`) -/
theorem C09_slots_complete (close : Rat → Rat → Bool) (flags : Flags) (c : Cell) (ps : List Param)
    (hi : impKeysAreImp ps = true) :
    slots ps = K.all ∧ formatCellTree close flags c ps = formatCell close flags c := by
  have hall : ∀ k ∈ K.all, k ∈ slots ps := fun k _ => by
    by_cases h : ps.any (fun p => hasInfix K.imp.pfxC p.key) = true
    · by_cases hk : k = K.imp
      · exact (mem_slots ps k).mpr (Or.inl (hk ▸ found_of_imp_key ps hi h))
      · exact C09_slots_others ps k hk
    · exact mem_slots_of ps k (Or.inr (by simpa using h))
  have hs : slots ps = K.all := List.filter_eq_self.mpr (fun k hk => (List.mem_filter.mp (hall k hk)).2)
  exact ⟨hs, by rw [formatCellTree, hs, formatCell]⟩

/-- a class WITHOUT a node is not printed on the card at all: the node is what the exactly-once theorems rest on -/
theorem C09_slot_needed (close : Rat → Rat → Bool) (flags : Flags) (c : Cell) (sl : List K) (k : K) (hk : k ∉ sl) :
    ∀ q ∈ sl.flatMap (formatCellInst close flags c), q.k ≠ k := by
  intro q hq
  obtain ⟨k', hk', hq'⟩ := List.mem_flatMap.mp hq
  rw [formatCellInst_class close flags c k' q hq']
  intro h
  exact hk (h ▸ hk')

/-- the keyword table of the lexer that reads cell cards, as extracted on this run: `imp` is the only keyword that
    contains `imp` (so the IMP-only guard of the second loop cannot hide the IMP node behind another parameter's
    prefix), while the prefix `u` of the universe class is inside other keywords — the guard must stay IMP-only -/
theorem C09_cell_keywords :
    (∀ kw ∈ Gen.cellLexerKeywords, hasInfix K.imp.pfxC kw.toList = true → kw = K.imp.pfx) ∧
    (∀ k ∈ K.all, k.pfx ∈ Gen.cellLexerKeywords) ∧
    (∃ kw ∈ Gen.cellLexerKeywords, kw ≠ K.u.pfx ∧ hasInfix K.u.pfxC kw.toList = true) := by
  -- one evaluation over the table (`but`, `nonu`, `sur`, … contain `u`)
  decide +kernel

/-- non-vacuity and the shape of the defect the IMP-only guard excludes: a card `imp:n=1 nonu=1 unc:n=0 tmp1=2.5e-8`
    keeps a node for all five classes, and a cell in universe 5 with U printed in the cell block gets `u=5` -/
example :
    let ps : List Param := [⟨"imp:n".toList, "imp".toList⟩, ⟨"nonu".toList, "nonu".toList⟩, ⟨"unc:n".toList, "unc".toList⟩,
                            ⟨"tmp1".toList, "tmp".toList⟩]
    let c : Cell := ⟨1, [⟨0, 1, [0]⟩], none, some 5, false, none, none, false, false, ⟨true, false, false, false, false⟩⟩
    impKeysAreImp ps = true ∧ slots ps = K.all ∧
      formatCellTree (fun a b => a == b) ⟨true, true, false, true, true⟩ c ps = .cell 1 [⟨K.u, [], 5⟩] := by
  decide +kernel

end MontePyVerif.C09
