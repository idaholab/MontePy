import MontePyVerif.Props.C12Lexer
/-! # Props.C19Echo — the decomposition of "Echo" (an unedited input formats back to its own text)

C19 (`Props/C19Gen.lean: Echo`), C07 and C01 rest on a measured hypothesis: `fmt (parse bt raw) = raw`.  This file
splits it into the half that is PROVED (the lexer is lossless: `C12Lexer.tokenize_lossless_input`) and a
smaller hypothesis about the parser alone, `LeavesAreTokens` (the parser drops, duplicates and reorders nothing),
that the harness measures per input (`tools/vlib/lexlib.py`, counters `echo:*`).

A syntax tree is a rose tree whose leaves hold source text (`ValueNode._token`, the strings of a `PaddingNode`,
`ParticleNode._token`, the `_original` of a `ShortcutNode`); an UNEDITED node formats as the concatenation of its
children (`syntax_node.py: SyntaxNode.format, PaddingNode.format, CommentNode.format, ParametersNode.format,
GeometryTree.format, ClassifierNode.format, IsotopesNode.format`, and `ValueNode.format` when `_value_changed` is
false).  `ListNode.format`, `ShortcutNode.format` and `ParticleNode.format` re-derive text even when nothing was
edited; that they give back the concatenation of their leaves is the second measured hypothesis
(`echo:format_is_concat`), not modelled here.
-/
namespace MontePyVerif.C19Echo
open MontePyVerif.Lexer MontePyVerif.C12Lexer

inductive Tree
  | leaf (t : Text)
  | node (cs : List Tree)

mutual
/-- `SyntaxNodeBase.format` of an unedited tree -/
def Tree.format : Tree → Text
  | .leaf t => t
  | .node cs => formatAll cs
def formatAll : List Tree → Text
  | [] => []
  | c :: cs => c.format ++ formatAll cs
end

mutual
def Tree.leaves : Tree → List Text
  | .leaf t => [t]
  | .node cs => leavesAll cs
def leavesAll : List Tree → List Text
  | [] => []
  | c :: cs => c.leaves ++ leavesAll cs
end

mutual
theorem format_eq_leaves : ∀ t : Tree, t.format = t.leaves.flatten
  | .leaf t => by simp [Tree.format, Tree.leaves]
  | .node cs => by simp only [Tree.format, Tree.leaves]; exact formatAll_eq_leaves cs
theorem formatAll_eq_leaves : ∀ cs : List Tree, formatAll cs = (leavesAll cs).flatten
  | [] => by simp [formatAll, leavesAll]
  | c :: cs => by
    simp only [formatAll, leavesAll, List.flatten_append]
    rw [format_eq_leaves c, formatAll_eq_leaves cs]
end

/-- the measured hypothesis, exact form: the leaves are the token values, one leaf per token -/
def LeavesAreTokensExact (tree : Tree) (ts : List Token) : Prop := tree.leaves = ts.map (·.value)

/-- the measured hypothesis as the harness counts it: the texts in the leaves of the SLY-built tree, in order, spell
    what the tokens spell (a `PaddingNode` cuts a SPACE token at its newlines, so the segmentation may be finer) -/
def LeavesAreTokens (tree : Tree) (ts : List Token) : Prop := tree.leaves.flatten = values ts

theorem LeavesAreTokensExact.weaken {tree : Tree} {ts : List Token} (h : LeavesAreTokensExact tree ts) :
    LeavesAreTokens tree ts := by
  unfold LeavesAreTokens values
  rw [h]

/-- **Echo, decomposed** (text level): for an input whose text is `J ++ "\n"` (`J`: the lines joined by newlines,
    without a tab, the last line not empty) that the lexer reads to its end, if the leaves of the unedited tree
    spell what the tokens spell, the tree formats back to `J`, the input's own text -/
theorem echo_of_leaves (spec : LexerSpec) (J : Text) (ts : List Token) (tree : Tree)
    (hlex : tokenizeText spec (J ++ ['\n']) = (ts, .ok)) (htab : '\t' ∉ J) (hJ : ∀ y, J ≠ y ++ ['\n'])
    (hleaves : LeavesAreTokens tree ts) : tree.format = J := by
  rw [format_eq_leaves, hleaves]
  exact tokenize_lossless_input spec J ts hlex htab hJ

theorem splitOn_of_not_mem {d : Char} {l : Text} (h : d ∉ l) : splitOn d l = [l] := by
  induction l with
  | nil => rfl
  | cons c t ih =>
    rw [splitOn, if_neg (by simpa using (List.ne_of_not_mem_cons h).symm), ih (List.not_mem_of_not_mem_cons h)]

theorem splitOn_append_sep {d : Char} {l : Text} (rest : Text) (h : d ∉ l) :
    splitOn d (l ++ d :: rest) = l :: splitOn d rest := by
  induction l with
  | nil => rw [List.nil_append, splitOn, if_pos (beq_self_eq_true d)]
  | cons c t ih =>
    rw [List.cons_append, splitOn, if_neg (by simpa using (List.ne_of_not_mem_cons h).symm),
      ih (List.not_mem_of_not_mem_cons h)]

theorem intercalate_singleton (sep l : Text) : sep.intercalate [l] = l := by
  simp [List.intercalate, List.intersperse]

theorem intercalate_cons_cons (sep l l' : Text) (ls : List Text) :
    sep.intercalate (l :: l' :: ls) = l ++ sep ++ sep.intercalate (l' :: ls) := by
  simp [List.intercalate, List.intersperse]

theorem splitOn_intercalate : ∀ (lines : List Text), lines ≠ [] → (∀ l, l ∈ lines → '\n' ∉ l) →
    splitOn '\n' ("\n".toList.intercalate lines) = lines := by
  intro lines
  induction lines with
  | nil => intro h; exact absurd rfl h
  | cons l ls ih =>
    intro _ hno
    cases ls with
    | nil => rw [intercalate_singleton]; exact splitOn_of_not_mem (hno l List.mem_cons_self)
    | cons l' ls =>
      rw [intercalate_cons_cons, List.append_assoc]
      exact (splitOn_append_sep _ (hno l List.mem_cons_self)).trans
        (congrArg _ (ih (List.cons_ne_nil l' ls) fun x hx => hno x (List.mem_cons_of_mem l hx)))

theorem not_mem_intercalate {c : Char} {sep : Text} (hsep : c ∉ sep) (lines : List Text)
    (hno : ∀ l, l ∈ lines → c ∉ l) : c ∉ sep.intercalate lines := by
  induction lines with
  | nil => exact List.not_mem_nil
  | cons l ls ih =>
    cases ls with
    | nil => rw [intercalate_singleton]; exact hno l List.mem_cons_self
    | cons l' ls =>
      rw [intercalate_cons_cons]
      simp only [List.mem_append, not_or]
      exact ⟨⟨hno l List.mem_cons_self, hsep⟩, ih fun x hx => hno x (List.mem_cons_of_mem l hx)⟩

/-- **Echo, decomposed** (line level — the shape of `C19Gen.Echo`: `fmt (parse bt raw) = raw` with
    `fmt tree = tree.format.split("\n")`).  The one measured hypothesis is `LeavesAreTokens`; the others are about
    the input (it has a line, no line holds a newline or a tab, the last line is not empty) and the lexer run. -/
theorem echo_lines (spec : LexerSpec) (lines : List Text) (ts : List Token) (tree : Tree)
    (hne : lines ≠ []) (hnl : ∀ l, l ∈ lines → '\n' ∉ l) (htab : ∀ l, l ∈ lines → '\t' ∉ l)
    (hlastline : ∀ y, "\n".toList.intercalate lines ≠ y ++ ['\n'])
    (hlex : inputTokenize spec lines = (ts, .ok))
    (hleaves : LeavesAreTokens tree ts) :
    splitOn '\n' tree.format = lines := by
  have htabJ : '\t' ∉ "\n".toList.intercalate lines := not_mem_intercalate (by decide) lines htab
  unfold inputTokenize inputText at hlex
  rw [echo_of_leaves spec _ ts tree hlex htabJ hlastline hleaves]
  exact splitOn_intercalate lines hne hnl

/-! ## tests (non-vacuity): a concrete input and tree satisfy the hypotheses -/

private def exLines : List Text := ["1 0 -1".toList, "     imp:n=1".toList]
private def exTree : Tree :=
  .node [.node [.leaf "1".toList, .leaf " ".toList], .node [.leaf "0".toList, .leaf " ".toList],
         .node [.leaf "-1".toList, .node [.leaf "\n".toList, .leaf "     ".toList]],
         .node [.leaf "imp".toList, .leaf ":".toList, .leaf "n".toList, .leaf "=".toList, .leaf "1".toList]]

/-- both facts about the one lexer run, so that it is evaluated once, and on lists of characters (the kernel is slow
    to decode a string literal) -/
private theorem exLines_run :
    (inputTokenize cellLexer exLines).2 = .ok ∧ LeavesAreTokens exTree (inputTokenize cellLexer exLines).1 := by
  unfold LeavesAreTokens exLines exTree
  repeat rw [String.toList_ofList]
  decide +kernel

example : (inputTokenize cellLexer exLines).2 = .ok := exLines_run.1
example : LeavesAreTokens exTree (inputTokenize cellLexer exLines).1 := exLines_run.2
example : splitOn '\n' exTree.format = exLines := by decide +kernel

end MontePyVerif.C19Echo
