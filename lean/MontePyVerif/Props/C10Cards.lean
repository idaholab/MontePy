import MontePyVerif.Model.Wrap
import MontePyVerif.Spec.Text
/-!
# C10: the per-cell data cards of the data block are inputs of their own

`Importance._format_tree` (data block) joins one card per group of particles with line breaks; the values of a card are
the cells' value nodes with the padding they had in the cell, so a card may end in the continuation mark `&`.
`_drop_final_continuation_mark` is applied to every card (not only to the joined text: seeded change C10e), so that
MCNP's rules (`Spec.Text.logicalInputs`) read one input per card.
-/
namespace MontePyVerif.C10
open MontePyVerif MontePyVerif.Wrap
open MontePyVerif.Spec.Text (logicalInputs step St classify stripAmp finish)

/-! ## 1. `_drop_final_continuation_mark` -/

theorem pyRstrip_mark (body pad : Str) (hp : pad.all pyIsSpace = true) :
    pyRstrip (body ++ [' ', '&'] ++ pad) = body ++ [' ', '&'] := by
  have hr : ∀ c ∈ pad.reverse, pyIsSpace c = true := by simpa using hp
  have : pyIsSpace '&' = false := by decide
  simp [pyRstrip, List.dropWhile_append_of_pos hr, this]

theorem rstripBlanks_snoc_blank (x : Str) : rstripBlanks (x ++ [' ']) = rstripBlanks x := by
  simp [rstripBlanks]

/-- **C10_mark_dropped** — every body, every white space behind the mark: when the mark is not comment text, the text
    comes back without the mark and without the blanks in front of it -/
theorem C10_mark_dropped (body pad : Str) (hp : pad.all pyIsSpace = true)
    (hd : (afterLastNl (body ++ [' ', '&'])).contains '$' = false) :
    dropFinalContinuationMark (body ++ [' ', '&'] ++ pad) = rstripBlanks body := by
  have hs := pyRstrip_mark body pad hp
  have he : endsInMark (body ++ [' ', '&'] ++ pad) = true := by
    simp only [endsInMark, hs, hd]
    simp
  simp only [dropFinalContinuationMark, he, if_true, hs]
  have : (body ++ [' ', '&']).dropLast = body ++ [' '] := by
    rw [show body ++ [' ', '&'] = (body ++ [' ']) ++ ['&'] by simp]
    exact List.dropLast_concat
  rw [this, rstripBlanks_snoc_blank]

/-- two marks at the end: the only texts that keep one (MontePy's reader does not produce such a padding) -/
def DoubleMark (text : Str) : Bool := endsInMark text && endsInMark (rstripBlanks (pyRstrip text).dropLast)

/-- **C10_no_mark_left** — all texts: the result ends in the mark only if the text ended in two of them -/
theorem C10_no_mark_left (text : Str) (h : DoubleMark text = false) :
    endsInMark (dropFinalContinuationMark text) = false := by
  unfold dropFinalContinuationMark
  by_cases he : endsInMark text = true
  · simp only [he, if_true]
    simpa [DoubleMark, he] using h
  · simp only [he]
    simpa using he

/-- non-vacuity and the excluded class -/
example : DoubleMark "imp:n 1 0 &  ".toList = false ∧ endsInMark "imp:n 1 0 &  ".toList = true
    ∧ dropFinalContinuationMark "imp:n 1 0 &  ".toList = "imp:n 1 0".toList := by
  -- every literal as the list of its characters: the kernel is slow at decoding a literal itself
  repeat rw [String.toList_ofList]
  decide +kernel
example : DoubleMark "imp:n 1 0 & &".toList = true
    ∧ dropFinalContinuationMark "imp:n 1 0 & &".toList = "imp:n 1 0 &".toList := by
  repeat rw [String.toList_ofList]
  decide +kernel
example : dropFinalContinuationMark "imp:n 1 0 $ a &".toList = "imp:n 1 0 $ a &".toList := by
  rw [String.toList_ofList]
  decide +kernel

/-! ## 2. cards that start an input and do not end in the mark are inputs of their own -/

/-- a physical line that starts an input (data, not in the continuation columns, with words) and whose data do not end
    in the continuation mark; its words -/
def startsOwnInput (limit : Nat) (l : Str) : Option (List Str) :=
  match classify limit l with
  | .data false ws [] => if ws.isEmpty || (stripAmp ws).2 then none else some ws
  | _ => none

theorem stripAmp_of_snd {ws : List Str} (h : (stripAmp ws).2 = false) : stripAmp ws = (ws, false) := by
  unfold stripAmp at h ⊢
  split
  · rename_i hl; simp [hl] at h
  · rfl

theorem startsOwnInput_some {limit : Nat} {l : Str} {ws : List Str} (h : startsOwnInput limit l = some ws) :
    classify limit l = .data false ws [] ∧ ws.isEmpty = false ∧ stripAmp ws = (ws, false) := by
  unfold startsOwnInput at h
  split at h
  next w hc =>
    split at h
    · cases h
    · rename_i hne
      cases h
      simp only [Bool.or_eq_true, not_or, Bool.not_eq_true] at hne
      exact ⟨hc, hne.1, stripAmp_of_snd hne.2⟩
  next => cases h

theorem step_own (limit : Nat) (st : St) (l : Str) (ws : List Str) (h : startsOwnInput limit l = some ws)
    (hamp : st.amp = false) (hcur : ∀ i, st.cur = some i → i.words.isEmpty = false) :
    step limit st l = ⟨(match st.cur with | some i => i :: st.done | none => st.done), some ⟨ws, []⟩, false⟩ := by
  obtain ⟨hc, hne, hsa⟩ := startsOwnInput_some h
  unfold step
  rw [hc]
  simp only [hsa, hne, hamp]
  cases hcu : st.cur with
  | none => simp
  | some i => simp [hcur i hcu]

theorem foldl_own (limit : Nat) (lines : List Str) (wss : List (List Str))
    (h : lines.map (startsOwnInput limit) = wss.map some) (st : St)
    (hamp : st.amp = false) (hcur : ∀ i, st.cur = some i → i.words.isEmpty = false) :
    finish (lines.foldl (step limit) st) = finish st ++ wss.map (fun ws => ⟨ws, []⟩) := by
  induction lines generalizing wss st with
  | nil =>
    cases wss with
    | nil => simp
    | cons _ _ => simp at h
  | cons l rest ih =>
    cases wss with
    | nil => simp at h
    | cons ws wss' =>
      simp only [List.map_cons, List.cons.injEq] at h
      have hs := step_own limit st l ws h.1 hamp hcur
      have hne := (startsOwnInput_some h.1).2.1
      rw [List.foldl_cons, ih wss' h.2 (step limit st l) (by rw [hs]) (by rw [hs]; intro i hi; cases hi; exact hne), hs]
      cases hcu : st.cur <;> simp [finish, hcu]

/-- **C10_cards_own_inputs** — every column limit, every number of cards: if each card, after
    `_drop_final_continuation_mark`, is a line that starts an input and does not end in the mark, the written lines are
    read as exactly one input per card, with the card's words -/
theorem C10_cards_own_inputs (limit : Nat) (cards : List Str) (wss : List (List Str))
    (h : (cards.map dropFinalContinuationMark).map (startsOwnInput limit) = wss.map some) :
    logicalInputs limit (cards.map dropFinalContinuationMark) = wss.map (fun ws => ⟨ws, []⟩) := by
  unfold logicalInputs
  rw [foldl_own limit _ wss h St.init rfl (by intro i hi; cases hi)]
  simp [finish, St.init]

/-- non-vacuity: two cards that end in the mark (with padding) satisfy the hypothesis -/
example : (["imp:n 1 0 &".toList, "imp:p 2 0 &  ".toList].map dropFinalContinuationMark).map (startsOwnInput 80)
    = [["imp:n".toList, "1".toList, "0".toList], ["imp:p".toList, "2".toList, "0".toList]].map some := by
  repeat rw [String.toList_ofList]
  decide +kernel

/-- the statement without the drop applied to every card -/
def C10_cards_merge_statement : Prop :=
  ∀ (limit : Nat) (cards : List Str) (wss : List (List Str)),
    (cards.map dropFinalContinuationMark).map (startsOwnInput limit) = wss.map some →
    logicalInputs limit cards = wss.map (fun ws => ⟨ws, []⟩)

/-- **C10_cards_merge_refuted** — the cards as the cells' values give them are not inputs of their own:
    `imp:n 1 0 &` / `imp:p 1 0` is one input by MCNP's rules -/
theorem C10_cards_merge_refuted : ¬ C10_cards_merge_statement := by
  intro h
  have := h 80 ["imp:n 1 0 &".toList, "imp:p 1 0".toList]
    [["imp:n".toList, "1".toList, "0".toList], ["imp:p".toList, "1".toList, "0".toList]]
  repeat rw [String.toList_ofList] at this
  revert this
  decide +kernel

end MontePyVerif.C10
