import MontePyVerif.Gen.Reader
import MontePyVerif.Lemmas.Queue
import MontePyVerif.Lemmas.Paths
import MontePyVerif.Lemmas.Flatten
import MontePyVerif.Lemmas.Finite
/-!
# C20 — files pulled in by read cards are merged exactly once, in the right block

First the queue mechanics of the model, for **every** file system, top-level file and nesting: `readAll` is
`read_input_syntax` consumed to the end; `servedCards` lists the read cards served, generation after generation.
Then termination on every finite file system, and the lift to the Spec (`Spec.flatten`).
-/
namespace MontePyVerif.C20
open MontePyVerif.Reader

/-- **C20_tables**: the facts of the source that the model builds in, as the translator finds them in the working
    tree now (`Gen/Reader.lean`, `tools/extractors/reader.py`): the members of `BlockType` and their values are the
    model's (`read_data` computes `BlockType(first_block + block_counter)`), `read` and `file` are lexer keywords
    (the read parser's `KEYWORD` rule), and `read_input` defaults to `replace=True` (the only mode modelled). -/
theorem C20_tables :
    Gen.blockTypes = [("CELL", BlockType.cell.value), ("SURFACE", BlockType.surface.value), ("DATA", BlockType.data.value)] ∧
    (Gen.blockTypes.map (fun p => (BlockType.ofValue p.2).value)) = Gen.blockTypes.map (·.2) ∧
    Gen.readIsKeyword = true ∧ Gen.fileIsKeyword = true ∧ Gen.readInputReplaceDefault = true := by decide +kernel

/-- the events of the top-level file after its front matter -/
def mainEvents (ll : Nat) (main : Str) (bytes : List Nat) : List Event :=
  readData ⟨ll, .cell, main, [main]⟩ (readFrontMatters (fileLines bytes)).2

/-- message block and title -/
def frontEvents (bytes : List Nat) : List Event := (readFrontMatters (fileLines bytes)).1

/-- read cards are nested at most `d` deep below the top-level file (the generation `d` levels down is empty) -/
def Nesting (ll : Nat) (fs : FS) (main : Str) (bytes : List Nat) (d : Nat) : Prop :=
  DiesOut ll fs (dirname main) d (enqueued (mainEvents ll main bytes))

/-- the read cards that get served, in the order they are served -/
def servedCards (ll : Nat) (fs : FS) (main : Str) (bytes : List Nat) (d : Nat) : List QEntry :=
  served ll fs (dirname main) d (enqueued (mainEvents ll main bytes))

/-- fuel that suffices: the number of read cards served -/
def enoughFuel (ll : Nat) (fs : FS) (main : Str) (bytes : List Nat) (d : Nat) : Nat :=
  (servedCards ll fs main bytes d).length

inductive FrontEvent : Event → Prop
  | message (raw : List Str) (ls : List Str) : FrontEvent (.message raw ls)
  | title (t : Str) : FrontEvent (.title t)

theorem frontEvent_frontEvents (bytes : List Nat) : ∀ ev ∈ frontEvents bytes, FrontEvent ev := by
  have hloop : ∀ rest raw ls, ∀ ev ∈ (messageLoop rest raw ls).1, FrontEvent ev := by
    intro rest
    induction rest with
    | nil => exact fun _ _ _ h => nomatch h
    | cons l rest ih =>
      intro raw ls
      unfold messageLoop
      split
      · exact ih _ _
      · cases rest with
        | nil => exact List.forall_mem_singleton.mpr (.message _ _)
        | cons t rest => exact List.forall_mem_cons.mpr ⟨.message _ _, List.forall_mem_singleton.mpr (.title _)⟩
  unfold frontEvents readFrontMatters
  cases fileLines bytes with
  | nil => exact fun _ h => nomatch h
  | cons l0 rest =>
    simp only
    split
    · exact hloop _ _ _
    · exact List.forall_mem_singleton.mpr (.title _)

/-- **C20_queue**: the first-in-first-out queue is generation-wise merging: the top-level file, then the files
    named in it in the order of the cards, then the files named in those, …; everything stops at the first raise. -/
theorem C20_queue (ll : Nat) (fs : FS) (main : Str) (bytes : List Nat) (d extra : Nat)
    (hm : fs main = some bytes) (hd : Nesting ll fs main bytes d) :
    readAll ll (extra + enoughFuel ll fs main bytes d) fs main =
      .openFile main :: (frontEvents bytes ++
        cut (mainEvents ll main bytes ++ serveAll ll fs (dirname main) (servedCards ll fs main bytes d))) := by
  unfold readAll
  rw [hm]
  simp only
  have hq := queueLoop_served ll fs (dirname main) d (enqueued (mainEvents ll main bytes)) extra hd
  unfold enoughFuel servedCards
  unfold mainEvents at hq ⊢
  unfold frontEvents
  cases hfm : readFrontMatters (fileLines bytes) with
  | mk front rest =>
    simp only [hfm] at hq ⊢
    congr 2
    rw [cut_append, hq]
    split
    · rename_i h; rw [cut_readData]
    · rfl

/-- **C20_term** (fuel sufficiency): any fuel beyond the number of cards served gives the same run. -/
theorem C20_term (ll : Nat) (fs : FS) (main : Str) (bytes : List Nat) (d extra : Nat)
    (hm : fs main = some bytes) (hd : Nesting ll fs main bytes d) :
    readAll ll (extra + enoughFuel ll fs main bytes d) fs main =
      readAll ll (enoughFuel ll fs main bytes d) fs main := by
  have h0 := C20_queue ll fs main bytes d 0 hm hd
  rw [Nat.zero_add] at h0
  rw [C20_queue ll fs main bytes d extra hm hd, h0]

/-- **C20_once**: in a run without error, the files read after the top-level file are exactly the read cards met
    during the whole run — each served once, in the order they were met, and nothing else is served. -/
theorem C20_once (ll : Nat) (fs : FS) (main : Str) (bytes : List Nat) (d extra : Nat)
    (hm : fs main = some bytes) (hd : Nesting ll fs main bytes d)
    (hok : hasRaise (readAll ll (extra + enoughFuel ll fs main bytes d) fs main) = false) :
    ∃ S : List QEntry,
      readAll ll (extra + enoughFuel ll fs main bytes d) fs main =
        .openFile main :: (frontEvents bytes ++ (mainEvents ll main bytes ++ serveAll ll fs (dirname main) S))
      ∧ S = enqueued (mainEvents ll main bytes ++ serveAll ll fs (dirname main) S) := by
  refine ⟨servedCards ll fs main bytes d, ?_, ?_⟩
  · have h := C20_queue ll fs main bytes d extra hm hd
    rw [h] at hok ⊢
    rw [hasRaise_cons, hasRaise_append, hasRaise_cut, Bool.or_eq_false_iff, Bool.or_eq_false_iff] at hok
    rw [cut_of_noRaise hok.2.2]
  · unfold servedCards
    rw [enqueued_append]
    exact served_eq_enqueued _ _ _ _ _ hd

/-- **C20_paths**: the files opened are a prefix of: the top-level file, then for every card served
    `join(dirname(top), name)`: the working directory does not enter. -/
theorem C20_paths (ll : Nat) (fs : FS) (main : Str) (bytes : List Nat) (d extra : Nat)
    (hm : fs main = some bytes) (hd : Nesting ll fs main bytes d) :
    opened (readAll ll (extra + enoughFuel ll fs main bytes d) fs main) <+:
      main :: (servedCards ll fs main bytes d).map (fun e => joinPath (dirname main) e.name) := by
  rw [C20_queue ll fs main bytes d extra hm hd]
  have hfront : opened (frontEvents bytes) = [] :=
    List.eq_nil_iff_forall_not_mem.mpr fun p hp => nomatch frontEvent_frontEvents bytes _ (mem_opened.mp hp)
  simp only [opened, opened_append, hfront, List.nil_append]
  refine List.prefix_cons_inj main |>.mpr ?_
  refine (opened_cut_prefix _).trans ?_
  rw [opened_append, opened_serveAll]
  unfold mainEvents
  rw [opened_readData]
  exact List.prefix_refl _

/-- **C20_missing**: a read card that is served and names a file that does not exist makes the run end in an
    error — never silence. -/
theorem C20_missing (ll : Nat) (fs : FS) (main : Str) (bytes : List Nat) (d extra : Nat)
    (hm : fs main = some bytes) (hd : Nesting ll fs main bytes d)
    (e : QEntry) (he : e ∈ servedCards ll fs main bytes d) (habs : fs (joinPath (dirname main) e.name) = none) :
    hasRaise (readAll ll (extra + enoughFuel ll fs main bytes d) fs main) = true := by
  rw [C20_queue ll fs main bytes d extra hm hd, hasRaise_cons, hasRaise_append, hasRaise_cut, hasRaise_append]
  have : hasRaise (serveAll ll fs (dirname main) (servedCards ll fs main bytes d)) = true := by
    unfold serveAll hasRaise
    rw [List.any_flatMap]
    apply List.any_eq_true.mpr
    exact ⟨e, he, by rw [serve_missing _ _ _ _ habs]; rfl⟩
  simp [this]

/-- **C20_missing_error**: when that is the first thing that goes wrong, the error is `FileNotFoundError`. -/
theorem C20_missing_error (ll : Nat) (fs : FS) (main : Str) (bytes : List Nat) (d extra : Nat)
    (hm : fs main = some bytes) (hd : Nesting ll fs main bytes d)
    (pre post : List QEntry) (e : QEntry) (hs : servedCards ll fs main bytes d = pre ++ e :: post)
    (habs : fs (joinPath (dirname main) e.name) = none)
    (hfront : firstRaise (frontEvents bytes) = none)
    (hpre : hasRaise (mainEvents ll main bytes ++ serveAll ll fs (dirname main) pre) = false) :
    firstRaise (readAll ll (extra + enoughFuel ll fs main bytes d) fs main) = some .fileNotFound := by
  rw [C20_queue ll fs main bytes d extra hm hd, hs]
  rw [serveAll_append, serveAll_cons, ← List.append_assoc]
  have hp := (firstRaise_none_iff _).mpr hpre
  rw [firstRaise_append] at hp
  simp only [firstRaise, firstRaise_append, hfront, firstRaise_cut]
  rw [hp, serve_missing _ _ _ _ habs]
  rfl

/-! ## termination on every finite file system -/

open MontePyVerif.Finite in
/-- **C20_term_always** (with fix 8561374): on a file system with finitely many files (`support` lists them) read
    cards are never nested deeper than the number of files — a card naming a file that is being read is refused —,
    so the queue always empties: from some fuel on the run is always the same and never ends for lack of fuel.
    A cycle is a deliberate error (`MalformedInputError`), never a hang. -/
theorem C20_term_always (ll : Nat) (fs : FS) (main : Str) (bytes : List Nat) (support : List Str)
    (hsup : ∀ p, fs p ≠ none → p ∈ support) (hm : fs main = some bytes) :
    Nesting ll fs main bytes support.length ∧
    ∃ fuel0, ∀ extra, readAll ll (extra + fuel0) fs main = readAll ll fuel0 fs main ∧
      Event.raise .outOfFuel ∉ readAll ll fuel0 fs main := by
  have hd : Nesting ll fs main bytes support.length := by
    unfold Nesting
    apply diesOut_of_finite ll fs support hsup main support.length _ 1 (by omega)
    intro e he
    obtain ⟨hchain, hchk⟩ := enqueued_goLines ⟨ll, .cell, main, [main]⟩ _ _ he
    replace hchain : e.chain = [main] := hchain
    rw [List.contains_eq_mem, decide_eq_false_iff_not] at hchk
    refine ⟨⟨?_, ?_, ?_, ?_⟩, ?_⟩ <;> rw [hchain]
    · rfl
    · simp
    · intro p hp; rw [List.mem_singleton.mp hp]; exact hsup _ (by rw [hm]; nofun)
    · exact hchk
    · exact Nat.le_refl 1
  refine ⟨hd, enoughFuel ll fs main bytes support.length, fun extra => ⟨C20_term ll fs main bytes _ extra hm hd, ?_⟩⟩
  have h0 := C20_queue ll fs main bytes support.length 0 hm hd
  rw [Nat.zero_add] at h0
  rw [h0]
  intro hmem
  rcases List.mem_cons.mp hmem with h | h
  · nomatch h
  · rcases List.mem_append.mp h with h1 | h1
    · nomatch frontEvent_frontEvents bytes _ h1
    · rcases List.mem_append.mp (mem_cut _ _ h1) with h3 | h3
      · nomatch fileEvent_goLines _ _ _ _ h3
      · exact noFuel_serveAll _ _ _ _ h3

/-! ## the merged problem is the Spec's flattening -/

open MontePyVerif.Refine MontePyVerif.Flatten in
theorem proj_frontEvents (bytes : List Nat) : proj (frontEvents bytes) = [] :=
  List.flatMap_eq_nil_iff.mpr fun ev hev => by
    cases frontEvent_frontEvents bytes ev hev <;> rfl

open MontePyVerif.Refine MontePyVerif.Flatten in
/-- **C20_flatten**: for every file system, top-level file and nesting depth — provided the top-level file's body and
    every file that gets served consist of lines on which the code's rules and MCNP's coincide (`FileOK`, `EntryOK`:
    the named, decidable exclusions of `Refine.GoodLine`) — what `read_input_syntax` yields,
    seen through `proj` (block and words of every input, read cards, errors), is exactly the Spec's flattened
    problem: the top file's inputs, then generation by generation the inputs of the files named by the read cards,
    each in the block of its card, in the order the cards are met, cut at the first error (malformed read card,
    missing file, cycle).  No acyclicity or presence hypothesis is needed: a cycle and a missing file are errors
    on both sides. -/
theorem C20_flatten (ll : Nat) (fs : FS) (files : Spec.Files) (main : Str) (bytes : List Nat) (d extra : Nat)
    (hm : fs main = some bytes) (hd : Nesting ll fs main bytes d)
    (body : List Spec.Line)
    (hmain : FileOK ll (readFrontMatters (fileLines bytes)).2 body)
    (hserved : ∀ e ∈ servedCards ll fs main bytes d, EntryOK ll fs files (dirname main) e) :
    proj (readAll ll (extra + enoughFuel ll fs main bytes d) fs main) =
      Spec.cutS (Spec.fileStream ll (joinPath (dirname main)) [main] 0 body ++
        Spec.gensS ll files (joinPath (dirname main)) d
          (Spec.cards (Spec.fileStream ll (joinPath (dirname main)) [main] 0 body))) := by
  rw [C20_queue ll fs main bytes d extra hm hd]
  simp only [proj_cons, proj_append, projEv, proj_frontEvents, List.nil_append]
  rw [proj_cut, proj_append]
  have hM : proj (mainEvents ll main bytes) =
      Spec.cutS (Spec.fileStream ll (joinPath (dirname main)) [main] 0 body) :=
    fileStream_ok ⟨ll, .cell, main, [main]⟩ rfl _ body hmain
  unfold servedCards at hserved ⊢
  refine refines_then _ _ _ (Spec.gensS ll files (joinPath (dirname main)) d) (by rw [hM, cutS_idem]) fun _ =>
    served_refines ll fs files main d _ ?_ hserved
  · intro e he
    rw [(enqueued_goLines ⟨ll, .cell, main, [main]⟩ _ _ he).1]; rfl

/-- **C20_flatten_spec**: that is `Spec.flatten`, whenever the Spec finds the same body behind the front matter
    (message block and title) of the top-level file. -/
theorem C20_flatten_spec (ll : Nat) (fs : FS) (files : Spec.Files) (main : Str) (bytes : List Nat) (d extra : Nat)
    (hm : fs main = some bytes) (hd : Nesting ll fs main bytes d)
    (lines body : List Spec.Line) (hfiles : files main = some lines)
    (hfront : (Spec.logicalInputs ll lines).inputs = Spec.inputsFrom ll 0 body)
    (hmain : MontePyVerif.Flatten.FileOK ll (readFrontMatters (fileLines bytes)).2 body)
    (hserved : ∀ e ∈ servedCards ll fs main bytes d, MontePyVerif.Flatten.EntryOK ll fs files (dirname main) e) :
    MontePyVerif.Refine.proj (readAll ll (extra + enoughFuel ll fs main bytes d) fs main) =
      (Spec.flatten ll files (joinPath (dirname main)) d main).outs := by
  rw [C20_flatten ll fs files main bytes d extra hm hd body hmain hserved]
  unfold Spec.flatten
  rw [hfiles]
  simp only [hfront]
  rfl

/-! ## the working directory does not enter -/

/-- `open(path)` as the operating system resolves it from the working directory `cwd`, on a disk whose files
    are known by absolute path -/
def fsFrom (disk : FS) (cwd : Str) : FS := fun p => if isAbs p then disk p else disk (joinPath cwd p)

/-- **C20_paths_cwd**: for a top-level file given by absolute path the whole run — which files are opened and what
    is read — is the same from every working directory (sub-files are looked up next to the top-level file). -/
theorem C20_paths_cwd (ll fuel : Nat) (disk : FS) (cwd1 cwd2 main : Str) (h : isAbs main = true) :
    readAll ll fuel (fsFrom disk cwd1) main = readAll ll fuel (fsFrom disk cwd2) main := by
  unfold readAll
  have hm : fsFrom disk cwd1 main = fsFrom disk cwd2 main := by simp [fsFrom, h]
  rw [hm]
  cases fsFrom disk cwd2 main with
  | none => rfl
  | some bytes =>
    simp only
    rw [queueLoop_congr ll (fsFrom disk cwd1) (fsFrom disk cwd2) (dirname main) (isAbs_dirname main h)
      (fun p hp => by simp [fsFrom, hp])]

/-! ### non-vacuity: a concrete tree of files (top-level `d/m`: title, a read card, a cell; `d/a` reads `d/b`) -/

/-- `"t\nread file=a\n2 0\n"` -/
def exMain : List Nat := [116, 10, 114, 101, 97, 100, 32, 102, 105, 108, 101, 61, 97, 10, 50, 32, 48, 10]
/-- `"1 0\nREAD FILE b\n"` -/
def exA : List Nat := [49, 32, 48, 10, 82, 69, 65, 68, 32, 70, 73, 76, 69, 32, 98, 10]
/-- `"3 0\n"` -/
def exB : List Nat := [51, 32, 48, 10]
def exFs : FS := fun p =>
  if p = ['d', '/', 'm'] then some exMain else if p = ['d', '/', 'a'] then some exA
  else if p = ['d', '/', 'b'] then some exB else none
/-- the same tree with `d/b` missing -/
def exFsMissing : FS := fun p => if p = ['d', '/', 'b'] then none else exFs p

example : Nesting 128 exFs ['d', '/', 'm'] exMain 2 := by unfold Nesting; decide +kernel
example : ¬ Nesting 128 exFs ['d', '/', 'm'] exMain 1 := by unfold Nesting; decide +kernel
example : (servedCards 128 exFs ['d', '/', 'm'] exMain 3).map (·.name) = [['a'], ['b']] := by decide +kernel

/-- the whole run on `exFs`: the events of `d/m`, then those of `d/a`, then those of `d/b` -/
theorem exRun : readAll 128 2 exFs ['d', '/', 'm'] =
    [.openFile ['d', '/', 'm'], .title ['t', '\n'],
     .enqueue ⟨.cell, ['a'], ['d', '/', 'm'], [['d', '/', 'm']]⟩, .none, .input .cell [['2', ' ', '0']],
     .openFile ['d', '/', 'a'], .input .cell [['1', ' ', '0']],
     .enqueue ⟨.cell, ['b'], ['d', '/', 'a'], [['d', '/', 'm'], ['d', '/', 'a']]⟩, .none,
     .openFile ['d', '/', 'b'], .input .cell [['3', ' ', '0']]] := by decide +kernel

example : hasRaise (readAll 128 2 exFs ['d', '/', 'm']) = false := by rw [exRun]; rfl
/-- the merged order: own inputs of the top file, then `a`'s, then `b`'s — all in the cell block -/
example : (readAll 128 2 exFs ['d', '/', 'm']).filterMap (fun | .input bt ls => some (bt, ls) | _ => none) =
    [(.cell, [['2', ' ', '0']]), (.cell, [['1', ' ', '0']]), (.cell, [['3', ' ', '0']])] := by rw [exRun]; rfl
example : opened (readAll 128 2 exFs ['d', '/', 'm']) = [['d', '/', 'm'], ['d', '/', 'a'], ['d', '/', 'b']] := by rw [exRun]; rfl
example : Nesting 128 exFsMissing ['d', '/', 'm'] exMain 3 := by unfold Nesting; decide +kernel
example : firstRaise (readAll 128 2 exFsMissing ['d', '/', 'm']) = some .fileNotFound := by decide +kernel
/-- `exFs` has three files -/
example : ∀ p, exFs p ≠ none → p ∈ [['d', '/', 'm'], ['d', '/', 'a'], ['d', '/', 'b']] := by
  intro p h
  unfold exFs at h
  by_cases h1 : p = ['d', '/', 'm']
  · simp [h1]
  · by_cases h2 : p = ['d', '/', 'a']
    · simp [h2]
    · by_cases h3 : p = ['d', '/', 'b']
      · simp [h3]
      · simp [h1, h2, h3] at h
/-- `"1 0\nread file=m\n"`: `d/a` names the top-level file -/
def exACycle : List Nat := [49, 32, 48, 10, 114, 101, 97, 100, 32, 102, 105, 108, 101, 61, 109, 10]
def exFsCycle : FS := fun p => if p = ['d', '/', 'a'] then some exACycle else exFs p
/-- a tree in which `d/a` reads the top-level file back ends in the deliberate error -/
example : firstRaise (readAll 128 5 exFsCycle ['d', '/', 'm']) = some .malformed := by decide +kernel
/-- too little fuel is visible as such (and `C20_term_always` says when it cannot happen) -/
example : firstRaise (readAll 128 1 exFs ['d', '/', 'm']) = some .outOfFuel := by decide +kernel

/-! ### non-vacuity of the hypotheses of `C20_flatten`: the tree `exFs` above satisfies them -/

/-- the Spec's view of the same tree -/
def exFiles : Spec.Files := fun p =>
  if p = ['d', '/', 'm'] then some [['t'], "read file=a".toList, "2 0".toList]
  else if p = ['d', '/', 'a'] then some ["1 0".toList, "READ FILE b".toList]
  else if p = ['d', '/', 'b'] then some ["3 0".toList] else none

open MontePyVerif.Refine MontePyVerif.Flatten in
example : FileOK 128 (readFrontMatters (fileLines exMain)).2 ["read file=a".toList, "2 0".toList] := by
  -- a string literal is `String.ofList` of its characters: the rewrite spares the kernel decoding it (also below)
  repeat rw [String.toList_ofList]
  exact fileOK_plain 128 _ _ (by decide +kernel) (by decide +kernel)

open MontePyVerif.Refine MontePyVerif.Flatten in
example : ∀ e ∈ servedCards 128 exFs ['d', '/', 'm'] exMain 2, EntryOK 128 exFs exFiles (dirname ['d', '/', 'm']) e := by
  have hs : servedCards 128 exFs ['d', '/', 'm'] exMain 2 =
      [⟨.cell, ['a'], ['d', '/', 'm'], [['d', '/', 'm']]⟩,
       ⟨.cell, ['b'], ['d', '/', 'a'], [['d', '/', 'm'], ['d', '/', 'a']]⟩] := by decide +kernel
  rw [hs]
  unfold exFiles
  repeat rw [String.toList_ofList]
  intro e he
  simp only [List.mem_cons, List.not_mem_nil, or_false] at he
  rcases he with rfl | rfl
  · exact ⟨_, rfl, MontePyVerif.Flatten.exFileOK _ exA (by decide +kernel) (by decide +kernel)⟩
  · exact ⟨_, rfl, MontePyVerif.Flatten.exFileOK _ exB (by decide +kernel) (by decide +kernel)⟩

/-- and the flattening the theorem speaks of is the expected one: 2, then 1 (from `a`), then 3 (from `b`) -/
example : Spec.inputsOf (Spec.flatten 128 exFiles (joinPath (dirname ['d', '/', 'm'])) 2 ['d', '/', 'm']).outs =
    [⟨0, [['2'], ['0']]⟩, ⟨0, [['1'], ['0']]⟩, ⟨0, [['3'], ['0']]⟩] := by
  unfold exFiles
  repeat rw [String.toList_ofList]
  decide +kernel

end MontePyVerif.C20
