import MontePyVerif.Lemmas.Collection
/-!
# C06 — numbered collections never hold two objects with one number; lookups are current

Property (fixed text, properties.jsonl): in every collection of a problem, after any sequence of
collection operations and number assignments, no two members share a number; lookup by number
returns the member whose current number is that number and fails for numbers no member has;
numbers offered by `request_number`/`next_number` are free; an operation that raises
`NumberConflictError` leaves the collection unchanged.

Model: `Model/Collection.lean` (one definition per method of `NumberedObjectCollection` and the
number setters).  The invariant `Inv` and what each method guarantees (`Safe`) are in `Lemmas/Collection.lean`.
-/
namespace MontePyVerif.Collection

/-- The only operation whose safety depends on the caller: a number assignment on a *member* is
    checked against the collection only through the object's link to the owning problem. -/
def Admissible (s : St) : Op → Prop
  | .setNumber o _ => o ∈ s.objs → s.link o = true
  | _ => True

theorem owned_admissible {s : St} (h : Inv s) (how : s.owned = true) (op : Op) : Admissible s op := by
  cases op <;> simp only [Admissible]
  exact fun hm => h.linked how _ hm

theorem initLoop_some (num : ObjId → Int) : ∀ (l : List ObjId) (c c' : Cache), initLoop num l c = some c' →
    c' = setAll num c l ∧ (l.map num).Nodup ∧ ∀ o ∈ l, dget c (num o) = none
  | [], _, _, h => ⟨(Option.some.inj h).symm, List.nodup_nil, nofun⟩
  | o :: t, c, c', h => by
    simp only [initLoop] at h
    split at h
    · cases h
    · rename_i hnone
      obtain ⟨e, nd, fr⟩ := initLoop_some num t _ _ h
      refine ⟨e, List.nodup_cons.mpr ⟨fun hm => ?_, nd⟩,
        List.forall_mem_cons.mpr ⟨hnone, fun x hx => (dget_dset_none (fr x hx)).2⟩⟩
      obtain ⟨x, hx, hxe⟩ := List.mem_map.mp hm
      exact (dget_dset_none (fr x hx)).1 hxe.symm

/-- **C06_init** — a collection built from a list (`__init__`) satisfies the invariant whenever
    construction succeeds (free-standing), and an owned collection starts empty. -/
theorem C06_init (owned : Bool) (num : ObjId → Int) (os : List ObjId) (s : St)
    (h : init owned num os = some s) (hown : owned = true → os = []) : Inv s := by
  unfold init at h
  split at h
  · cases h
  · rename_i c hc
    cases h
    obtain ⟨e, nd, _⟩ := initLoop_some num os [] c hc
    exact ⟨nd, e ▸ setAll_cacheOK _ _ _ _ nofun fun _ h => h, fun how x hx => nomatch hown how ▸ hx⟩

theorem step_safe (s : St) (op : Op) : Safe (Admissible s op) s (step s op) := by
  cases op with
  | append o => exact append_safe s o
  | setitem o => exact append_safe s o
  | appendRenumber o k => exact appendRenumber_safe s o k
  | extend os => exact extend_safe s os
  | iadd os => exact iadd_safe s os
  | remove o => exact remove_safe s o
  | pop p => exact pop_safe s p
  | delitem n => exact delitem_safe s n
  | clear => exact clear_safe s
  | setNumber o n => exact setNumber_safe s o n
  | get n => exact (get_quiet s n).safe _ _
  | getitem n => exact (getitem_quiet s n).safe _ _
  | contains o => exact (Quiet.refl s).safe _ _
  | numbers => exact (refresh_quiet s).safe _ _
  | keys => exact (Quiet.refl s).safe _ _
  | items => exact (Quiet.refl s).safe _ _
  | len => exact (Quiet.refl s).safe _ _
  | checkNumber n => exact (checkNumber_quiet s n).safe _ _
  | requestNumber a k => exact (requestNumber_quiet s a k).safe _ _
  | nextNumber k => exact (nextNumber_quiet s k).safe _ _
  | slice a b => exact (sliceLoop_quiet _ s a []).safe _ _

/-- **C06_step** — every admissible operation preserves the invariant, *also when it raises*
    (the state component is the state at the raise point). -/
theorem C06_step (s : St) (op : Op) (h : Inv s) (hadm : Admissible s op) : Inv (step s op).1 :=
  (step_safe s op).inv h hadm

/-- Induction over histories: what every step hands on to the rest of the history holds at its end.  `P` sees the
    operations still to come, so that it can carry a hypothesis on the history such as `AdmissibleRun`. -/
theorem run_induct {P : St → List Op → Prop} (hstep : ∀ s op t, P s (op :: t) → P (step s op).1 t) :
    ∀ (ops : List Op) (s : St), P s ops → P (run s ops) []
  | [], _, h => h
  | op :: t, s, h => run_induct hstep t _ (hstep s op t h)

/-- **C06_reachable** — in a collection owned by a problem the invariant holds after *every* finite
    history of operations (any operations, any arguments, including the failing ones). -/
theorem C06_reachable (s : St) (ops : List Op) (h : Inv s) (how : s.owned = true) : Inv (run s ops) :=
  (run_induct (P := fun s _ => Inv s ∧ s.owned = true)
    (fun s op _ ⟨h, how⟩ => ⟨C06_step s op h (owned_admissible h how op), (step_safe s op).owned.trans how⟩)
    ops s ⟨h, how⟩).1

/-- histories all of whose number assignments are admissible at the state they are applied in -/
def AdmissibleRun : St → List Op → Prop
  | _, [] => True
  | s, op :: t => Admissible s op ∧ AdmissibleRun (step s op).1 t

/-- **C06_free_standing_partial** — for any collection (owned or free-standing) the invariant holds
    along every history that never assigns a number to an unlinked member.  The excluded class is
    exactly `Admissible`: `setNumber` on a member whose object has no link to a problem owning the
    collection. -/
theorem C06_free_standing_partial (s : St) (ops : List Op) (h : Inv s) (hadm : AdmissibleRun s ops) :
    Inv (run s ops) :=
  (run_induct (P := fun s ops => Inv s ∧ AdmissibleRun s ops)
    (fun s op _ ⟨h, hadm⟩ => ⟨C06_step s op h hadm.1, hadm.2⟩) ops s ⟨h, hadm⟩).1

/-- **C06_free_standing_refuted** — without that hypothesis the full statement is false of the code:
    two members of a free-standing collection, the second renumbered to the first one's number. -/
theorem C06_free_standing_refuted :
    ∃ (s : St) (op : Op), Inv s ∧ ¬ Inv (step s op).1 := by
  refine ⟨⟨false, [0, 1], [], fun o => if o = 0 then 1 else 2, fun _ => false, id⟩, .setNumber 1 1, ?_, ?_⟩
  · exact ⟨by decide, nofun, nofun⟩
  · intro h
    have := h.nodup
    revert this
    decide

/-- **C06_get** — look-up by number returns exactly the member whose current number it is. -/
theorem C06_get (s : St) (n : Int) (o : ObjId) (h : Inv s) :
    (get s n).2 = some o ↔ (o ∈ s.objs ∧ s.num o = n) :=
  ⟨get_some h.cache, fun ⟨ho, hn⟩ => get_of_mem h.nodup h.cache ho hn⟩

/-- look-up fails exactly for the numbers no member has -/
theorem C06_get_none (s : St) (n : Int) (h : Inv s) : (get s n).2 = none ↔ n ∉ s.objs.map s.num := by
  rw [Option.eq_none_iff_forall_ne_some, List.mem_map]
  exact ⟨fun hn ⟨o, ho⟩ => hn o ((C06_get s n o h).mpr ho), fun hn o ho => hn ⟨o, (C06_get s n o h).mp ho⟩⟩

/-- **C06_request_free** — a number offered by `request_number` is not in use (no invariant needed). -/
theorem C06_request_free (s : St) (a k n : Int) (h : (requestNumber s a k).2 = .int n) :
    n ∉ s.objs.map s.num ∧ (requestNumber s a k).1.objs = s.objs ∧ (requestNumber s a k).1.num = s.num :=
  have ⟨_, _, _, hfree⟩ := requestNumber_int h
  ⟨hfree, (requestNumber_quiet s a k).core.objs, (requestNumber_quiet s a k).core.num⟩

/-- **C06_next_free** — a number offered by `next_number` is not in use. -/
theorem C06_next_free (s : St) (k n : Int) (h : (nextNumber s k).2 = .int n) :
    n ∉ s.objs.map s.num ∧ (nextNumber s k).1.objs = s.objs ∧ (nextNumber s k).1.num = s.num :=
  ⟨nextNumber_free h, (nextNumber_quiet s k).core.objs, (nextNumber_quiet s k).core.num⟩

/-- **C06_request_terminates** — `request_number` always returns (the fuel of the model's loop,
    `len + 1`, is sufficient): for `step ≠ 0` it returns a number, for `step = 0` it raises
    `ValueError` (the repaired code; before the repair the call did not return on a taken number). -/
theorem C06_request_terminates (s : St) (a k : Int) :
    (requestNumber s a k).2 ≠ .hang ∧
    (k ≠ 0 → ∃ n, (requestNumber s a k).2 = .int n) ∧
    (k = 0 → (requestNumber s a k).2 = .err .valueError) := by
  have h0 : k = 0 → (requestNumber s a k).2 = .err .valueError := fun hk => by
    rw [requestNumber_snd, if_pos hk]
  have h1 : k ≠ 0 → ∃ n, (requestNumber s a k).2 = .int n := fun hk => by
    rw [requestNumber_snd, if_neg hk]
    cases hw : walk k (s.objs.map s.num) (s.objs.length + 1) a with
    | some n => exact ⟨n, rfl⟩
    | none => exact absurd hw (walk_some hk a (by rw [List.length_map]; exact Nat.lt_succ_self _))
  refine ⟨?_, h1, h0⟩
  by_cases hk : k = 0
  · rw [h0 hk]; nofun
  · obtain ⟨n, hn⟩ := h1 hk
    rw [hn]; nofun

/-- **C06_request_first** — `request_number(start, step)` offers the FIRST number of the walk
    `start, start+step, start+2·step, …` that no member has: every candidate it passed over is the current
    number of a member, and the offered one is not (no invariant needed; whatever the cache holds). -/
theorem C06_request_first (s : St) (a k n : Int) (h : (requestNumber s a k).2 = .int n) :
    ∃ j : Nat, n = a + j * k ∧ (∀ i : Nat, i < j → a + i * k ∈ s.objs.map s.num) ∧ n ∉ s.objs.map s.num :=
  requestNumber_int h

/-- **C06_offer_ignores_cache** — what `request_number`, `next_number` and `check_number` answer is a function
    of the members and their current numbers: two states that differ at most in the number cache (`Core`:
    same members, numbers, links) get the same answers. A number assignment changes `num` and leaves the cache
    behind; this theorem is why the next request cannot notice (seeded C06e answered from the cache). -/
theorem C06_offer_ignores_cache (s s' : St) (hc : Core s s') (a k n : Int) :
    (requestNumber s' a k).2 = (requestNumber s a k).2 ∧ (nextNumber s' k).2 = (nextNumber s k).2 ∧
    (checkNumber s' n).2 = (checkNumber s n).2 := by
  simp only [requestNumber_snd, nextNumber_snd, checkNumber_snd, hc.objs, hc.num, and_self]

/-- **C06_conflict_noop** — an operation that raises `NumberConflictError` leaves the members, their
    order and every member's number as they were; with `C06_get` (look-ups are a function of members
    and numbers under `Inv`, which `C06_step` preserves) every look-up answers as before. -/
theorem C06_conflict_noop (s : St) (op : Op) (h : (step s op).2 = .err .numberConflict) :
    (step s op).1.objs = s.objs ∧ (step s op).1.num = s.num :=
  have c := (step_safe s op).err _ h
  ⟨c.objs, c.num⟩

/-! ### Non-vacuity: concrete non-trivial states and histories meeting the hypotheses -/

/-- an owned collection with two members and a stale cache entry satisfies `Inv` … -/
def exState : St :=
  { owned := true, objs := [4, 7], cache := [(9, 7), (1, 4)],
    num := fun o => if o = 4 then 1 else if o = 7 then 2 else 1, link := fun o => o = 4 ∨ o = 7 }

example : Inv exState :=
  ⟨by decide, (by decide : ∀ p ∈ exState.cache, p.2 ∈ exState.objs), by decide⟩

/-- … a conflict is really reachable from it (hypothesis of `C06_conflict_noop`) … -/
example : (step exState (.append 9)).2 = .err .numberConflict := rfl
example : (step exState (.setNumber 7 1)).2 = .err .numberConflict := rfl
example : (step exState (.extend [11, 12])).2 = .err .numberConflict := rfl
/-- … `request_number` really offers numbers and really skips taken ones … -/
example : (requestNumber exState 1 1).2 = .int 3 := rfl
example : (nextNumber exState 5).2 = .int 7 := rfl
/-- … the hypothesis of `C06_offer_ignores_cache` is met by states whose caches really differ (an empty cache, and the
    cache a number assignment leaves behind: member 7 renumbered 2 → 5 is still cached under 2) … -/
example : Core exState { exState with cache := [] } := ⟨rfl, rfl, rfl, rfl⟩
example : (step (step exState (.get 2)).1 (.setNumber 7 5)).1.cache = [(9, 7), (1, 4), (2, 7)] := rfl
example : (requestNumber (step (step exState (.get 2)).1 (.setNumber 7 5)).1 5 1).2 = .int 6 := rfl
/-- … and the free-standing partial theorem has admissible non-trivial histories. -/
example : AdmissibleRun { exState with owned := false, link := fun _ => false }
    [.append 9, .pop 0, .setNumber 4 2, .extend [4]] := by
  refine ⟨trivial, trivial, ?_, trivial, trivial⟩
  intro hm
  exact absurd hm (by decide)

end MontePyVerif.Collection
