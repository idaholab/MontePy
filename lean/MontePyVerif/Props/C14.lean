import MontePyVerif.Model.Setter
import MontePyVerif.Gen.GeometryProbe
import MontePyVerif.Props.C06
/-!
# C14 — a rejected edit leaves the problem unchanged

Property (fixed text, properties.jsonl): an API call that is rejected (wrong type, out-of-range value,
number collision, particle not in the problem's mode, structurally illegal argument) raises an
exception and leaves the problem observably unchanged: attribute reads and a subsequent write give
the same results as before the call, and later valid edits behave as if the rejected call had not
happened.

Model: `Model/Setter.lean` (generated setter templates as an interpreter of the statement lists
extracted into `Gen/SetterDecls.lean`; every hand-written setter / multi-step mutator in its actual
statement order, returning the state at the raise point) and, for the collection mutators,
`Model/Collection.lean` (C06).  The theorems give equality of the whole model state, hence of every
attribute read and of anything computed from it.
-/
namespace MontePyVerif.Setter

open MontePyVerif.Gen

/-! ## a raise returns the state the call was given -/

/-- what a call from the state `c` yields when a rejected call changes nothing -/
inductive Res.Keeps {σ : Type} (c : σ) : Res σ → Prop
  | ok (c' : σ) : Keeps c (.ok c')
  | err (e : Err) : Keeps c (.err e c)

theorem Res.Keeps.eq {σ : Type} {c c' : σ} {r : Res σ} {e : Err} (h : r.Keeps c) (hr : r = .err e c') :
    c' = c := by
  subst hr
  cases h
  rfl

theorem Res.keeps_of {σ : Type} {c : σ} {r : Res σ} (h : ∀ e c', r = .err e c' → c' = c) : r.Keeps c := by
  cases r with
  | ok c' => exact .ok c'
  | err e c' => cases h e c' rfl; exact .err e

theorem Res.Keeps.ite {σ : Type} {c : σ} {p : Prop} [Decidable p] {a b : Res σ} (ha : a.Keeps c) (hb : b.Keeps c) :
    (if p then a else b).Keeps c := by
  split <;> assumption

/-! ## generated setters -/

theorem runSteps_no_raise {σ α : Type} (c : GenCtx σ α) :
    ∀ (steps : List SetterStep), steps.all (fun t => !stepRaises t) = true →
      ∀ (s : σ) (v : α) (e : Err) (s' : σ), runSteps c steps s v ≠ .err e s'
  | [], _, _, _, _, _ => nofun
  | st :: rest, h, s, v, e, s' => by
    obtain ⟨h1, h2⟩ := Bool.and_eq_true_iff.mp (List.all_cons ▸ h)
    cases st with
    | resolveTypes | fetch | latchTypes | assign => exact runSteps_no_raise c rest h2 _ v e s'
    | isinstance | convert | validate | other => cases h1

/-- **C14_generated** — for every setter template whose statement list has every raising statement
    before the first assigning one (the validator may do both, nothing may raise after it), for every
    property (`GenCtx`: any `types`, `base_type`, hidden attribute) whose validator is all-or-nothing
    by itself (`ValidatorAtomic`), every state and every argument: a rejected call returns the state
    unchanged. -/
theorem C14_generated {σ α : Type} (c : GenCtx σ α) (hv : ValidatorAtomic c) :
    ∀ (steps : List SetterStep), safeOrder steps = true →
      ∀ (s : σ) (v : α) (e : Err) (s' : σ), runSteps c steps s v = .err e s' → s' = s := by
  intro steps
  induction steps with
  | nil => intro _ s v e s' h; cases h
  | cons st rest ih =>
    intro hs s v e s' h
    -- `safeOrder (st :: rest)` evaluates, for each kind of statement, to `safeOrder rest` (the statement does
    -- not assign) or to "nothing in `rest` raises" (it does)
    cases st with
    | resolveTypes => exact ih hs s v e s' h
    | fetch => exact ih hs s v e s' h
    | latchTypes => exact absurd h (runSteps_no_raise c rest hs _ v e s')
    | assign => exact absurd h (runSteps_no_raise c rest hs _ v e s')
    | isinstance =>
      simp only [runSteps] at h
      split at h
      · exact ih hs s v e s' h
      · cases h; rfl
    | convert =>
      simp only [runSteps] at h
      split at h
      · exact ih hs s _ e s' h
      · cases h; rfl
    | validate =>
      -- a validator that returns may have changed the state: nothing after it can raise; one that raises: `hv`
      simp only [runSteps] at h
      split at h
      · exact absurd h (runSteps_no_raise c rest hs _ v e s')
      · cases h
        exact hv s v _ _ ‹_›
    | other => cases hs

/-- the statement order found in `montepy/utilities.py` on this run satisfies the hypothesis -/
theorem gen_orders_safe : safeOrder valNodeSteps = true ∧ safeOrder pointerSteps = true := by decide

/-- **C14_generated_code** — `C14_generated` instantiated with the two statement lists extracted from
    the working tree: a source edit that assigns (or latches `types`) before a check changes
    `Gen/SetterDecls.lean` and this proof no longer builds. -/
theorem C14_generated_code {σ α : Type} (c : GenCtx σ α) (hv : ValidatorAtomic c)
    (s : σ) (v : α) (e : Err) (s' : σ) :
    (runSteps c valNodeSteps s v = .err e s' → s' = s) ∧
    (runSteps c pointerSteps s v = .err e s' → s' = s) :=
  ⟨C14_generated c hv _ gen_orders_safe.1 s v e s', C14_generated c hv _ gen_orders_safe.2 s v e s'⟩

theorem declCtx_atomic (d : SetterDecl) : ValidatorAtomic (declCtx d) := fun s a _ _ =>
  Res.Keeps.eq <| by
    simp only [declCtx]
    split <;> constructor

/-- **C14_generated_decl** — every extracted declaration, every object, every argument. -/
theorem C14_generated_decl (d : SetterDecl) (s : GObj) (a : Atom) (e : Err) (s' : GObj)
    (h : genSetter d s a = .err e s') : s' = s := by
  unfold genSetter at h
  split at h
  · exact (C14_generated_code (declCtx d) (declCtx_atomic d) s a e s').2 h
  · exact (C14_generated_code (declCtx d) (declCtx_atomic d) s a e s').1 h

def exDecl : SetterDecl where
  file := "montepy/cell.py"
  cls := "Cell"
  prop := "number"
  pointer := false
  hidden := "_number"
  types := .given
  typeNames := ["int"]
  baseType := none
  validator := some "_number_validator"
  deletable := false

def exObj : GObj := { cls := "Cell", value := .int 1, linked := true, taken := [1, 2] }

/-- non-vacuity: generated setters do reject (here: a number collision), and do accept -/
example : genSetter exDecl exObj (.int 2) = .err .numberConflict exObj := rfl
example : genSetter exDecl exObj (.int 3) = .ok { exObj with value := .int 3 } := rfl

/-- the statement order of the code before the repair (`types = type(self)` written into the
    closure first) does not satisfy the hypothesis … -/
def preRepairSteps : List SetterStep := [.latchTypes, .isinstance, .convert, .validate, .assign]

/-- **C14_generated_latch_refuted** — … and really changes state on a rejected call: the closure
    keeps the class of the rejected caller (DESIGN 7.3 #16; repaired by a `fix:` commit). -/
theorem C14_generated_latch_refuted :
    safeOrder preRepairSteps = false ∧
    ∃ (c : GenCtx (Nat × Option Nat) Nat) (s : Nat × Option Nat) (v : Nat) (e : Err) (s' : Nat × Option Nat),
      runSteps c preRepairSteps s v = .err e s' ∧ s' ≠ s := by
  refine ⟨by decide, ?_⟩
  let c : GenCtx (Nat × Option Nat) Nat :=
    { isInst := (fun _ _ => false)
      convert := (fun v => Except.ok v)
      validate := (fun s _ => Res.ok s)
      assign := (fun s v => (v, s.2))
      latch := (fun s => (s.1, some s.1)) }
  refine ⟨c, (7, none), 0, .typeError, (7, some 7), ?_, ?_⟩
  · simp [preRepairSteps, runSteps, c]
  · decide

/-! ## hand-written setters and multi-step mutators -/

theorem atIdx_keeps {α : Type} (l : List α) (i : Nat) {f : α → Res α} (hf : ∀ c, (f c).Keeps c) :
    (atIdx l i f).Keeps l := by
  unfold atIdx
  split
  · exact .err _
  · rename_i c hc
    have h := hf c
    generalize f c = r at h
    cases h with
    | ok c' => exact .ok _
    | err e =>
      obtain ⟨hi, rfl⟩ := List.getElem?_eq_some_iff.mp hc
      show Res.Keeps l (.err e (l.set i l[i]))
      rw [List.set_getElem_self hi]
      exact .err e

theorem atIdx_raise {α : Type} {l : List α} {i : Nat} {f : α → Res α} {c : α} {e : Err}
    (hc : l[i]? = some c) (hf : f c = .err e c) : atIdx l i f = .err e l := by
  obtain ⟨hi, rfl⟩ := List.getElem?_eq_some_iff.mp hc
  simp only [atIdx, hc, hf, List.set_getElem_self hi]

theorem onCells_raise {w : World} {i : Nat} {f : CellSt → Res CellSt} {c : CellSt} {e : Err}
    (hc : w.cells[i]? = some c) (hf : f c = .err e c) : onCells w i f = .err e w := by
  simp only [onCells, atIdx_raise hc hf]

theorem onCells_keeps (w : World) (i : Nat) {f : CellSt → Res CellSt} (hf : ∀ c, (f c).Keeps c) :
    (onCells w i f).Keeps w := by
  unfold onCells
  have h := atIdx_keeps w.cells i hf
  generalize atIdx w.cells i f = r at h
  cases h
  · exact .ok _
  · exact .err _

theorem onSurfaces_keeps (w : World) (i : Nat) {f : SurfSt → Res SurfSt} (hf : ∀ c, (f c).Keeps c) :
    (onSurfaces w i f).Keeps w := by
  unfold onSurfaces
  have h := atIdx_keeps w.surfaces i hf
  generalize atIdx w.surfaces i f = r at h
  cases h
  · exact .ok _
  · exact .err _

theorem onTransforms_keeps (w : World) (i : Nat) {f : TrSt → Res TrSt} (hf : ∀ c, (f c).Keeps c) :
    (onTransforms w i f).Keeps w := by
  unfold onTransforms
  have h := atIdx_keeps w.transforms i hf
  generalize atIdx w.transforms i f = r at h
  cases h
  · exact .ok _
  · exact .err _

theorem impAll_err (mode : List Nat) (v : Val) (c : CellSt) (e : Err) (c' : CellSt)
    (h : impAll mode v c = .err e c') : c' = c ∧ impAllRejects v = some e := by
  unfold impAll at h
  split at h
  · rename_i e' he; cases h; exact ⟨rfl, he⟩
  · split at h
    · split at h <;> cases h
    · cases h

theorem impAll_ok (mode : List Nat) (v : Val) (c c' : CellSt)
    (h : impAll mode v c = .ok c') : impAllRejects v = none := by
  unfold impAll at h
  split at h
  · cases h
  · assumption

/-- **C14_equal_importance_loop** — the loop of `Cells.set_equal_importance` calls
    `cell.importance.all = importance` cell by cell and keeps the cells already set when a later
    call raises.  It is safe all the same, for every list of cells, by induction: whether `all`
    rejects depends on the value only, so a rejection happens at the first non-vacuum cell, before
    anything was set. -/
theorem C14_equal_importance_loop (mode : List Nat) (v : Val) (vac : List Int) :
    ∀ (cs : List CellSt) (e : Err) (cs' : List CellSt),
      equalLoop mode v vac cs = .err e cs' → cs' = cs ∧ impAllRejects v = some e := by
  intro cs
  induction cs with
  | nil => intro e cs' h; simp [equalLoop] at h
  | cons c t ih =>
    intro e cs' h
    simp only [equalLoop] at h
    split at h
    · split at h
      · cases h
      · rename_i e' t' ht
        obtain ⟨h1, h2⟩ := ih e' t' ht
        subst h1
        cases h
        exact ⟨rfl, h2⟩
    · split at h
      · rename_i e' c' hc
        obtain ⟨h1, h2⟩ := impAll_err mode v c e' c' hc
        subst h1
        cases h
        exact ⟨rfl, h2⟩
      · rename_i c' hc
        split at h
        · cases h
        · rename_i e' t' ht
          -- impossible: `all` accepted the value for `c`, so it accepts it for every later cell
          have hnone := impAll_ok mode v c c' hc
          obtain ⟨_, h2⟩ := ih e' t' ht
          rw [hnone] at h2
          cases h2

def exCell (n : Int) : CellSt :=
  { number := n, isAtomDens := false, density := some 10, imps := [(0, 1), (1, 1)], univ := 0,
    notTruncated := false, fillMulti := false, fillUniverse := none, fillHasUniverses := false,
    fillTransform := none, fillHidden := false, geometry := "-1", complements := [], surfaces := [1] }

/-! ### the geometry validator: a two-phase commit over two containers -/

theorem addNewChildren_keeps (c : CellSt) (leaves : List Leaf) : (addNewChildren c leaves).Keeps c := by
  fun_cases addNewChildren c leaves <;> constructor

/-- **C14_geometry_validator_atomic** — `HalfSpace._add_new_children_to_cell` (the validator behind the
    `Cell.geometry` setter, `HalfSpace.left/right`, `&=`, `|=`), for every cell and every geometry tree:
    if it raises — wrong kind of divider, number in use, number used twice among the new dividers, in
    EITHER container — neither `cell.complements` nor `cell.surfaces` (nor anything else) has changed:
    both containers are checked before the first divider is added to either. -/
theorem C14_geometry_validator_atomic (c : CellSt) (leaves : List Leaf) (e : Err) (c' : CellSt)
    (h : addNewChildren c leaves = .err e c') : c' = c :=
  (addNewChildren_keeps c leaves).eq h

theorem geomCtx_atomic : ValidatorAtomic geomCtx := fun c v _ _ =>
  Res.Keeps.eq <| by
    simp only [geomCtx]
    split
    · exact addNewChildren_keeps c _
    · constructor

/-- **C14_geometry_setter** — a rejected `cell.geometry = g` (wrong type, or rejected by the validator)
    changes nothing: the generated-template theorem over the extracted statement order, with the
    atomicity of the validator as its hypothesis. -/
theorem C14_geometry_setter (v : Val) (c : CellSt) (e : Err) (c' : CellSt)
    (h : cellGeometry v c = .err e c') : c' = c :=
  (C14_generated_code geomCtx geomCtx_atomic c v e c').2 h

def exGeomCell : CellSt := { exCell 9 with complements := [], surfaces := [2] }
/-- `~cell1 & +copy_of_surface_2`: a new complement and a surface whose number the cell already uses -/
def exGeomLeaves : List Leaf :=
  [{ asCell := true, kind := .cell, num := 1, member := false, oid := 0 },
   { asCell := false, kind := .surface, num := 2, member := false, oid := 1 }]

/-- non-vacuity: the validator does reject (here in the SECOND container) and does accept -/
example : (addNewChildren exGeomCell exGeomLeaves).isErr = true := rfl
example : (addNewChildren exGeomCell (exGeomLeaves.take 1)).state.complements = [1] := rfl

/-- **C14_geometry_per_container_refuted** — "one all-or-nothing `extend` per container" is NOT
    all-or-nothing: with a new complement and a colliding surface the complements are already
    extended when the surfaces raise (seeded change C14c; the code and `addNewChildren` check both first). -/
theorem C14_geometry_per_container_refuted :
    ¬ (∀ (c : CellSt) (leaves : List Leaf) (e : Err) (c' : CellSt),
        addNewChildrenPerContainer c leaves = .err e c' → c'.complements = c.complements) := by
  intro h
  have h1 : (addNewChildrenPerContainer exGeomCell exGeomLeaves).state.complements = exGeomCell.complements := by
    cases hr : addNewChildrenPerContainer exGeomCell exGeomLeaves with
    | ok c' => exact absurd (show (addNewChildrenPerContainer exGeomCell exGeomLeaves).isErr = false by rw [hr]; rfl) (by decide)
    | err e c' => exact h _ _ _ _ hr
  revert h1
  decide

def kindOfCode : Nat → DivKind
  | 0 => .cell
  | 1 => .surface
  | _ => .other

def probeLeaf (t : Bool × Nat × Int × Bool × Nat) : Leaf :=
  { asCell := t.1, kind := kindOfCode t.2.1, num := t.2.2.1, member := t.2.2.2.1, oid := t.2.2.2.2 }

def errCode : Err → Nat
  | .typeError => 1
  | .numberConflict => 2
  | _ => 3

/-- does the model predict what the translator observed on the real `cell.geometry = g`? -/
def probeAgrees (p : GeomProbe) : Bool :=
  let c : CellSt := { exCell 9 with complements := p.complements, surfaces := p.surfaces }
  match addNewChildren c (p.leaves.map probeLeaf) with
  | .ok c' => p.outcome == 0 && c'.complements == p.complementsAfter && c'.surfaces == p.surfacesAfter
  | .err e c' => p.outcome == errCode e && c'.complements == p.complementsAfter && c'.surfaces == p.surfacesAfter

/-- **C14_geometry_probes** — the tie of the hand-written validator to the source: on every probe the
    translator ran on the working tree (new complement + colliding surface copy, new surface + complement
    of a colliding cell, wrong kind of divider behind a new complement, …) the model predicts the observed
    exception class and the observed containers afterwards.  A validator that commits one container
    before it has checked the other changes `Gen/GeometryProbe.lean` and this no longer builds. -/
theorem C14_geometry_probes : geomProbes.all probeAgrees = true := by decide

/-! ### every mutator: a raise leaves the state as it was -/

theorem modeSetList_keeps (w : World) (xs : List Atom) : (modeSetList w xs).Keeps w := by
  fun_cases modeSetList w xs <;> constructor

/-- `fun_cases f …` takes the goal apart along the branches of the definition of `f`.  Every branch of a setter ends in a
    return or in a raise with the state the setter was given, the two constructors of `Res.Keeps`; that is the whole
    proof for 22 of the 28 mutators.  The six others end in something else: `Mode.set` in `modeSetList`;
    `Mode.remove`, `coordinates` and `set_equal_importance` in a local function `go`, which `fun_cases` does not enter
    (the last rests on `C14_equal_importance_loop`); `geomChild` in the validator (`addNewChildren_keeps`);
    `Cell.geometry` is the generated template (`C14_geometry_setter`). -/
theorem step_keeps (w : World) (op : Op) : (step w op).Keeps w := by
  cases op with
  | modeSet v =>
    show (modeSet w v).Keeps w
    fun_cases modeSet w v
    any_goals constructor
    all_goals exact modeSetList_keeps w _
  | modeAdd v => show (modeAdd w v).Keeps w; fun_cases modeAdd w v <;> constructor
  | modeRemove v =>
    show (modeRemove w v).Keeps w
    fun_cases modeRemove w v
    any_goals constructor
    all_goals exact .ite (.ok _) (.err _)
  | impSet c p v => exact onCells_keeps w c fun c => by fun_cases impSetItem w.mode p v c <;> constructor
  | impAll c v => exact onCells_keeps w c fun c => by fun_cases impAll w.mode v c <;> constructor
  | impDel c p => exact onCells_keeps w c fun c => by fun_cases impDel p c <;> constructor
  | setEqualImportance v vac =>
    show (setEqualImportance w v vac).Keeps w
    unfold setEqualImportance
    extract_lets go
    have hgo : ∀ xs, (go xs).Keeps w := by
      intro xs
      show Res.Keeps w (match vacuumNumbers _ xs [] with | .error e => _ | .ok vac => _)
      split
      · exact .err _
      · split
        · rename_i e cs hcs
          cases (C14_equal_importance_loop _ _ _ _ _ _ hcs).1
          exact .err _
        · exact .ok _
    split
    · exact hgo _
    · exact hgo _
    · exact hgo _
    · exact .err _
  | universeNumber u v => show (universeNumber w u v).Keeps w; fun_cases universeNumber w u v <;> constructor
  | claim u v => show (claim w u v).Keeps w; fun_cases claim w u v <;> constructor
  | surfaceConstants s v => exact onSurfaces_keeps w s fun c => by fun_cases surfaceConstants v c <;> constructor
  | isReflecting s v => exact onSurfaces_keeps w s fun c => by fun_cases isReflecting v c <;> constructor
  | isWhite s v => exact onSurfaces_keeps w s fun c => by fun_cases isWhiteBoundary v c <;> constructor
  | coordinates s v =>
    refine onSurfaces_keeps w s fun c => ?_
    fun_cases coordinates v c
    any_goals constructor
    all_goals refine .ite (.err _) ?_; split <;> constructor
  | atomDensity c v => exact onCells_keeps w c fun c => by fun_cases setDensity true v c <;> constructor
  | massDensity c v => exact onCells_keeps w c fun c => by fun_cases setDensity false v c <;> constructor
  | cellUniverse c v => exact onCells_keeps w c fun c => by fun_cases cellUniverse v c <;> constructor
  | notTruncated c v => exact onCells_keeps w c fun c => by fun_cases notTruncated v c <;> constructor
  | fillUniverse c v => exact onCells_keeps w c fun c => by fun_cases fillUniverse v c <;> constructor
  | fillUniverses c v => exact onCells_keeps w c fun c => by fun_cases fillUniverses v c <;> constructor
  | fillMultiple c v => exact onCells_keeps w c fun c => by fun_cases fillMultiple v c <;> constructor
  | fillTransform c v => exact onCells_keeps w c fun c => by fun_cases fillTransform v c <;> constructor
  | cellGeometry c v => exact onCells_keeps w c fun c => Res.keeps_of fun e c' => C14_geometry_setter v c e c'
  | geomChild c v =>
    refine onCells_keeps w c fun c => ?_
    fun_cases geomChild v c
    · exact addNewChildren_keeps c _
    · constructor
  | displacement t v => exact onTransforms_keeps w t fun c => by fun_cases displacementVector v c <;> constructor
  | rotation t v => exact onTransforms_keeps w t fun c => by fun_cases rotationMatrix v c <;> constructor
  | problemCells v => show (problemCells w v).Keeps w; fun_cases problemCells w v <;> constructor
  | problemMaterials v => show (problemMaterials w v).Keeps w; fun_cases problemMaterials w v <;> constructor
  | mcnpVersion v => show (mcnpVersion w v).Keeps w; fun_cases mcnpVersion w v <;> constructor

/-- **C14_each** — every modelled mutator, every state, every argument: if the call raises, the
    state at the raise point is the state before the call. -/
theorem C14_each (w : World) (op : Op) (e : Err) (w' : World) (h : step w op = .err e w') : w' = w :=
  (step_keeps w op).eq h

/-- **C14_then_valid** — later edits behave as if the rejected call had not happened: an edit script
    containing a rejected call ends in the same state as the script without it (for every prefix,
    every rejected call, every continuation). -/
theorem C14_then_valid (w : World) (pre : List Op) (op : Op) (post : List Op) (e : Err) (w' : World)
    (h : step (run w pre) op = .err e w') : run w (pre ++ op :: post) = run w (pre ++ post) := by
  have h1 : (step (run w pre) op).state = run w pre := by rw [h, C14_each _ _ _ _ h]; rfl
  simp only [run, List.foldl_append, List.foldl_cons] at h1 ⊢
  rw [h1]

/-! ### non-vacuity and decision tables -/

def exWorld : World :=
  { mode := [0, 1], cells := [exCell 1, exCell 2, exCell 3],
    surfaces := [{ number := 1, constants := [1], reflecting := false, white := false }],
    transforms := [{ number := 1, displacement := [0, 0, 1], rotation := [] }],
    universes := [0, 1], materials := [1, 2], version := [6, 2, 0] }

/-- rejected calls exist in the model (hypothesis of `C14_each` / `C14_then_valid`) … -/
example : (step exWorld (.modeSet (.words [some 1, none]))).isErr = true := rfl
example : (step exWorld (.setEqualImportance (.atom (.float (-1))) (.list [.int 1]))).isErr = true := rfl
example : (step exWorld (.atomDensity 1 (.atom .hugeInt))).isErr = true := rfl
example : (step exWorld (.universeNumber 1 (.atom (.int 0)))).isErr = true := rfl
/-- … and accepted ones change the state (the model is not the constant function) -/
example : (step exWorld (.setEqualImportance (.atom (.int 5)) (.list [.int 1]))).state ≠ exWorld := by decide
example : (step exWorld (.modeSet (.words [some 3]))).state ≠ exWorld := by decide

/-- **C14_rejects** — the invalid-argument classes of the edit-script table are rejected by the model
    (decision tables, for every state and every target): wrong type, out of range, number collision,
    particle not in the mode, structurally illegal. -/
theorem C14_rejects (w : World) :
    -- wrong type / negative / too large for a double: densities
    (∀ (i : Nat) (c : CellSt) (atom : Bool) (a : Atom), w.cells[i]? = some c →
        (a.isNumber = false → onCells w i (setDensity atom (.atom a)) = .err .typeError w) ∧
        (a.isNumber = true → a.isNeg = true → onCells w i (setDensity atom (.atom a)) = .err .valueError w)) ∧
    (∀ (i : Nat) (c : CellSt) (atom : Bool), w.cells[i]? = some c →
        onCells w i (setDensity atom (.atom .hugeInt)) = .err .overflowError w) ∧
    -- particle not in the problem's mode
    (∀ (i : Nat) (c : CellSt) (p : Nat) (v : Val), w.cells[i]? = some c → w.mode.contains p = false →
        step w (.impSet i (.atom (.particle p)) v) = .err .particleNotInProblem w) ∧
    -- a particle name that is none: Mode.set with a str
    (∀ (pre : List Nat), step w (.modeSet (.words (pre.map some ++ [none]))) = .err .valueError w) ∧
    -- number collision / out of range: Universe.number
    (∀ (i : Nat) (old n : Int), w.universes[i]? = some old → n ≤ 0 →
        step w (.universeNumber i (.atom (.int n))) = .err .valueError w) ∧
    (∀ (i : Nat) (old n : Int), w.universes[i]? = some old → 0 < n → w.universes.contains n = true →
        step w (.universeNumber i (.atom (.int n))) = .err .numberConflict w) ∧
    -- list of wrong length: surface constants
    (∀ (i : Nat) (s : SurfSt) (xs : List Atom), w.surfaces[i]? = some s → xs.length ≠ s.constants.length →
        step w (.surfaceConstants i (.list xs)) = .err .valueError w) ∧
    -- structurally illegal: a single fill universe while multiple_universes is set; truncation in universe 0
    (∀ (i : Nat) (c : CellSt) (n : Int) (f : Bool), w.cells[i]? = some c → c.fillMulti = true →
        step w (.fillUniverse i (.atom (.obj "Universe" n f))) = .err .valueError w) ∧
    (∀ (i : Nat) (c : CellSt), w.cells[i]? = some c → c.univ = 0 →
        step w (.notTruncated i (.atom (.bool true))) = .err .valueError w) ∧
    -- an importance that is not a number: the call is rejected, or the loop over no cells accepts it
    (∀ (a : Atom) (xs : List Atom), a.isNumber = false → (step w (.setEqualImportance (.atom a) (.list xs))).isErr = true ∨
        (∃ cs, equalLoop w.mode (.atom a) [] [] = .ok cs)) := by
  refine ⟨?_, ?_, ?_, ?_, ?_, ?_, ?_, ?_, ?_, ?_⟩
  · intro i c atom a hc
    exact ⟨fun h1 => onCells_raise hc (by simp [setDensity, h1]),
      fun h1 h2 => onCells_raise hc (by simp [setDensity, h1, h2])⟩
  · intro i c atom hc
    exact onCells_raise hc rfl
  · intro i c p v hc hp
    exact onCells_raise hc (by simp only [impSetItem, hp]; rfl)
  · intro pre
    have key : ∀ (pre : List Nat) (acc : List Nat),
        parseModes ((pre.map some ++ [none]).map Atom.str) acc = .error .valueError := by
      intro pre
      induction pre with
      | nil => intro _; rfl
      | cons p t ih => intro _; exact ih _
    simp only [step, modeSet, key]
  · intro i old n hi hn
    simp only [step, universeNumber, hi, Atom.asInt?, if_pos hn]
  · intro i old n hi hn hc
    simp only [step, universeNumber, hi, Atom.asInt?, if_neg (Int.not_le.mpr hn), hc, if_true]
  · intro i s xs hs hl
    simp only [step, onSurfaces, atIdx_raise hs (show surfaceConstants (.list xs) s = _ from if_pos hl)]
  · intro i c n f hc hm
    exact onCells_raise hc (by simp only [fillUniverse, isSub, beq_self_eq_true, Bool.true_or, hm]; rfl)
  · intro i c hc hu
    exact onCells_raise hc (if_pos ⟨hu, rfl⟩)
  · intro a xs _
    exact Or.inr ⟨[], rfl⟩

/-- the loop of `Mode._parse_and_override_particle_modes` before the repair -/
example : modeSetOld exWorld [some 1, none] = .err .valueError { exWorld with mode := [1] } := rfl

/-- **C14_mode_set_old_refuted** — the pre-repair `Mode.set` (clear the set, then add one by one)
    does change the state on a rejected call (`mode.set("p zz")`, DESIGN 7.3 #18); the repaired code
    is `modeSet`, covered by `C14_each`. -/
theorem C14_mode_set_old_refuted :
    ¬ (∀ (w : World) (ws : List (Option Nat)) (e : Err) (w' : World), modeSetOld w ws = .err e w' → w' = w) := by
  intro h
  have := h exWorld [some 1, none] .valueError { exWorld with mode := [1] } rfl
  exact absurd (congrArg World.mode this) (by decide)

end MontePyVerif.Setter

/-! ## collection mutators (model and invariant: C06) -/
namespace MontePyVerif.Collection

theorem setNumber_link (s : St) (o : ObjId) (n : Int) : (setNumber s o n).1.link = s.link :=
  (setNumber_objs s o n).2.1

/-- **C14_collection** — every collection operation other than `append_renumber` that raises — with
    any exception, not only `NumberConflictError` — leaves members, order, numbers *and* the links
    of all objects to the problem as they were (`Core`); look-ups are a function of these under the
    C06 invariant.  The exclusion `hop` is not used: `append_renumber` has the property too
    (`C14_append_renumber_atomic`). -/
theorem C14_collection (s : St) (op : Op) (e : Err) (h : (step s op).2 = .err e)
    (hop : ∀ o k, op ≠ .appendRenumber o k) : Core s (step s op).1 :=
  (step_safe s op).err e h

/-- non-vacuity: errors other than conflicts are reachable -/
example : (step exState (.remove 99)).2 = .err .valueError := rfl
example : (step exState (.nextNumber 0)).2 = .err .valueError := rfl

/-- **C14_append_renumber_atomic** — a failing `append_renumber` (`step = 0`, a step that leads to no number above 0,
    a conflict) leaves the members, every number and every link to the problem as they were, for every state,
    object and step: the number is found before the object is linked (MontePy's repair of finding C14-F1; before
    it a fresh object whose number is taken, appended with step 0, was left linked when the `ValueError` came). -/
theorem C14_append_renumber_atomic (s : St) (o : ObjId) (k : Int) (e : Err)
    (h : (appendRenumber s o k).2 = .err e) :
    (appendRenumber s o k).1.link = s.link ∧ (appendRenumber s o k).1.objs = s.objs ∧
    (appendRenumber s o k).1.num = s.num :=
  have c := (appendRenumber_safe s o k).err e h
  ⟨c.link, c.objs, c.num⟩

/-- non-vacuity: a fresh object whose number is taken, appended with step 0, raises and is left unlinked -/
example : (appendRenumber exState 9 0).2 = .err .valueError ∧ (appendRenumber exState 9 0).1.link 9 = exState.link 9 := by
  decide

/-- … and so does a step that walks below 1 -/
example : (appendRenumber exState 9 (-1)).2 = .err .valueError ∧ (appendRenumber exState 9 (-1)).1.link 9 = exState.link 9 := by
  decide

end MontePyVerif.Collection
