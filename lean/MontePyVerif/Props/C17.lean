import MontePyVerif.Model.World
import MontePyVerif.Gen.Setters
/-! # C17 — problems are isolated; API behaviour does not depend on unrelated history

The theorems are about `Model/World.lean` instantiated with `codeCfg`, the shape of the source as the translator
read it off the AST on this run (`Gen/Setters.lean`).  They hold for every world (reachable or not), every
operation and every history: nothing is bounded.  When the source changes shape (the `nonlocal` comes back, the
queue reset or the log reset goes away, a new `global` statement or class-level singleton appears) a generated
constant changes and the corresponding proof stops building.

Two lemmas about one `step` carry the theorems: `step_frame` (for any `Cfg`: what an operation leaves alone) and
`step_agree` (for a `Cfg` that writes no closure, resets the queue and starts each parse clean: run in two worlds that
agree on the problems it sees and on the interpreter's settings, it returns the same). -/
namespace MontePyVerif.World
open MontePyVerif.Gen

def codeCfg : Cfg :=
  { writesClosure := Setters.templatesWriteClosure
    readerResetsQueue := Setters.readerResetsQueue
    queuePerPath := Setters.queuePerPath
    restartClearsLog := Setters.restartClearsLog
    slyParseRestarts := Setters.slyParseRestarts
    objectInitRestarts := Setters.objectInitRestarts
    readInputRestarts := Setters.readInputRestarts
    setsRecursionLimit := Setters.setsRecursionLimit }

/-! ## What the source says -/

/-- the facts the isolation theorems below rest on, as extracted from the source on this run -/
theorem C17_cfg_clean :
    codeCfg.writesClosure = false ∧ codeCfg.readerResetsQueue = true ∧ codeCfg.parseStartsClean ∧
    Setters.templatesFound = true ∧ Setters.parseChecksLog = true ∧ codeCfg.setsRecursionLimit = false := by
  decide

/-- the world model contains all the process-wide state the source has: the only name under a `global` statement is
    the read-card queue; the only class-level instances are the parser singletons and the one shared log; the only
    declarations whose accepted type depends on `type(self)` are the three the harness exercises on every class. -/
theorem C17_world_covers_shared_state :
    Setters.globalsWritten = [("montepy/input_parser/input_syntax_reader.py", "reading_queue")] ∧
    Setters.logOwners = ["MCNP_Parser"] ∧
    Setters.classInstances.map (fun x => (x.2.1, x.2.2.1, x.2.2.2)) =
      [("Cell", "_parser", "CellParser"), ("DataInputAbstract", "_parser", "DataParser"),
       ("DataInputAbstract", "_classifier_parser", "ClassifierParser"), ("Material", "_parser", "MaterialParser"),
       ("ThermalScatteringLaw", "_parser", "ThermalParser"), ("ReadInput", "_parser", "ReadParser"),
       ("MCNP_Parser", "log", "SLY_Supressor"), ("Surface", "_parser", "SurfaceParser")] ∧
    (Setters.decls.filter (fun d => d.kind = .selfType)).map (fun d => (d.cls, d.prop)) =
      [("HalfSpace", "left"), ("HalfSpace", "right"), ("Surface", "periodic_surface")] ∧
    -- every statement in a function body of montepy/ that writes class-level or module-level state at run time
    -- (`Class.x = …`, `cls.x = …`, `type(self).x = …`, `del Class.x`, setattr/delattr on a class or module,
    -- `module.x = …`, assignments under `global`/`nonlocal`, item stores and mutating calls on class attributes or
    -- module-level containers) is one of these: the read-card queue (modelled), the two import-time loops that
    -- install generated properties (Importance.<particle>, Surfaces.<type>), and six per-call closures of local
    -- helper functions (not process-wide).  A runtime write to e.g. `DataInput._parser` re-opens this obligation.
    Setters.runtimeSharedWrites =
      [("montepy/data_inputs/importance.py", "setattr", "Importance"),
       ("montepy/input_parser/input_syntax_reader.py", "global-rebind", "reading_queue"),
       ("montepy/input_parser/input_syntax_reader.py", "mutating-call", "reading_queue.append"),
       ("montepy/input_parser/input_syntax_reader.py", "mutating-call", "reading_queue.popleft"),
       ("montepy/input_parser/input_syntax_reader.py", "nonlocal-rebind", "block_counter"),
       ("montepy/input_parser/input_syntax_reader.py", "nonlocal-rebind", "block_type"),
       ("montepy/input_parser/input_syntax_reader.py", "nonlocal-rebind", "input_raw_lines"),
       ("montepy/input_parser/syntax_node.py", "nonlocal-rebind", "shortcut"),
       ("montepy/mcnp_object.py", "nonlocal-rebind", "jump_counter"),
       ("montepy/mcnp_object.py", "nonlocal-rebind", "repeat_counter"),
       ("montepy/surface_collection.py", "setattr", "Surfaces")] ∧
    -- settings of the INTERPRETER (sys.set*, sys.path, os.chdir / os.environ, warnings filters outside catch_warnings,
    -- locale, numpy / decimal / random settings, signal, atexit, gc …) are set nowhere but in these two statements of
    -- montepy/__init__.py, which run once, at import (every history of the property starts after the import).  A call
    -- inside a function — e.g. `sys.setrecursionlimit` on the path of a read — re-opens this obligation.
    Setters.processStateCalls =
      [("montepy/__init__.py", "<module>", "os.environ[...] =", ""),
       ("montepy/__init__.py", "<module>", "warnings.simplefilter", "")] := by
  exact ⟨rfl, rfl, rfl, rfl, rfl, rfl⟩

/-! ## C17_queue — every read starts with an empty queue -/

theorem startQueue_empty {c : Cfg} (h : c.readerResetsQueue = true) (queue : List FileId) : startQueue c queue = [] :=
  if_pos h

/-- whatever the process holds in its queue(s) — one queue or one per path, e.g. what an abandoned read left behind
    under the very path that is read again — a read from ANY path starts with an empty queue -/
theorem C17_queue (queues : PathId → List FileId) (path : PathId) : readStartQueue codeCfg queues path = [] :=
  startQueue_empty rfl _

/-- non-vacuity: a read abandoned by parse_input (a malformed cell after a read card) does leave the queued target
    behind, under the key of its path -/
example : (step codeCfg 8 World.fresh (.read 0 3 [(0, [.read 5 .ok, .card ⟨1, 1, 1, false, 0⟩, .bad .syntax]), (5, [])] 0)).1.queue
    (queueKey codeCfg 3) = [5] := by decide

/-- after ANY history from ANY world — every event failed or not — the next read starts from an empty queue, for
    every path (same path as an earlier failed read, or another) -/
theorem C17_queue_reachable (fuel : Nat) (w : World) (ops : List Op) (path : PathId) :
    readStartQueue codeCfg (run codeCfg fuel w ops).1.queue path = [] :=
  C17_queue _ _

/-- the model is sensitive to the defect: with one queue per path, fetched with get-or-create and not emptied at the
    start of a read, the same statement is false — a read of path 3 is abandoned with file 5 queued, the next read from
    path 3 starts with [5] -/
theorem C17_queue_per_path_unreset_refutes :
    ¬ (∀ (w : World) (path : PathId),
        readStartQueue { codeCfg with queuePerPath := true, readerResetsQueue := false } w.queue path = []) := by
  intro h
  have := h (step { codeCfg with queuePerPath := true, readerResetsQueue := false } 8 World.fresh
    (.read 0 3 [(0, [.read 5 .ok, .card ⟨1, 1, 1, false, 0⟩, .bad .syntax]), (5, [])] 0)).1 3
  revert this
  decide

/-! ## C17_log — every parse starts with an empty error log -/

theorem parseStartLog_clean {c : Cfg} (h : c.parseStartsClean) (log : Nat) : parseStartLog c log = 0 := by
  simp only [parseStartLog, restart, h.1, h.2, if_true]

theorem C17_log (log : Nat) : parseStartLog codeCfg log = 0 :=
  parseStartLog_clean (by decide) log

/-- non-vacuity: a cell with a syntax error followed by an illegal character leaves the log non-empty -/
example : (step codeCfg 8 World.fresh (.read 0 0 [(0, [.bad .logThenRaise])] 0)).1.log = 1 := by decide

theorem C17_log_reachable (fuel : Nat) (ops : List Op) :
    parseStartLog codeCfg (run codeCfg fuel World.fresh ops).1.log = 0 :=
  C17_log _

theorem parse_indep {c : Cfg} (h : c.parseStartsClean) (l l' : Nat) (b : ParseBeh) : parse c l b = parse c l' b := by
  simp only [parse, parseStartLog_clean h]

theorem objectInit_indep {c : Cfg} (h : c.parseStartsClean) (l l' : Nat) (b : ParseBeh) :
    objectInit c l b = objectInit c l' b := by
  simp only [objectInit, parse_indep h _ 0]

theorem readInputInit_indep {c : Cfg} (h : c.parseStartsClean) (l l' : Nat) (b : ParseBeh) :
    readInputInit c l b = readInputInit c l' b := by
  simp only [readInputInit, parse_indep h _ 0]

theorem objectInit_ok {c : Cfg} (h : c.parseStartsClean) (l : Nat) : objectInit c l .ok = (0, none) := by
  simp only [objectInit, parse, parseStartLog_clean h]
  rfl

theorem constructObjects_ok {c : Cfg} (h : c.parseStartsClean) (n l : Nat) : ∃ l', constructObjects c l n = (l', none) := by
  induction n generalizing l with
  | zero => exact ⟨l, rfl⟩
  | succ n ih =>
    simp only [constructObjects, objectInit_ok h]
    exact ih 0

/-! The log a read finds shows only in the log it leaves behind: cards, queue and exception are the same. -/

theorem consumeItem_log {c : Cfg} (h : c.parseStartsClean) (q : List FileId) (l l0 : Nat) (cs : List Card) (it : Item) :
    consumeItem c ⟨q, l, cs⟩ it = consumeItem c ⟨q, l0, cs⟩ it := by
  cases it <;> simp only [consumeItem, objectInit_indep h l l0, readInputInit_indep h l l0]

theorem consumeItems_log {c : Cfg} (h : c.parseStartsClean) (items : List Item) (q : List FileId) (l l0 : Nat)
    (cs : List Card) :
    ∃ l', consumeItems c ⟨q, l, cs⟩ items =
      ({ (consumeItems c ⟨q, l0, cs⟩ items).1 with log := l' }, (consumeItems c ⟨q, l0, cs⟩ items).2) := by
  cases items with
  | nil => exact ⟨l, rfl⟩
  | cons it rest =>
    have : consumeItems c ⟨q, l, cs⟩ (it :: rest) = consumeItems c ⟨q, l0, cs⟩ (it :: rest) := by
      simp only [consumeItems, consumeItem_log h q l l0]
    exact ⟨_, this⟩

theorem drain_log {c : Cfg} (h : c.parseStartsClean) (fs : FileSys) (fuel : Nat) (q : List FileId) (l l0 : Nat)
    (cs : List Card) :
    ∃ l', drain c fs fuel ⟨q, l, cs⟩ =
      ({ (drain c fs fuel ⟨q, l0, cs⟩).1 with log := l' }, (drain c fs fuel ⟨q, l0, cs⟩).2) := by
  induction fuel generalizing q l l0 cs with
  | zero =>
    dsimp only [drain]
    split <;> exact ⟨l, rfl⟩
  | succ n ih =>
    cases q with
    | nil => exact ⟨l, rfl⟩
    | cons f rest =>
      dsimp only [drain]
      cases fs.find f with
      | none => exact ⟨l, rfl⟩
      | some items =>
        obtain ⟨l1, h1⟩ := consumeItems_log h items rest l l0 cs
        dsimp only
        rw [h1]
        rcases consumeItems c ⟨rest, l0, cs⟩ items with ⟨⟨q2, l2, cs2⟩, e⟩
        cases e with
        | some err => exact ⟨l1, rfl⟩
        | none => exact ih q2 l1 l2 cs2

theorem readProblem_indep {c : Cfg} (hq : c.readerResetsQueue = true) (h : c.parseStartsClean) (fuel : Nat)
    (q q' : List FileId) (l l' : Nat) (fs : FileSys) (top : FileId) :
    (readProblem c fuel q l fs top).2 = (readProblem c fuel q' l' fs top).2 := by
  dsimp only [readProblem]
  rw [startQueue_empty hq, startQueue_empty hq]
  cases fs.find top with
  | none => rfl
  | some items =>
    obtain ⟨l1, h1⟩ := consumeItems_log h items [] l l' []
    dsimp only
    rw [h1]
    rcases consumeItems c ⟨[], l', []⟩ items with ⟨⟨q2, l2, cs2⟩, e⟩
    cases e with
    | some err => rfl
    | none =>
      obtain ⟨l3, h3⟩ := drain_log h fs fuel q2 l1 l2 cs2
      dsimp only
      rw [h3]
      rcases drain c fs fuel ⟨q2, l2, cs2⟩ with ⟨s3, e3⟩
      cases e3 with
      | some err => rfl
      | none => dsimp only; cases s3.cards.any (·.dangling) <;> rfl

/-! ## Frame — what an operation leaves alone -/

theorem setterGate_local {c : Cfg} (h : c.writesClosure = false) (cell : Option ClassId) (d : SetterDecl)
    (selfCls : ClassId) (v : PyVal) : setterGate c cell d selfCls v = (cell, gateSpec d.types selfCls v) := by
  unfold setterGate gateSpec
  cases d.types <;> simp only [h, Bool.false_eq_true, if_false]

theorem step_setter {c : Cfg} (h : c.writesClosure = false) (fuel : Nat) (w : World) (d : SetterDecl) (s : ClassId)
    (v : PyVal) : step c fuel w (.setter d s v) = (w, .gate (gateSpec d.types s v)) := by
  have : (fun k => if k = d.id then w.latch d.id else w.latch k) = w.latch :=
    funext fun k => ite_eq_right_iff.mpr fun hk => hk ▸ rfl
  simp only [step, setterGate_local h, this]

theorem readLimit_id {c : Cfg} (h : c.setsRecursionLimit = false) (i : Interp) (lim : Nat) : readLimit c i lim = i :=
  if_neg (h ▸ Bool.false_ne_true)

/-- `w'` is `w` but for the queue, the log and problem `t` — and but for the closure cells and the settings of the
    interpreter if the code has the statement that writes them -/
structure Frame (c : Cfg) (t : Option ProblemId) (w w' : World) : Prop where
  latch : c.writesClosure = false → w'.latch = w.latch
  interp : c.setsRecursionLimit = false → w'.interp = w.interp
  problems : ∀ B, t ≠ some B → w'.problems B = w.problems B

theorem setProblem_other (w : World) (p q : ProblemId) (pr : Problem) (h : q ≠ p) :
    (setProblem w p pr).problems q = w.problems q :=
  if_neg h

theorem Frame.same (c : Cfg) (t : Option ProblemId) (w : World) : Frame c t w w :=
  ⟨fun _ => rfl, fun _ => rfl, fun _ _ => rfl⟩

theorem Frame.assign (c : Cfg) (w : World) (p : ProblemId) (pr : Problem) : Frame c (some p) w (setProblem w p pr) :=
  ⟨fun _ => rfl, fun _ => rfl, fun _ h => setProblem_other _ _ _ _ fun e => h (congrArg some e.symm)⟩

theorem editCard_frame (c : Cfg) (w : World) (p i : Nat) (f : Problem → Card → Except Err Card) :
    Frame c (some p) w (editCard w p i f).1 := by
  unfold editCard
  split
  · exact .same ..
  · split
    · exact .same ..
    · split
      · exact .same ..
      · exact .assign ..

theorem step_frame (c : Cfg) (fuel : Nat) (w : World) (op : Op) : Frame c op.target w (step c fuel w op).1 := by
  cases op with
  | setter d s v => exact ⟨fun h => by rw [step_setter h], fun _ => rfl, fun _ _ => rfl⟩
  | read p path fs top lim =>
    dsimp only [step]
    split
    · exact ⟨fun _ => rfl, (readLimit_id · _ _), fun _ _ => rfl⟩
    · exact ⟨fun _ => rfl, (readLimit_id · _ _), (Frame.assign c _ p _).problems⟩
  | setImp p i v | setVol p i v | setNum p i v => exact editCard_frame ..
  | removeCard p i | deepcopy a p =>
    dsimp only [step]
    split
    · exact .same ..
    · split
      · exact .assign ..
      · exact .same ..
  | write p => dsimp only [step]; split <;> exact .same ..
  | construct n => dsimp only [step]; split <;> exact ⟨fun _ => rfl, fun _ => rfl, fun _ _ => rfl⟩

/-! ## C17_latch — the closure cells of generated setters never change -/

/-- no operation changes any closure cell … -/
theorem C17_latch (fuel : Nat) (w : World) (op : Op) : (step codeCfg fuel w op).1.latch = w.latch :=
  (step_frame codeCfg fuel w op).latch rfl

/-- … so whether a generated setter accepts a value is a function of (declared types, class of self, value) and of
    nothing else, for every declaration the translator found in montepy/ (with any numbering of classes). -/
theorem C17_latch_decls :
    ∀ d ∈ Setters.decls, ∀ (id : DeclId) (cs : List ClassId) (fuel : Nat) (w : World) (selfCls : ClassId) (v : PyVal),
      let types : Types := match d.kind with
        | .notSettable => .notSettable
        | .selfType => .selfType
        | .classes => .classes cs
      (step codeCfg fuel w (.setter ⟨id, types⟩ selfCls v)).2 = .gate (gateSpec types selfCls v) ∧
      (step codeCfg fuel w (.setter ⟨id, types⟩ selfCls v)).1.latch = w.latch := by
  intro d _ id cs fuel w selfCls v
  exact ⟨by rw [step_setter rfl], C17_latch _ _ _⟩

/-- non-vacuity: there are declarations of each kind, and the gate does reject -/
example : (∃ d ∈ Setters.decls, d.kind = .selfType) ∧ (∃ d ∈ Setters.decls, d.kind = .classes) ∧
    gateSpec .selfType 1 ⟨2, [2, 0]⟩ = .typeError ∧ gateSpec .selfType 1 ⟨3, [3, 1, 0]⟩ = .passed := by decide

/-- the model is sensitive to the defect: with `nonlocal types` back in the source (`writesClosure = true`) the same
    statement is false — CylinderOnAxis (class 1) sets its periodic surface first, then AxisPlane (class 2) is refused. -/
theorem C17_latch_reintroduced_refutes :
    ¬ (∀ (w : World) (d : SetterDecl) (s : ClassId) (v : PyVal),
        (step { codeCfg with writesClosure := true } 0 w (.setter d s v)).2 = .gate (gateSpec d.types s v)) := by
  intro h
  have := h (step { codeCfg with writesClosure := true } 0 World.fresh (.setter ⟨0, .selfType⟩ 1 ⟨1, [1, 0]⟩)).1
    ⟨0, .selfType⟩ 2 ⟨2, [2, 0]⟩
  revert this
  decide

/-! ## C17_isolate — an operation on A leaves every other problem alone, and sees only A -/

/-- frame: whatever the shape of the code, an operation writes at most the problem it targets -/
theorem C17_isolate_frame (c : Cfg) (fuel : Nat) (w : World) (op : Op) (B : ProblemId) (h : op.target ≠ some B) :
    (step c fuel w op).1.problems B = w.problems B :=
  (step_frame c fuel w op).problems B h

def Op.sees (op : Op) (p : ProblemId) : Prop := op.target = some p ∨ op.source = some p

theorem setProblem_agree {w w' : World} {q : ProblemId} (p : ProblemId) (pr : Problem)
    (h : w.problems q = w'.problems q) : (setProblem w p pr).problems q = (setProblem w' p pr).problems q := by
  simp only [setProblem, h]

theorem editCard_agree (w w' : World) (p i : Nat) (f : Problem → Card → Except Err Card)
    (h : w.problems p = w'.problems p) :
    (editCard w p i f).2 = (editCard w' p i f).2 ∧
    ∀ q, w.problems q = w'.problems q → (editCard w p i f).1.problems q = (editCard w' p i f).1.problems q := by
  unfold editCard
  rw [← h]
  split
  · exact ⟨rfl, fun _ hq => hq⟩
  · split
    · exact ⟨rfl, fun _ hq => hq⟩
    · split
      · exact ⟨rfl, fun _ hq => hq⟩
      · exact ⟨rfl, fun _ hq => setProblem_agree _ _ hq⟩

theorem step_agree {c : Cfg} (hw : c.writesClosure = false) (hr : c.readerResetsQueue = true)
    (hc : c.parseStartsClean) (fuel : Nat) (w w' : World) (op : Op)
    (h : ∀ p, op.sees p → w.problems p = w'.problems p) (hI : w.interp = w'.interp) :
    (step c fuel w op).2 = (step c fuel w' op).2 ∧
    ∀ q, w.problems q = w'.problems q → (step c fuel w op).1.problems q = (step c fuel w' op).1.problems q := by
  cases op with
  | setter d s v => rw [step_setter hw, step_setter hw]; exact ⟨rfl, fun _ hq => hq⟩
  | construct n =>
    obtain ⟨l, e⟩ := constructObjects_ok hc n w.log
    obtain ⟨l', e'⟩ := constructObjects_ok hc n w'.log
    dsimp only [step]
    rw [e, e']
    exact ⟨rfl, fun _ hq => hq⟩
  | read p path fs top lim =>
    have e := readProblem_indep hr hc fuel (w.queue (queueKey c path)) (w'.queue (queueKey c path)) w.log w'.log fs top
    dsimp only [step]
    generalize readProblem c fuel (w.queue (queueKey c path)) w.log fs top = x at e ⊢
    generalize readProblem c fuel (w'.queue (queueKey c path)) w'.log fs top = x' at e ⊢
    obtain ⟨⟨q, l⟩, r⟩ := x
    obtain ⟨⟨q', l'⟩, r'⟩ := x'
    cases e
    cases r with
    | error e => exact ⟨rfl, fun _ hq => hq⟩
    | ok pr => exact ⟨rfl, fun _ hq => setProblem_agree _ _ hq⟩
  | setImp p i v | setVol p i v | setNum p i v => exact editCard_agree _ _ _ _ _ (h p (.inl rfl))
  | removeCard p i =>
    dsimp only [step]
    rw [← h p (.inl rfl)]
    split
    · exact ⟨rfl, fun _ hq => hq⟩
    · split
      · exact ⟨rfl, fun _ hq => setProblem_agree _ _ hq⟩
      · exact ⟨rfl, fun _ hq => hq⟩
  | deepcopy a b =>
    dsimp only [step]
    rw [← h a (.inr rfl), ← hI]
    split
    · exact ⟨rfl, fun _ hq => hq⟩
    · split
      · exact ⟨rfl, fun _ hq => setProblem_agree _ _ hq⟩
      · exact ⟨rfl, fun _ hq => hq⟩
  | write p =>
    dsimp only [step]
    rw [← h p (.inl rfl)]
    split <;> exact ⟨rfl, fun _ hq => hq⟩

/-- the result of an operation, and what it leaves in the problems it can see, depend only on those problems, on the
    operation and on the settings of the interpreter (which no operation changes: `C17_interp`) — not on the queue, the
    log, the closure cells or any other problem of the world it runs in -/
theorem C17_isolate_result (fuel : Nat) (w w' : World) (op : Op)
    (h : ∀ p, op.sees p → w.problems p = w'.problems p) (hI : w.interp = w'.interp) :
    (step codeCfg fuel w op).2 = (step codeCfg fuel w' op).2 ∧
    ∀ p, op.sees p → (step codeCfg fuel w op).1.problems p = (step codeCfg fuel w' op).1.problems p :=
  have hs := step_agree (c := codeCfg) rfl rfl (by decide) fuel w w' op h hI
  ⟨hs.1, fun p hp => hs.2 p (h p hp)⟩

/-- non-vacuity: two worlds that agree on problem 0 and differ in the log and in another problem (after three more
    reads, one of them failing), and an operation on problem 0 that really does something -/
example :
    let w : World := (run codeCfg 8 World.fresh [.read 0 0 [(0, [.card ⟨1, 1, 1, false, 0⟩])] 0]).1
    let w' : World := (run codeCfg 8 World.fresh
      [.read 0 0 [(0, [.card ⟨1, 1, 1, false, 0⟩])] 0, .read 1 1 [(0, [.card ⟨5, 1, 1, false, 0⟩])] 0,
       .read 2 2 [(0, [.read 8 .ok, .read 9 .ok])] 0, .read 2 2 [(0, [.bad .logThenRaise])] 0]).1
    w.problems 0 = w'.problems 0 ∧ w'.log ≠ w.log ∧ w'.problems 1 ≠ w.problems 1 ∧
    (step codeCfg 8 w (.setImp 0 0 7)).2 = .ok ∧
    (step codeCfg 8 w' (.write 0)).2 = .written [(1, 1, 1)] := by decide

/-! ## C17_interp — no operation changes a setting of the interpreter -/

/-- no operation changes the recursion limit (or any other setting of the interpreter the model holds), whatever the
    world, the file system and the demand `lim`: the code as extracted calls `sys.setrecursionlimit` nowhere
    (`C17_cfg_clean`) -/
theorem C17_interp (fuel : Nat) (w : World) (op : Op) : (step codeCfg fuel w op).1.interp = w.interp :=
  (step_frame codeCfg fuel w op).interp rfl

theorem run_keeps {α : Type} (f : World → α) (c : Cfg) (fuel : Nat) (ops : List Op) (w : World)
    (h : ∀ op ∈ ops, ∀ w, f (step c fuel w op).1 = f w) : f (run c fuel w ops).1 = f w := by
  induction ops generalizing w with
  | nil => rfl
  | cons op rest ih =>
    exact (ih _ fun o ho => h o (List.mem_cons_of_mem _ ho)).trans (h op (List.mem_cons_self ..) w)

/-- the interpreter's settings are the same after ANY history from ANY world -/
theorem C17_interp_reachable (fuel : Nat) (ops : List Op) (w : World) :
    (run codeCfg fuel w ops).1.interp = w.interp :=
  run_keeps (·.interp) codeCfg fuel ops w fun op _ w => C17_interp fuel w op

/-- non-vacuity: the limit matters (a cell of 250 surfaces is not deep-copied at the default limit, one of 101 is), and a
    read that "demands" 2897 leaves the limit at 1000 in the code as it is -/
example :
    let w := (step codeCfg 8 World.fresh (.read 0 0 [(0, [.card ⟨1, 1, 1, false, 249⟩])] 0 2897)).1
    w.interp.recLimit = 1000 ∧ (step codeCfg 8 w (.deepcopy 0 1)).2 = .err .recursion ∧
    (step codeCfg 8 (step codeCfg 8 World.fresh (.read 0 0 [(0, [.card ⟨1, 1, 1, false, 100⟩])] 0)).1 (.deepcopy 0 1)).2 = .ok := by
  decide

/-- non-vacuity and sensitivity: with a `sys.setrecursionlimit` on the path of a read (`setsRecursionLimit = true`) the
    statement "the outcome of a call does not depend on operations on unrelated problems" is false.  Problem 0 has a cell
    of 250 surfaces; `copy.deepcopy` of it raises RecursionError in a fresh interpreter, and succeeds after an unrelated
    problem 1 with a cell of 900 surfaces has been read (the read left the limit at 2897). -/
theorem C17_limit_raised_refutes :
    ¬ (∀ (fuel : Nat) (w : World) (pre : List Op) (op : Op),
        (∀ o ∈ pre, ∀ p, (op.target = some p ∨ op.source = some p) → o.target ≠ some p) →
        (step { codeCfg with setsRecursionLimit := true } fuel
            (run { codeCfg with setsRecursionLimit := true } fuel w pre).1 op).2 =
          (step { codeCfg with setsRecursionLimit := true } fuel w op).2) := by
  intro h
  have := h 8 (step { codeCfg with setsRecursionLimit := true } 8 World.fresh
      (.read 0 0 [(0, [.card ⟨1, 1, 1, false, 249⟩])] 0 1000)).1
    [.read 1 1 [(0, [.card ⟨1, 1, 1, false, 899⟩])] 0 2897] (.deepcopy 0 2)
    (by
      intro o ho p hp
      cases List.mem_singleton.mp ho
      rcases hp with hp | hp <;> cases hp <;> decide)
  revert this
  decide

/-! ## Histories -/

theorem run_frame (c : Cfg) (fuel : Nat) (ops : List Op) (w : World) (B : ProblemId)
    (h : ∀ op ∈ ops, op.target ≠ some B) : (run c fuel w ops).1.problems B = w.problems B :=
  run_keeps (·.problems B) c fuel ops w fun op ho w => C17_isolate_frame c fuel w op B (h op ho)

/-- after `C = copy.deepcopy(A)`, any history that does not assign or edit A leaves A as it was (in
    particular every history of operations on C), and any history that does not assign or edit C leaves C as the copy
    was made; when the copy succeeds (no RecursionError, A exists) it starts out equal to the original.  (Assumption
    of the model: deepcopy is a value clone.) -/
theorem C17_copy (c : Cfg) (fuel : Nat) (w : World) (A C : ProblemId) (hAC : A ≠ C) (ops : List Op) :
    let w1 := (step c fuel w (.deepcopy A C)).1
    w1.problems A = w.problems A ∧
    ((step c fuel w (.deepcopy A C)).2 = .ok → w1.problems C = w.problems A) ∧
    ((∀ op ∈ ops, op.target ≠ some A) → (run c fuel w1 ops).1.problems A = w.problems A) ∧
    ((∀ op ∈ ops, op.target ≠ some C) → (run c fuel w1 ops).1.problems C = w1.problems C) := by
  intro w1
  have hA : w1.problems A = w.problems A :=
    C17_isolate_frame c fuel w (.deepcopy A C) A fun e => hAC (Option.some.inj e).symm
  refine ⟨hA, ?_, fun h => (run_frame c fuel ops w1 A h).trans hA, run_frame c fuel ops w1 C⟩
  show (step c fuel w (.deepcopy A C)).2 = .ok → (step c fuel w (.deepcopy A C)).1.problems C = w.problems A
  dsimp only [step]
  cases w.problems A with
  | none => exact nofun
  | some pr =>
    dsimp only
    split
    · exact fun _ => if_pos rfl
    · exact nofun

/-- non-vacuity: the copy is edited and written, the original still writes what it wrote before -/
example :
    let w := (step codeCfg 8 World.fresh (.read 0 0 [(0, [.card ⟨1, 1, 1, false, 0⟩])] 0)).1
    let w2 := (run codeCfg 8 w [.deepcopy 0 1, .setImp 1 0 9, .write 1]).1
    (step codeCfg 8 w2 (.write 0)).2 = .written [(1, 1, 1)] ∧ (step codeCfg 8 w2 (.write 1)).2 = .written [(1, 9, 1)] := by
  decide

/-- the outcome of a call after ANY prefix of operations that do not assign or edit the problems the call
    can see equals its outcome without the prefix (in particular: in a fresh interpreter holding the same problem) -/
theorem C17_prefix (fuel : Nat) (w : World) (pre : List Op) (op : Op)
    (hpre : ∀ o ∈ pre, ∀ p, op.sees p → o.target ≠ some p) :
    (step codeCfg fuel (run codeCfg fuel w pre).1 op).2 = (step codeCfg fuel w op).2 :=
  (step_agree (c := codeCfg) rfl rfl (by decide) fuel _ _ op
    (fun p hp => run_frame codeCfg fuel pre w p fun o ho => hpre o ho p hp) (C17_interp_reachable fuel pre w)).1

/-- for a generated setter on objects of no problem the prefix is arbitrary: the outcome after any history whatever, in
    any world, is the gate's specification -/
theorem C17_prefix_setter (fuel : Nat) (w : World) (pre : List Op) (d : SetterDecl) (s : ClassId) (v : PyVal) :
    (step codeCfg fuel (run codeCfg fuel w pre).1 (.setter d s v)).2 = .gate (gateSpec d.types s v) := by
  rw [step_setter rfl]

/-- an operation belongs to the family R of problems when it assigns or edits one of them -/
def relevant (R : ProblemId → Bool) (op : Op) : Bool :=
  match op.target with
  | some p => R p
  | none => false

/-- the results of the operations of family R within a history -/
def observed (R : ProblemId → Bool) : List Op → List Res → List Res
  | op :: ops, r :: rs => if relevant R op then r :: observed R ops rs else observed R ops rs
  | _, _ => []

/-- R is closed under "source of a deep copy into R" along the history -/
def closedUnderSources (R : ProblemId → Bool) (ops : List Op) : Prop :=
  ∀ op ∈ ops, relevant R op = true → ∀ src, op.source = some src → R src = true

theorem interleave_aux (fuel : Nat) (R : ProblemId → Bool) (ops : List Op) (hcl : closedUnderSources R ops)
    (w w' : World) (hag : ∀ p, R p = true → w.problems p = w'.problems p) (hI : w.interp = w'.interp) :
    observed R ops (run codeCfg fuel w ops).2 = (run codeCfg fuel w' (ops.filter (relevant R))).2 ∧
    ∀ p, R p = true →
      (run codeCfg fuel w ops).1.problems p = (run codeCfg fuel w' (ops.filter (relevant R))).1.problems p := by
  induction ops generalizing w w' with
  | nil => exact ⟨rfl, hag⟩
  | cons op rest ih =>
    have hcl' : closedUnderSources R rest := fun o ho => hcl o (List.mem_cons_of_mem _ ho)
    by_cases hrel : relevant R op = true
    · -- an operation of the family sees only problems of the family (its source is one by `hcl`): `step_agree` applies
      have hsees : ∀ p, op.sees p → R p = true := by
        intro p hp
        rcases hp with hp | hp
        · simpa only [relevant, hp] using hrel
        · exact hcl op (List.mem_cons_self ..) hrel p hp
      have hstep := step_agree (c := codeCfg) rfl rfl (by decide) fuel w w' op (fun p hp => hag p (hsees p hp)) hI
      obtain ⟨ih1, ih2⟩ := ih hcl' _ _ (fun p hRp => hstep.2 p (hag p hRp))
        (((C17_interp fuel w op).trans hI).trans (C17_interp fuel w' op).symm)
      simp only [List.filter_cons, hrel, if_true, run, observed]
      exact ⟨by rw [hstep.1, ih1], ih2⟩
    · -- an operation on an unrelated problem: it is left out, and the family's problems are untouched
      have ht : ∀ p, R p = true → op.target ≠ some p := fun p hRp e => hrel (by simp only [relevant, e, hRp])
      obtain ⟨ih1, ih2⟩ := ih hcl' _ _
        (fun p hRp => (C17_isolate_frame codeCfg fuel w op p (ht p hRp)).trans (hag p hRp))
        ((C17_interp fuel w op).trans hI)
      simp only [List.filter_cons, hrel, run, observed]
      exact ⟨ih1, ih2⟩

/-- for ALL interleavings: take any history on any number of problems and any family R of problems
    closed under deep-copy sources.  What the family's operations return and write within the history is exactly what
    they return and write when every other operation is left out, and the family's problems end up the same. -/
theorem C17_interleave (fuel : Nat) (R : ProblemId → Bool) (ops : List Op) (hcl : closedUnderSources R ops)
    (w : World) :
    observed R ops (run codeCfg fuel w ops).2 = (run codeCfg fuel w (ops.filter (relevant R))).2 ∧
    ∀ p, R p = true →
      (run codeCfg fuel w ops).1.problems p = (run codeCfg fuel w (ops.filter (relevant R))).1.problems p :=
  interleave_aux fuel R ops hcl w w (fun _ _ => rfl) rfl

/-- non-vacuity: a history where problem 1's two reads fail in two ways (leaving queue and log dirty), a copy of 0 is
    edited, setters are called; family {0} is closed and its observed results are non-trivial -/
example :
    let ops : List Op :=
      [.read 1 1 [(0, [.read 8 .ok, .read 9 .ok])] 0, .read 0 0 [(0, [.read 1 .ok, .card ⟨1, 1, 1, false, 0⟩]), (1, [.card ⟨2, 0, 1, false, 0⟩])] 0,
       .read 1 1 [(0, [.bad .logThenRaise])] 0, .deepcopy 0 2, .setImp 2 0 9, .setter ⟨0, .selfType⟩ 1 ⟨1, [1]⟩,
       .setVol 0 1 4, .write 2, .write 0]
    let R : ProblemId → Bool := fun p => p == 0
    closedUnderSources R ops ∧
    observed R ops (run codeCfg 8 World.fresh ops).2 = [.ok, .ok, .written [(1, 1, 1), (2, 0, 4)]] := by
  refine ⟨?_, by decide⟩
  -- the one operation with a source copies into problem 2, which is not of the family
  intro op hop hrel src hsrc
  cases op <;> cases hsrc
  simp only [List.mem_cons, List.mem_nil_iff, or_false, reduceCtorEq, false_or, Op.deepcopy.injEq] at hop
  cases hop.2
  cases hrel

/-! ## Fuel -/

/-- once the queue loop finishes within `fuel` file openings, more fuel changes nothing (the harness uses 64) -/
theorem C17_drain_fuel_mono (c : Cfg) (fs : FileSys) (fuel : Nat) (s : RState)
    (h : (drain c fs fuel s).2 ≠ some .hang) : drain c fs (fuel + 1) s = drain c fs fuel s := by
  obtain ⟨q, l, cs⟩ := s
  induction fuel generalizing q l cs with
  | zero =>
    cases q with
    | nil => rfl
    | cons f rest => exact absurd rfl h
  | succ n ih =>
    cases q with
    | nil => rfl
    | cons f rest =>
      dsimp only [drain] at h ⊢
      revert h
      cases fs.find f with
      | none => exact fun _ => rfl
      | some items =>
        dsimp only
        generalize consumeItems c ⟨rest, l, cs⟩ items = x
        obtain ⟨⟨q2, l2, cs2⟩, e⟩ := x
        cases e with
        | some err => exact fun _ => rfl
        | none => exact ih q2 l2 cs2

end MontePyVerif.World
