import MontePyVerif.Lemmas.GeometryLevels
/-! # C02 — a cell's geometry keeps its Boolean meaning through read, edit and write

Spec: `Spec/Geometry.lean` (`denote`: one-pass lexer + stack evaluator, MCNP's rules).
Model: `Model/Geometry.lean` (HalfSpace trees with their syntax nodes; the repaired `half_space.py`).
`ready` (Lemmas/GeometryReady.lean) is the decidable state of a tree *with* its nodes that
`HalfSpace._update_values` establishes. -/
namespace MontePyVerif.C02
open MontePyVerif.Spec.Geometry MontePyVerif.Geometry

/-- Spec sanity: `1 2:3` is `(1 ∩ 2) ∪ 3`, `#(1:-2)3` is `¬(1 ∪ ¬2) ∩ 3`, `#4` is a cell complement. -/
theorem C02_spec_precedence :
    (∀ ρ, (denote [.digit 1, .sp, .digit 2, .colon, .digit 3]).map (E.eval ρ)
        = some ((ρ false 1 && ρ false 2) || ρ false 3)) ∧
    (∀ ρ, (denote [.hash, .lp, .digit 1, .colon, .minus, .digit 2, .rp, .digit 3]).map (E.eval ρ)
        = some (!(ρ false 1 || !ρ false 2) && ρ false 3)) ∧
    (∀ ρ, (denote [.hash, .digit 4]).map (E.eval ρ) = some (!ρ true 4)) := by
  -- the reader runs on the closed text; what is left is the Boolean reading of the expression it returns
  refine ⟨fun ρ => ?_, fun ρ => ?_, fun ρ => ?_⟩ <;>
    (show some _ = some _; simp [E.eval, andO, orO])

/-- the three facts the induction carries for a ready tree -/
structure Holds (h : HS) : Prop where
  good : Good h.fmt (toks h)
  sem : L0 (toks h) (fun ρ => h.eval ρ)
  factor : isUnion h = false → L1 (toks h) (fun ρ => h.eval ρ)

theorem holds_compl {l : HS} {g : GN} (ih : Holds l) (hcu : isCellUnit l = false)
    (ho : orderOK g [.operator, .left] = true) (hopr : complOpr g.opr.format = true)
    (hhp : headParens g.lchain = true) (hck : chainOK g.lchain l.fmt = true)
    (hep0 : isSep false (optFmt g.ep) = true) :
    Holds (.compl l (some g)) := by
  obtain ⟨w, ws, hc, s, e, hkw⟩ : ∃ w ws, g.lchain = w :: ws ∧ ∃ s e, wrapKind w = .parens s e := by
    cases hc : g.lchain with
    | nil => simp [hc, headParens] at hhp
    | cons w ws =>
      simp only [hc, headParens] at hhp
      cases hk' : wrapKind w <;> simp [hk'] at hhp
      exact ⟨w, ws, rfl, _, _, hk'⟩
  have htk : toks (.compl l (some g)) = .clp :: (linkToks ws (toks l) ++ [.rp]) := by rw [toks_compl hcu, hc]
  have hep := isSep_of_false (cmtAfter false (wrapFmt g.lchain l.fmt)) hep0
  obtain ⟨S, hS, hsep, hclosed⟩ := complOpr_shape hopr
  obtain ⟨R, tsR, hw, hk, hR⟩ := (link_good ih.good hck).2 hhp
  have hsem : L1 (toks (.compl l (some g))) (fun ρ => (HS.compl l (some g)).eval ρ) := by
    rw [htk]
    exact (L1_cparen (link_sem (ws := ws) ih.sem False.elim).1).congr (fun ρ => by simp [HS.eval])
  refine ⟨?_, hsem.toL0, fun _ => hsem⟩
  have : tsR = linkToks ws (toks l) ++ [.rp] := by
    rw [hc] at hk; simp only [linkToks, hkw] at hk; exact (List.cons.inj hk).2.symm
  rw [fmt_compl ho, hS, hw, htk, ← this]
  exact good_compl hsep hclosed hR (by rw [← hw]; exact hep)

theorem eval_unit_eq (a s : Bool) : (a != !s) = (a == s) := by cases a <;> cases s <;> rfl

/-- **Printer correctness.** The text of a ready tree reads, by MCNP's rules, as a region with the tree's meaning. -/
theorem ready_holds (h : HS) (hr : ready h = true) : Holds h := by
  induction h with
  | unit d s c n =>
    obtain ⟨rfl, v, rfl, htok, hpad⟩ := gen_unit.1 hr
    have hsem : L1 (toks (.unit d s false (some v))) (fun ρ => (HS.unit d s false (some v)).eval ρ) :=
      (L1_num d (!s)).congr (fun ρ => eval_unit_eq (ρ false d) s)
    exact ⟨good_leaf htok hpad, hsem.toL0, fun _ => hsem⟩
  | compl l n ih =>
    rcases cell_or l with ⟨d, s, vn, rfl⟩ | hcu
    · obtain ⟨v, g, rfl, rfl, ho, hopr, hbare, hcv, hpad, hep⟩ := gen_cell.1 hr
      obtain ⟨S, hS, hsep, hclosed⟩ := complOpr_shape hopr
      have hsem : L1 (toks (.compl (.unit d s true (some v)) (some g)))
          (fun ρ => (HS.compl (.unit d s true (some v)) (some g)).eval ρ) := L1_cell d
      refine ⟨?_, hsem.toL0, fun _ => hsem⟩
      rw [fmt_compl ho, wrapFmt_allBare hbare, hS]
      exact good_cell hsep hclosed hcv hpad (isSep_of_false _ hep)
    · obtain ⟨g, rfl, hl, ho, hopr, hhp, hck, hep⟩ := (gen_compl hcu).1 hr
      exact holds_compl (ih hl) hcu ho hopr hhp hck hep
  | bin o l r n ihl ihr =>
    obtain ⟨g, rfl, hl, hrr, ho, hckl, hckr, hLc, _, hopr, hop, hep⟩ := gen_bin.1 hr
    have hL := ihl hl
    have hR := ihr hrr
    obtain ⟨gL, hLp⟩ := link_good hL.good hckl
    obtain ⟨gR, hRp⟩ := link_good hR.good hckr
    cases o with
    | inter =>
      obtain ⟨hos, hoc, _⟩ := interLike_iff.1 hopr
      obtain ⟨hsepar, hul, hur⟩ := hop rfl
      -- an operand that is a union stands in parentheses
      have semL := (link_sem (ws := g.lchain) hL.sem hL.factor).2 hul
      have semR := (link_sem (ws := g.rchain) hR.sem hR.factor).2 hur
      have hsem : L1 (toks (.bin .inter l r (some g))) (fun ρ => (HS.bin .inter l r (some g)).eval ρ) :=
        L1_inter semL semR
      refine ⟨?_, hsem.toL0, fun _ => hsem⟩
      rw [fmt_bin ho]
      exact good_inter gL hLc gR hos hoc ((hsepar rfl).imp_right (Or.imp hLp (Or.imp_left hRp))) (isSep_of_false _ hep)
    | union =>
      obtain ⟨a, b, hab, ha, hac, hb, hbc⟩ := unionOpr_shape hopr
      have semL := (link_sem (ws := g.lchain) hL.sem False.elim).1
      have semR := (link_sem (ws := g.rchain) hR.sem False.elim).1
      have hsem : L0 (toks (.bin .union l r (some g))) (fun ρ => (HS.bin .union l r (some g)).eval ρ) :=
        L0_union semL semR
      refine ⟨?_, hsem, fun hu => by simp [isUnion] at hu⟩
      rw [fmt_bin ho, hab]
      exact good_union gL hLc gR ha hac hb hbc (isSep_of_false _ hep)

/-- **C02_write_meaning (central).** For every tree in the state `_update_values` establishes, whatever its size,
    user-supplied redundant parentheses, padding, comments and line breaks: the written text is well-formed MCNP
    geometry and denotes exactly the Boolean function of the HalfSpace tree the API exposes. -/
theorem C02_write_meaning (h : HS) (hr : ready h = true) :
    ∃ e, denote h.fmt = some e ∧ ∀ ρ, e.eval ρ = h.eval ρ := by
  obtain ⟨hg, h0, _⟩ := ready_holds h hr
  obtain ⟨e, hp, hv⟩ := parse_of_L0 h0
  exact ⟨e, by simp [denote, hg.lex, hp], hv⟩

/-- **C02_no_fusion.** The written text lexes to exactly the tokens of the tree: every leaf is one numeral token with
    the leaf's own number and sense (two numerals never run together, no sign or `#` is orphaned, nothing is
    hidden in a comment). -/
theorem C02_no_fusion (h : HS) (hr : ready h = true) : lex h.fmt = some (toks h) :=
  (ready_holds h hr).good.lex

/-- **C02_cell_write_meaning.** The same for the geometry entry of the cell's syntax tree, i.e. with the
    parentheses the user wrote around the whole geometry (kept by `Cell._update_values`). -/
theorem C02_cell_write_meaning (c : CG) (hr : ready c.hs = true) (hc : chainOK c.chain c.hs.fmt = true) :
    ∃ e, denote c.fmt = some e ∧ ∀ ρ, e.eval ρ = c.hs.eval ρ := by
  obtain ⟨hg, h0, _⟩ := ready_holds c.hs hr
  have hl := (link_good hg hc).1
  obtain ⟨e, hp, hv⟩ := parse_of_L0 (link_sem (ws := c.chain) h0 False.elim).1
  exact ⟨e, by simp [denote, CG.fmt, hl.lex, hp], hv⟩

/-! ## the text that was read (C02_read_meaning) -/

theorem fmt_cell_leaf (v : VN) : (HS.unit v.value true true (some v)).fmt = (parseInputNode (.val v)).fmt := rfl

/-- `HalfSpace.parse_input_node` loses no text: the chain of skipped `_SHIFT` trees around the text of the HalfSpace
    that was built is the text of the parser's tree. -/
theorem parse_fmt (g : GT) : wrapFmt (chainOf g).1 (parseInputNode g).fmt = g.format := by
  induction g with
  | val v => rfl
  | shift w l ih =>
    simp only [chainOf, parseInputNode, wrapFmt, GT.format]
    rw [ih]
  | compl id order opr ep l ih =>
    have key : ∀ child : HS, child.fmt = (parseInputNode l).fmt →
        wrapFmt [] (HS.compl child (some ⟨id, order, opr, ep, (chainOf l).1, (chainOf l).2, [], 0⟩)).fmt
          = (GT.compl id order opr ep l).format := by
      intro child hch
      simp only [wrapFmt, GT.format, HS.fmt]
      congr 1
      funext k
      cases k <;> first | rfl | (rw [hch]; exact ih)
    cases l with
    | val v => exact key _ (fmt_cell_leaf v)
    | shift w l' => exact key _ rfl
    | compl a1 a2 a3 a4 a5 => exact key _ rfl
    | bin a1 a2 a3 a4 a5 a6 a7 => exact key _ rfl
  | bin id o order opr ep l r ihl ihr =>
    simp only [chainOf, parseInputNode, wrapFmt, GT.format, HS.fmt]
    congr 1
    funext k
    cases k <;> first | rfl | exact ihl | exact ihr

theorem parseCell_fmt (g : GT) : (parseCell g).fmt = g.format := parse_fmt g

/-- **C02_read_meaning.** For every syntax tree `g` of a geometry (as `CellParser` builds it) whose HalfSpace is in
    the ready state: the text that was read, `g.format`, is well-formed MCNP geometry and denotes exactly the Boolean
    function of the HalfSpace tree `HalfSpace.parse_input_node` builds from `g` — the text read and the object the
    API exposes agree. (That `g.format` *is* the input text is the losslessness of the parser, compared on every
    parsed case.) -/
theorem C02_read_meaning (g : GT) (hr : ready (parseInputNode g) = true)
    (hc : chainOK (chainOf g).1 (parseInputNode g).fmt = true) :
    ∃ e, denote g.format = some e ∧ ∀ ρ, e.eval ρ = (parseInputNode g).eval ρ := by
  have := C02_cell_write_meaning (parseCell g) hr hc
  rwa [parseCell_fmt] at this

/-! ## the operators (C02_ops) -/

theorem C02_ops_surface (n : Nat) (pos : Bool) (ρ : Env) : (surfaceSide n pos).eval ρ = (ρ false n == pos) := rfl
theorem C02_ops_cell (n : Nat) (ρ : Env) : (cellInvert n).eval ρ = !(ρ true n) := rfl
theorem C02_ops_and (a b : HS) (ρ : Env) : (a.and b).eval ρ = (a.eval ρ && b.eval ρ) := rfl
theorem C02_ops_or (a b : HS) (ρ : Env) : (a.or b).eval ρ = (a.eval ρ || b.eval ρ) := rfl
theorem C02_ops_invert (a : HS) (ρ : Env) : a.invert.eval ρ = !(a.eval ρ) := rfl

/-- `a &= x` is the intersection with `x`, whatever the shape of `a` (repaired `__iand__`). -/
theorem C02_ops_iand (a x : HS) (ρ : Env) : (a.iand x).eval ρ = (a.eval ρ && x.eval ρ) := by
  fun_induction HS.iand a x with
  | case1 => simp only [HS.eval, Bool.and_assoc]
  | case2 l r n x _ ih => simp only [HS.eval, ih, Bool.and_assoc]
  | case3 => rfl

/-- `a |= x` is the union with `x`, whatever the shape of `a` (repaired `__ior__`). -/
theorem C02_ops_ior (a x : HS) (ρ : Env) : (a.ior x).eval ρ = (a.eval ρ || x.eval ρ) := by
  fun_induction HS.ior a x with
  | case1 => simp only [HS.eval, Bool.or_assoc]
  | case2 l r n x _ ih => simp only [HS.eval, ih, Bool.or_assoc]
  | case3 => rfl

/-! ## histories (C02_history) -/

/-- one step of an edit history on `cell.geometry`; the operand may be any tree (built or parsed) -/
inductive Op where
  | and (x : HS) | rand (x : HS) | or (x : HS) | ror (x : HS) | not | iand (x : HS) | ior (x : HS)

def applyOp (h : HS) : Op → HS
  | .and x => h.and x
  | .rand x => x.and h
  | .or x => h.or x
  | .ror x => x.or h
  | .not => h.invert
  | .iand x => h.iand x
  | .ior x => h.ior x

/-- what the step is meant to do to the region -/
def opSem (ρ : Env) (b : Bool) : Op → Bool
  | .and x => b && x.eval ρ
  | .rand x => x.eval ρ && b
  | .or x => b || x.eval ρ
  | .ror x => x.eval ρ || b
  | .not => !b
  | .iand x => b && x.eval ρ
  | .ior x => b || x.eval ρ

theorem applyOp_eval (h : HS) (op : Op) (ρ : Env) : (applyOp h op).eval ρ = opSem ρ (h.eval ρ) op := by
  cases op with
  | iand x => exact C02_ops_iand h x ρ
  | ior x => exact C02_ops_ior h x ρ
  | _ => rfl

/-- **C02_history.** After any sequence of `&`, `|`, `~`, `&=`, `|=` (either operand order, any operands) the tree
    the API exposes is the region obtained by applying the same Boolean operations to the operands' regions. -/
theorem C02_history (h : HS) (ops : List Op) (ρ : Env) :
    (ops.foldl applyOp h).eval ρ = ops.foldl (opSem ρ) (h.eval ρ) :=
  List.foldl_rel (f := applyOp) (g := opSem ρ) (r := fun h b => h.eval ρ = b) rfl
    fun op _ h b e => by rw [applyOp_eval, e]

/-- … and once such a history's tree is in the state `_update_values` establishes, its text denotes that region. -/
theorem C02_history_write (h : HS) (ops : List Op) (h' : HS)
    (hsame : ∀ ρ, h'.eval ρ = (ops.foldl applyOp h).eval ρ) (hr : ready h' = true) :
    ∃ e, denote h'.fmt = some e ∧ ∀ ρ, e.eval ρ = ops.foldl (opSem ρ) (h.eval ρ) := by
  obtain ⟨e, he, hv⟩ := C02_write_meaning h' hr
  exact ⟨e, he, fun ρ => by rw [hv ρ, hsame ρ, C02_history]⟩

/-! ## `_update_values` establishes `ready` (C02_update_ready): the theorems for well-formed trees *before* the update -/

/-- **C02_update_ready.** From every well-formed tree (`wf` = DESIGN's `HS.WF`: nothing is asked of the links, nodes may
    be missing) `HalfSpace._update_values` — `_ensure_has_nodes`, `_link_child`, `_end_trailing_comment`,
    `_end_comments_in_parentheses`, then `_update_node` everywhere — establishes the state `ready`. -/
theorem C02_update_ready (c : Nat) (h : HS) (hw : wf h = true) : ready (updateValues c h).1 = true :=
  (updateValues_spec c h hw).1

/-- **C02_levels_once.** `_update_values` as the code runs it — level by level, `_ensure_has_nodes` (hence
    `_link_child`) once more on every level — gives exactly what one `_ensure_has_nodes` and `_update_node` everywhere
    give, on every well-formed tree: re-linking a subtree that was just linked changes nothing (`ensure_idem`). A
    change that makes a level *skip* its link step is therefore a different function on histories where a link is
    stale (write; edit an inner node; write). -/
theorem C02_levels_once (c : Nat) (h : HS) (hw : wf h = true) : updateValues c h = updateOnce c h :=
  updateValues_eq_once c h hw

/-- sufficiency of the fuel of `updateLevels` -/
theorem C02_levels_fuel (f c : Nat) (h : HS) (hw : wf h = true) (hf : h.height < f) :
    updateLevels f c h = updateValues c h :=
  updateLevels_fuel f c h hw hf

/-- `_update_values` does not change the region of the tree. -/
theorem C02_update_meaning (c : Nat) (h : HS) (hw : wf h = true) (ρ : Env) :
    (updateValues c h).1.eval ρ = h.eval ρ :=
  (updateValues_spec c h hw).2.ev ρ

/-- **C02_write_meaning_wf (DESIGN's C02_write_meaning).** For every well-formed tree, whatever its size and
    history: the text written after `_update_values` is well-formed MCNP geometry and denotes the Boolean function of
    the tree the API exposed before the write. No hypothesis is left about the updated tree. -/
theorem C02_write_meaning_wf (c : Nat) (h : HS) (hw : wf h = true) :
    ∃ e, denote (updateValues c h).1.fmt = some e ∧ ∀ ρ, e.eval ρ = h.eval ρ := by
  obtain ⟨e, he, hv⟩ := C02_write_meaning _ (C02_update_ready c h hw)
  exact ⟨e, he, fun ρ => by rw [hv ρ, C02_update_meaning c h hw ρ]⟩

/-- … and its text lexes to exactly its tokens (no fusion), for every well-formed tree. -/
theorem C02_no_fusion_wf (c : Nat) (h : HS) (hw : wf h = true) :
    lex (updateValues c h).1.fmt = some (toks (updateValues c h).1) :=
  C02_no_fusion _ (C02_update_ready c h hw)

theorem oprPre_of_oprOKp {o : BOp} {p : Pad} (h : oprOKp o p = true) : oprPre p = true := by
  cases o <;> simp only [oprOKp] at h <;> simp [oprPre, h]

/-- a written tree is well-formed again: writes can be repeated and interleaved with edits -/
theorem C02_ready_wf (h : HS) (hr : ready h = true) : wf h = true := by
  induction h with
  | unit d s c n =>
    obtain ⟨rfl, v, rfl, hv⟩ := gen_unit.1 hr
    exact wf_unit.2 ⟨rfl, by rintro _ ⟨⟩; exact hv⟩
  | compl l n ih =>
    rcases cell_or l with ⟨d, s, vn, rfl⟩ | hcu
    · obtain ⟨v, g, rfl, rfl, ho, hopr, hbare, hcv, hpad, hep⟩ := gen_cell.1 hr
      exact wf_cell.2 ⟨by rintro _ ⟨⟩; exact ⟨hcv, hpad⟩, by rintro _ ⟨⟩; exact ⟨ho, hopr, hbare, hep⟩⟩
    · obtain ⟨g, rfl, hl, ho, hopr, _, hck, hep⟩ := (gen_compl hcu).1 hr
      exact (wf_compl hcu).2 ⟨ih hl, by rintro _ ⟨⟩; exact ⟨ho, hopr, chainPads_of_chainOK hck, hep⟩⟩
  | bin o l r n ihl ihr =>
    obtain ⟨g, rfl, hl, hrr, ho, hckl, hckr, _, hcl, hopr, _, hep⟩ := gen_bin.1 hr
    exact wf_bin.2 ⟨ihl hl, ihr hrr, by
      rintro _ ⟨⟩
      exact ⟨ho, chainPads_of_chainOK hckl, chainPads_of_chainOK hckr, hcl, oprPre_of_oprOKp hopr, hep⟩⟩

/-! the operators keep trees well-formed -/

theorem wf_binop {o : BOp} {a b : HS} (ha : wf a = true) (hb : wf b = true) : wf (.bin o a b none) = true :=
  wf_bin.2 ⟨ha, hb, nofun⟩
theorem wf_invert {a : HS} (ha : wf a = true) : wf a.invert = true :=
  (wf_compl (wf_not_cell ha)).2 ⟨ha, nofun⟩

theorem wf_iand {a x : HS} (ha : wf a = true) (hx : wf x = true) : wf (a.iand x) = true := by
  fun_induction HS.iand a x with
  | case1 l d s c vn n x =>
    obtain ⟨hl, hu, hn⟩ := wf_bin.1 ha
    exact wf_bin.2 ⟨hl, wf_binop hu hx, hn⟩
  | case2 l r n x _ ih =>
    obtain ⟨hl, hr, hn⟩ := wf_bin.1 ha
    exact wf_bin.2 ⟨hl, ih hr hx, hn⟩
  | case3 h x => exact wf_binop ha hx

theorem wf_ior {a x : HS} (ha : wf a = true) (hx : wf x = true) : wf (a.ior x) = true := by
  fun_induction HS.ior a x with
  | case1 l d s c vn n x =>
    obtain ⟨hl, hu, hn⟩ := wf_bin.1 ha
    exact wf_bin.2 ⟨hl, wf_binop hu hx, hn⟩
  | case2 l r n x _ ih =>
    obtain ⟨hl, hr, hn⟩ := wf_bin.1 ha
    exact wf_bin.2 ⟨hl, ih hr hx, hn⟩
  | case3 h x => exact wf_binop ha hx

def Op.operand : Op → Option HS
  | .and x => some x | .rand x => some x | .or x => some x | .ror x => some x
  | .not => none | .iand x => some x | .ior x => some x

theorem wf_applyOp {h : HS} {op : Op} (hh : wf h = true) (hx : ∀ x, op.operand = some x → wf x = true) :
    wf (applyOp h op) = true := by
  cases op with
  | and x => exact wf_binop hh (hx x rfl)
  | rand x => exact wf_binop (hx x rfl) hh
  | or x => exact wf_binop hh (hx x rfl)
  | ror x => exact wf_binop (hx x rfl) hh
  | not => exact wf_invert hh
  | iand x => exact wf_iand hh (hx x rfl)
  | ior x => exact wf_ior hh (hx x rfl)

/-- a step of a history of a cell's geometry: an edit with the Python operators, or a write -/
inductive Step where
  | edit (op : Op)
  | write

def Step.ok : Step → Prop
  | .edit op => ∀ x, op.operand = some x → wf x = true
  | .write => True

/-- the tree (and the counter of fresh node ids) after a step: a write leaves the updated nodes on the tree -/
def runStep (st : HS × Nat) : Step → HS × Nat
  | .edit op => (applyOp st.1 op, st.2)
  | .write => updateValues st.2 st.1

def stepSem (ρ : Env) (b : Bool) : Step → Bool
  | .edit op => opSem ρ b op
  | .write => b

theorem runStep_spec {st : HS × Nat} {s : Step} (hw : wf st.1 = true) (hs : s.ok) :
    wf (runStep st s).1 = true ∧ ∀ ρ, (runStep st s).1.eval ρ = stepSem ρ (st.1.eval ρ) s := by
  cases s with
  | edit op => exact ⟨wf_applyOp hw hs, applyOp_eval _ op⟩
  | write => exact ⟨C02_ready_wf _ (C02_update_ready st.2 st.1 hw), C02_update_meaning st.2 st.1 hw⟩

/-- **C02_history_wf (DESIGN's C02_history).** Start from any well-formed tree (read, or built from scratch). After
    *any* sequence of `&`, `|`, `~`, `&=`, `|=` (either operand order; operands any well-formed trees, built or read
    from other cells) interleaved with *any* number of writes: the tree is well-formed, its region is the fold of the
    Boolean operations over the operands' regions, and the text the next write produces denotes exactly that region. -/
theorem C02_history_wf (h0 : HS) (c0 : Nat) (steps : List Step) (hw : wf h0 = true) (hs : ∀ s ∈ steps, s.ok) :
    wf (steps.foldl runStep (h0, c0)).1 = true ∧
    (∀ ρ, (steps.foldl runStep (h0, c0)).1.eval ρ = steps.foldl (stepSem ρ) (h0.eval ρ)) ∧
    ∃ e, denote (updateValues (steps.foldl runStep (h0, c0)).2 (steps.foldl runStep (h0, c0)).1).1.fmt = some e ∧
      ∀ ρ, e.eval ρ = steps.foldl (stepSem ρ) (h0.eval ρ) := by
  have key (ρ : Env) : wf (steps.foldl runStep (h0, c0)).1 = true ∧
      (steps.foldl runStep (h0, c0)).1.eval ρ = steps.foldl (stepSem ρ) (h0.eval ρ) :=
    List.foldl_rel (f := runStep) (g := stepSem ρ) (r := fun st b => wf st.1 = true ∧ st.1.eval ρ = b) ⟨hw, rfl⟩
      fun s hm st b ⟨h1, h2⟩ =>
      ⟨(runStep_spec h1 (hs s hm)).1, by rw [(runStep_spec h1 (hs s hm)).2 ρ, h2]⟩
  have k1 := (key fun _ _ => false).1
  obtain ⟨e, he, hv⟩ := C02_write_meaning_wf (steps.foldl runStep (h0, c0)).2 _ k1
  exact ⟨k1, fun ρ => (key ρ).2, e, he, fun ρ => by rw [hv ρ, (key ρ).2]⟩

theorem cell_update_spec (ctr : Nat) (c : CG) (hw : wf c.hs = true) (hp : chainPads c.chain = true) :
    ready (c.update ctr).1.hs = true ∧ chainOK (c.update ctr).1.chain (c.update ctr).1.hs.fmt = true ∧
      ∀ ρ, (c.update ctr).1.hs.eval ρ = c.hs.eval ρ := by
  have hr := C02_update_ready ctr c.hs hw
  have hm := C02_update_meaning ctr c.hs hw
  by_cases ht : c.target = (updateValues ctr c.hs).1.nodeId.getD 0
  · obtain ⟨k1, k2⟩ := closeParens_spec true c.chain (updateValues ctr c.hs).1 hr hp
    have hu : (c.update ctr).1 =
        ⟨(closeParens c.chain (updateValues ctr c.hs).1).1, c.target, (closeParens c.chain (updateValues ctr c.hs).1).2⟩ := by
      simp [CG.update, ht]
    rw [hu]
    exact ⟨k1.g, k2, fun ρ => (k1.same.ev ρ).trans (hm ρ)⟩
  · have hu : (c.update ctr).1 = ⟨[], (updateValues ctr c.hs).1.nodeId.getD 0, (updateValues ctr c.hs).1⟩ := by
      simp [CG.update, ht]
    rw [hu]
    exact ⟨hr, rfl, hm⟩

/-- **C02_cell_update.** The cell level: from a well-formed geometry and well-formed parentheses around it,
    `Cell._update_values` leaves the cell's tree entry in the state `C02_cell_write_meaning` asks for; so the geometry
    part of the written cell denotes the region of `cell.geometry`. -/
theorem C02_cell_update (ctr : Nat) (c : CG) (hw : wf c.hs = true) (hp : chainPads c.chain = true) :
    ∃ e, denote (c.update ctr).1.fmt = some e ∧ ∀ ρ, e.eval ρ = c.hs.eval ρ := by
  obtain ⟨h1, h2, h3⟩ := cell_update_spec ctr c hw hp
  obtain ⟨e, he, hv⟩ := C02_cell_write_meaning _ h1 h2
  exact ⟨e, he, fun ρ => by rw [hv ρ, h3 ρ]⟩

/-! ## the `operator` setter (`hs.operator = …`; `__switch_operator` with a new symbol) -/

/-- **C02_ops_setOperator.** After `hs.operator = o'` the region is the new operator applied to the unchanged
    operands. -/
theorem C02_ops_setOperator (o o' : BOp) (l r : HS) (n : Option GN) (ρ : Env) :
    ((HS.bin o l r n).setOperator o').eval ρ =
      (match o' with
        | .inter => l.eval ρ && r.eval ρ
        | .union => l.eval ρ || r.eval ρ) := by
  cases o' <;> rfl

/-- the syntax node now carries the text of the *other* operator, which `wf` allows (`oprPre`) and `_update_node`
    repairs -/
theorem wf_setOperator (o' : BOp) {h : HS} (hw : wf h = true) : wf (h.setOperator o') = true := by
  cases h with
  | unit _ _ _ _ => exact hw
  | compl _ _ => exact hw
  | bin o l r n => exact wf_bin.2 (wf_bin.1 hw)

/-- **C02_setOperator_write.** `hs.operator = o'` on any well-formed binary tree, then a write: the text denotes the
    new operator applied to the unchanged operands. This is where `__switch_operator` runs with a *new* symbol
    (`switch_colon_spec`: the ":" goes on a blank MCNP reads, or in front; `updateNodeBin_inter`: an old ":" is blanked
    out and a separator stays). -/
theorem C02_setOperator_write (c : Nat) (o o' : BOp) (l r : HS) (n : Option GN)
    (hw : wf (.bin o l r n) = true) :
    ∃ e, denote (updateValues c ((HS.bin o l r n).setOperator o')).1.fmt = some e ∧
      ∀ ρ, e.eval ρ = (match o' with
        | .inter => l.eval ρ && r.eval ρ
        | .union => l.eval ρ || r.eval ρ) := by
  obtain ⟨e, he, hv⟩ := C02_write_meaning_wf c _ (wf_setOperator o' hw)
  exact ⟨e, he, fun ρ => by rw [hv ρ, C02_ops_setOperator]⟩

/-! ## edits at any node of the tree (address = path from the root), interleaved with writes -/

/-- what is done to the addressed HalfSpace `sub` -/
inductive NodeEdit where
  /-- `sub & x`, `x & sub`, `sub | x`, `x | sub`, `~sub`, `sub &= x`, `sub |= x`, assigned back to where `sub` was -/
  | op (o : Op)
  /-- `sub.operator = o'` (in place) -/
  | setOperator (o' : BOp)
  /-- `parent.left = x`, `parent.right = x`, `cell.geometry = x` -/
  | replace (x : HS)

def NodeEdit.apply (e : NodeEdit) (h : HS) : HS :=
  match e with
  | .op o => applyOp h o
  | .setOperator o' => h.setOperator o'
  | .replace x => x

def NodeEdit.ok : NodeEdit → Prop
  | .op o => ∀ x, o.operand = some x → wf x = true
  | .setOperator _ => True
  | .replace x => wf x = true

theorem wf_nodeEdit {e : NodeEdit} (he : e.ok) {h : HS} (hw : wf h = true) : wf (e.apply h) = true := by
  cases e with
  | op o => exact wf_applyOp hw he
  | setOperator o' => exact wf_setOperator o' hw
  | replace x => exact he

theorem wf_editAt (f : HS → HS) (hf : ∀ h, wf h = true → wf (f h) = true) (p : Path) (h : HS)
    (hw : wf h = true) : wf (h.editAt f p) = true := by
  fun_induction HS.editAt f p h with
  | case1 h => exact hf h hw
  | case2 => exact hw
  | case3 p n l hl ih =>
    have hcu : isCellUnit l = false := (cell_or l).resolve_left fun ⟨d, s, vn, e⟩ => hl d s vn e
    obtain ⟨h1, h2⟩ := (wf_compl hcu).1 hw
    exact (wf_compl (wf_not_cell (ih h1))).2 ⟨ih h1, h2⟩
  | case4 p o l r n ih =>
    obtain ⟨h1, h2, h3⟩ := wf_bin.1 hw
    exact wf_bin.2 ⟨ih h1, h2, h3⟩
  | case5 p o l r n ih =>
    obtain ⟨h1, h2, h3⟩ := wf_bin.1 hw
    exact wf_bin.2 ⟨h1, ih h2, h3⟩
  | case6 => exact hw

/-- **C02_editAt_meaning.** The region after an edit at a path depends only on the region the edit produces at the
    addressed node: edits with the same local meaning (e.g. `sub &= x` and `sub & x`) give the same region. -/
theorem C02_editAt_meaning (f g : HS → HS) (hfg : ∀ h ρ, (f h).eval ρ = (g h).eval ρ) (p : Path) (h : HS) (ρ : Env) :
    (h.editAt f p).eval ρ = (h.editAt g p).eval ρ := by
  induction p generalizing h with
  | nil => exact hfg h ρ
  | cons d p ih =>
    cases h with
    | unit _ _ _ _ => cases d <;> rfl
    | compl l n =>
      cases d with
      | r => rfl
      | l =>
        cases l with
        | unit d' s c vn =>
          cases c
          · exact congrArg (!·) (ih (.unit d' s false vn))
          · rfl
        | compl l' n' => exact congrArg (!·) (ih (.compl l' n'))
        | bin o' l' r' n' => exact congrArg (!·) (ih (.bin o' l' r' n'))
    | bin o l r n =>
      cases d with
      | l =>
        cases o
        · show (_ && _) = (_ && _); rw [ih l]
        · show (_ || _) = (_ || _); rw [ih l]
      | r =>
        cases o
        · show (_ && _) = (_ && _); rw [ih r]
        · show (_ || _) = (_ || _); rw [ih r]

/-- an edit of a geometry at any node, or a write -/
inductive Edit where
  | at (p : Path) (e : NodeEdit)
  | write

def Edit.ok : Edit → Prop
  | .at _ e => e.ok
  | .write => True

def runEdit (st : HS × Nat) : Edit → HS × Nat
  | .at p e => (st.1.editAt e.apply p, st.2)
  | .write => updateValues st.2 st.1

theorem runEdit_wf {st : HS × Nat} {e : Edit} (hw : wf st.1 = true) (he : e.ok) : wf (runEdit st e).1 = true := by
  cases e with
  | «at» p e => exact wf_editAt _ (fun h hh => wf_nodeEdit he hh) p st.1 hw
  | write => exact C02_ready_wf _ (C02_update_ready st.2 st.1 hw)

/-- **C02_history_edits.** Histories over the whole edit vocabulary at *any* node: after any sequence of edits —
    each one of `& | ~ &= |=` (either operand order), `hs.operator = …`, `parent.left/right = x` applied to the
    HalfSpace at any path from the root — interleaved with any number of writes (write; edit an inner node; write;
    edit the root; write …), from a well-formed tree with well-formed operands: the tree is well-formed, and the
    text the next write produces denotes exactly the region of the tree the API exposes at that moment. -/
theorem C02_history_edits (h0 : HS) (c0 : Nat) (es : List Edit) (hw : wf h0 = true) (hs : ∀ e ∈ es, e.ok) :
    wf (es.foldl runEdit (h0, c0)).1 = true ∧
    ∃ e, denote (updateValues (es.foldl runEdit (h0, c0)).2 (es.foldl runEdit (h0, c0)).1).1.fmt = some e ∧
      ∀ ρ, e.eval ρ = (es.foldl runEdit (h0, c0)).1.eval ρ := by
  have key : wf (es.foldl runEdit (h0, c0)).1 = true :=
    List.foldlRecOn (motive := fun st => wf st.1 = true) es runEdit hw fun st h e he => runEdit_wf h (hs e he)
  exact ⟨key, C02_write_meaning_wf _ _ key⟩

/-- every text written *during* such a history — not only the last one — denotes the region of the tree at that
    moment: a history cut at any write is a history -/
theorem C02_history_every_write (h0 : HS) (c0 : Nat) (es es' : List Edit) (hw : wf h0 = true)
    (hs : ∀ e ∈ es ++ .write :: es', e.ok) :
    ∃ e, denote (updateValues (es.foldl runEdit (h0, c0)).2 (es.foldl runEdit (h0, c0)).1).1.fmt = some e ∧
      ∀ ρ, e.eval ρ = (es.foldl runEdit (h0, c0)).1.eval ρ :=
  (C02_history_edits h0 c0 es hw (fun e he => hs e (List.mem_append_left _ he))).2

/-- a step on the cell: `cell.geometry = <edit>(cell.geometry)` or a write of the cell -/
def runCellStep (st : CG × Nat) : Step → CG × Nat
  | .edit op => (st.1.set (applyOp st.1.hs op), st.2)
  | .write => st.1.update st.2

theorem runCellStep_spec {st : CG × Nat} {s : Step} (hw : wf st.1.hs = true) (hp : chainPads st.1.chain = true)
    (hs : s.ok) :
    wf (runCellStep st s).1.hs = true ∧ chainPads (runCellStep st s).1.chain = true ∧
      ∀ ρ, (runCellStep st s).1.hs.eval ρ = stepSem ρ (st.1.hs.eval ρ) s := by
  cases s with
  | edit op => exact ⟨wf_applyOp hw hs, hp, applyOp_eval _ op⟩
  | write =>
    obtain ⟨h1, h2, h3⟩ := cell_update_spec st.2 st.1 hw hp
    exact ⟨C02_ready_wf _ h1, chainPads_of_chainOK h2, h3⟩

/-- **C02_cell_history.** `C02_history_wf` at the level of the cell (`Cell.geometry` setter, `Cell._update_values` with
    the parentheses that were read around the whole geometry): after any interleaving of edits and writes the
    geometry part of the next written cell denotes the fold of the Boolean operations over the operands' regions. -/
theorem C02_cell_history (c0 : CG) (n0 : Nat) (steps : List Step) (hw : wf c0.hs = true)
    (hp : chainPads c0.chain = true) (hs : ∀ s ∈ steps, s.ok) :
    wf (steps.foldl runCellStep (c0, n0)).1.hs = true ∧
    (∀ ρ, (steps.foldl runCellStep (c0, n0)).1.hs.eval ρ = steps.foldl (stepSem ρ) (c0.hs.eval ρ)) ∧
    ∃ e, denote ((steps.foldl runCellStep (c0, n0)).1.update (steps.foldl runCellStep (c0, n0)).2).1.fmt = some e ∧
      ∀ ρ, e.eval ρ = steps.foldl (stepSem ρ) (c0.hs.eval ρ) := by
  have key (ρ : Env) : (wf (steps.foldl runCellStep (c0, n0)).1.hs = true ∧
      chainPads (steps.foldl runCellStep (c0, n0)).1.chain = true) ∧
      (steps.foldl runCellStep (c0, n0)).1.hs.eval ρ = steps.foldl (stepSem ρ) (c0.hs.eval ρ) :=
    List.foldl_rel (f := runCellStep) (g := stepSem ρ)
      (r := fun st b => (wf st.1.hs = true ∧ chainPads st.1.chain = true) ∧ st.1.hs.eval ρ = b)
      ⟨⟨hw, hp⟩, rfl⟩ fun s hm st b ⟨⟨h1, h2⟩, h3⟩ =>
        have k := runCellStep_spec h1 h2 (hs s hm)
        ⟨⟨k.1, k.2.1⟩, by rw [k.2.2 ρ, h3]⟩
  obtain ⟨k1, k2⟩ := (key fun _ _ => false).1
  obtain ⟨e, he, hv⟩ := C02_cell_update (steps.foldl runCellStep (c0, n0)).2 _ k1 k2
  exact ⟨k1, fun ρ => (key ρ).2, e, he, fun ρ => by rw [hv ρ, (key ρ).2]⟩

/-! ## the constants of the source (generated: `Gen/Geometry.lean`, `Gen/Constants.lean`) -/

/-- **C02_new_nodes_ready.** The texts the code gives to new nodes satisfy what `ready` asks of paddings: the operator
    text of a new intersection is a non-empty run of separators, of a new union separators around one ":", of a new
    complement separators and then "#"; new parentheses are exactly "(" and ")"; and the symbols of
    `geometry_operators.Operator` are the characters the Spec reads as `:` and `#`. Editing any of these constants
    in the source regenerates `Gen/Geometry.lean` and re-opens this proof. -/
theorem C02_new_nodes_ready :
    (isSep false (textOfCodes Gen.newOprInterCodes) = true ∧ cmtAfter false (textOfCodes Gen.newOprInterCodes) = false ∧
      (textOfCodes Gen.newOprInterCodes).isEmpty = false) ∧
    unionOpr (textOfCodes Gen.newOprUnionCodes) = true ∧
    complOpr (textOfCodes Gen.newOprComplCodes) = true ∧
    (textOfCodes Gen.newParenOpenCodes = [.lp] ∧ textOfCodes Gen.newParenCloseCodes = [.rp]) ∧
    (textOfCodes Gen.operatorUnionCodes = [.colon] ∧ textOfCodes Gen.operatorComplementCodes = [.hash]) ∧
    0 < Gen.blankSpaceContinue := by
  decide

/-! ## non-vacuity -/

/-- `(-1 | -2) & +3` built from scratch with the Python operators -/
def ex1 : HS := ((surfaceSide 1 false).or (surfaceSide 2 false)).and (surfaceSide 3 true)

/-- `_update_values` brings it into the ready state … -/
example : ready (updateValues 1 ex1).1 = true := by decide +kernel
/-- … and the text is `(-1 : -2) 3`. -/
example : (updateValues 1 ex1).1.fmt =
    [.lp, .minus, .digit 1, .sp, .colon, .sp, .minus, .digit 2, .rp, .sp, .digit 3] := by decide +kernel
/-- a complement of a surface, a cell complement, and an `|=` on an intersection -/
example : ready (updateValues 1 (((surfaceSide 4 true).invert.and (cellInvert 91)).ior ex1)).1 = true := by decide +kernel

/-- Without the parentheses the same tokens denote another region (what the unrepaired code wrote):
    `-1 : -2 3` is not `(-1 : -2) 3`. -/
theorem C02_parentheses_matter :
    (denote [.minus, .digit 1, .sp, .colon, .sp, .minus, .digit 2, .sp, .digit 3]).map (E.eval fun _ _ => false)
      ≠ (denote (updateValues 1 ex1).1.fmt).map (E.eval fun _ _ => false) := by
  decide +kernel

end MontePyVerif.C02
