import MontePyVerif.Props.C04Core
/-!
# C04 — histories with operations that are not number assignments, and with writes in between (seeded C04e, C04f)

The property says "after any sequence of renumberings … every reference resolves to the same object as
before".  Between the renumberings and the write a user may call operations that assign no number and
take no reference away: `problem.add_cell_children_to_problem()` (`Edit.relink`: every surface, material
and transform is linked to the problem again and the three collections are rebuilt, sorted by number) and
`cell.geometry = cell.geometry & ±surface` / `& ~cell` (`Edit.addLeaf`: one more leaf).  The theorems
below extend `C04_wf_step` / `C04_history` to histories of such edits (`List Edit`), and to every file written
in the course of one (`List Item`: edits and `write_to_file` calls).
-/
namespace MontePyVerif.Renumber
open MontePyVerif.Collection
open MontePyVerif.Spec.Refs

/-! ### sorting and `unique` keep the members -/

theorem mem_insertByNum (num : ObjId → Int) (o x : ObjId) (l : List ObjId) :
    x ∈ insertByNum num o l ↔ x = o ∨ x ∈ l := by
  induction l with
  | nil => simp only [insertByNum, List.mem_singleton, List.not_mem_nil, or_false]
  | cons a t ih =>
    simp only [insertByNum]
    split
    · exact List.mem_cons
    · rw [List.mem_cons, ih, List.mem_cons, or_left_comm]

theorem mem_sortByNum (num : ObjId → Int) (x : ObjId) (l : List ObjId) : x ∈ sortByNum num l ↔ x ∈ l := by
  induction l with
  | nil => exact Iff.rfl
  | cons a t ih =>
    show x ∈ insertByNum num a (sortByNum num t) ↔ _
    rw [mem_insertByNum, ih, List.mem_cons]

theorem mem_uniqueById (x : ObjId) : ∀ (l acc : List ObjId), x ∈ uniqueById acc l ↔ x ∈ acc ∨ x ∈ l
  | [], acc => by simp only [uniqueById, List.not_mem_nil, or_false]
  | o :: t, acc => by
    simp only [uniqueById]
    split
    · rename_i h
      rw [mem_uniqueById x t acc, List.mem_cons]
      exact ⟨Or.imp_right Or.inr, fun h1 => h1.elim Or.inl fun h2 => h2.elim (fun e => Or.inl (e ▸ h)) Or.inr⟩
    · rw [mem_uniqueById x t (acc ++ [o]), List.mem_append, List.mem_singleton, List.mem_cons, or_assoc]

/-- in `addCellChildrenToProblem`: `a` the members of a collection, `b` the children of the cells -/
theorem mem_sort_unique (num : ObjId → Int) {a b : List ObjId} (hb : ∀ x ∈ b, x ∈ a) (x : ObjId) :
    x ∈ sortByNum num (uniqueById [] (a ++ b)) ↔ x ∈ a := by
  rw [mem_sortByNum, mem_uniqueById, List.mem_append]
  exact ⟨fun h => h.elim (fun h => nomatch h) fun h => h.elim id (hb x), fun h => Or.inr (Or.inl h)⟩

theorem rebuild_some {s s' : St} {os : List ObjId} (h : rebuild s os = some s') :
    s'.objs = os ∧ s'.num = s.num ∧ s'.owned = true ∧ Inv s' := by
  unfold rebuild at h
  split at h
  · rename_i hnd
    cases h
    refine ⟨rfl, rfl, rfl, ⟨hnd, ?_, ?_⟩⟩
    · exact setAll_cacheOK _ _ _ _ (fun p hp => by cases hp) (fun o ho => ho)
    · intro _ o ho
      show (if o ∈ os then true else s.link o) = true
      rw [if_pos ho]
  · cases h

/-! ### the frame of a reference-preserving operation -/

/-- `q` has the numbers, the pointer fields, the cells and the universes of `p`, and the same surfaces, materials
    and transforms (possibly in another order): what `add_cell_children_to_problem` keeps.  Against `SameShape` the
    numbers stay and the order goes. -/
structure SameLinks (p q : Prob) : Prop where
  cells : q.cells = p.cells
  univs : q.univs = p.univs
  num : ∀ k, (q.coll k).num = (p.coll k).num
  owned : ∀ k, (q.coll k).owned = true
  mem : ∀ k o, o ∈ (q.coll k).objs ↔ o ∈ (p.coll k).objs
  cell : q.cell = p.cell
  surf : q.surf = p.surf
  mat : q.mat = p.mat
  uData : q.uData = p.uData
  fillData : q.fillData = p.fillData

theorem SameLinks.linksKept {p q : Prob} (h : SameLinks p q) : LinksKept p q (fun _ => []) :=
  LinksKept.of_cell (by rw [h.cells]) (by rw [h.univs]) h.mem h.surf h.mat h.cell

theorem cellSurfaces_mem {p : Prob} (h : Closed p) {x : ObjId} (hx : x ∈ cellSurfaces p) : x ∈ p.surfs.objs := by
  simp only [cellSurfaces, List.mem_flatMap, List.mem_map, List.mem_filter, Bool.not_eq_true'] at hx
  obtain ⟨c, hc, l, ⟨hl, hnc⟩, rfl⟩ := hx
  have := h.geom c hc l hl
  rwa [hnc] at this

/-- **C04_relink_frame** — `problem.add_cell_children_to_problem()` on a well-formed problem, whatever numbers the
    objects carry at that moment: no number changes, no pointer field changes (in particular `Surface._transform`
    and `Surface._periodic_surface` are NOT looked up again by the numbers of the cards), cells and universes are
    untouched, the surfaces, materials and transforms of the problem have the same objects as members, and
    C06's invariant holds for the rebuilt collections. -/
theorem C04_relink_frame (p : Prob) (h : WF p) :
    SameLinks p (addCellChildrenToProblem p).1 ∧ ∀ k, Inv ((addCellChildrenToProblem p).1.coll k) := by
  have hc := (closed_iff p).mp h.closed
  dsimp only [addCellChildrenToProblem]
  split
  · rename_i s' m' t' hs hm ht
    obtain ⟨so, sn, sw, si⟩ := rebuild_some hs
    obtain ⟨mo, mn, mw, mi⟩ := rebuild_some hm
    obtain ⟨to, tn, tw, ti⟩ := rebuild_some ht
    refine ⟨⟨rfl, rfl, fun k => ?_, fun k => ?_, fun k o => ?_, rfl, rfl, rfl, rfl, rfl⟩, fun k => ?_⟩
    · exact match k with | .cell => rfl | .surf => sn | .mat => mn | .tr => tn | .univ => rfl
    · exact match k with | .cell => h.owned .cell | .surf => sw | .mat => mw | .tr => tw | .univ => h.owned .univ
    · cases k <;> simp only [Prob.coll]
      · rw [so]
        exact mem_sort_unique _ (fun x => cellSurfaces_mem hc) o
      · rw [mo]
        refine mem_sort_unique _ (fun x hx => ?_) o
        obtain ⟨c, hc', hm⟩ := List.mem_filterMap.mp hx
        exact hc.cellMat c hc' x hm
      · rw [to]
        refine mem_sort_unique _ (fun x hx => ?_) o
        obtain ⟨s, hs, ht⟩ := List.mem_filterMap.mp hx
        exact hc.surfTr s (cellSurfaces_mem hc hs) x ht
    · exact match k with | .cell => h.inv .cell | .surf => si | .mat => mi | .tr => ti | .univ => h.inv .univ
  · exact ⟨⟨rfl, rfl, fun _ => rfl, h.owned, fun _ _ => Iff.rfl, rfl, rfl, rfl, rfl, rfl⟩, h.inv⟩

/-! ### a geometry edit that adds a leaf -/

/-- the edit is applicable: a leaf added to a cell of the problem names a cell / surface of the problem
    (`cell.geometry & +problem.surfaces[n]`); number assignments and `relink` are always applicable -/
def Edit.Applicable (p : Prob) : Edit → Prop
  | .addLeaf c l => c ∈ p.cells.objs → l.target ∈ (if l.isCell then p.cells.objs else p.surfs.objs)
  | _ => True

theorem addLeaf_coll (p : Prob) (c : ObjId) (l : Leaf) (k : Kind) : (addLeaf p c l).coll k = p.coll k := by
  cases k <;> rfl

theorem addLeaf_cell (p : Prob) (c : ObjId) (l : Leaf) (x : ObjId) :
    (addLeaf p c l).cell x = { p.cell x with geom := (p.cell x).geom ++ if c = x then [l] else [] } := by
  show (if x = c then _ else _) = _
  by_cases e : x = c
  · rw [if_pos e, if_pos e.symm, e]
  · rw [if_neg e, if_neg (Ne.symm e), List.append_nil]

theorem addLeaf_linksKept (p : Prob) (c : ObjId) (l : Leaf) :
    LinksKept p (addLeaf p c l) (fun x => if c = x then [l] else []) := by
  have hq := addLeaf_cell p c l
  exact ⟨rfl, rfl, fun k o => by rw [addLeaf_coll], rfl, rfl, fun x => by rw [hq], fun x => by rw [hq],
    fun x => by rw [hq], fun x => by rw [hq], fun x => by rw [hq]⟩

/-- **C04_wf_stepE** — well-formedness (unique numbers in all five collections, every pointer at a member) is an
    invariant of every operation of a history: number assignments (accepted or rejected, `C04_wf_step`),
    `add_cell_children_to_problem` (`C04_relink_frame`) and geometry edits that add a leaf. -/
theorem C04_wf_stepE (p : Prob) (h : WF p) (e : Edit) (ha : e.Applicable p) : WF (stepE p e).1 := by
  cases e with
  | num op => exact C04_wf_step p h op
  | relink =>
    obtain ⟨L, hinv⟩ := C04_relink_frame p h
    show WF (addCellChildrenToProblem p).1
    refine h.of_linksKept L.linksKept hinv L.owned L.fillData (fun m hm => ?_) (fun _ _ _ hl => nomatch hl)
    rw [show (addCellChildrenToProblem p).1.mats.num = p.mats.num from L.num .mat]
    exact h.matPos m ((L.mem .mat m).mp hm)
  | addLeaf c l =>
    refine h.of_linksKept (addLeaf_linksKept p c l) (fun k => addLeaf_coll p c l k ▸ h.inv k)
      (fun k => addLeaf_coll p c l k ▸ h.owned k) rfl h.matPos (fun x hx l' hl' => ?_)
    -- the new leaf: this is what `Applicable` asks for
    split at hl'
    · rename_i e
      rw [List.mem_singleton.mp hl']
      have := ha (e ▸ hx)
      cases hl : l.isCell <;> simp only [hl] at this ⊢ <;> exact this
    · cases hl'

/-- every edit of the history is applicable in the state it is applied in -/
def ApplicableRun : Prob → List Edit → Prop
  | _, [] => True
  | p, e :: t => e.Applicable p ∧ ApplicableRun (stepE p e).1 t

/-- the leaves a history adds to cell `c`, in order -/
def addedLeaves (c : ObjId) : List Edit → List Leaf
  | [] => []
  | .addLeaf c' l :: t => if c' = c then l :: addedLeaves c t else addedLeaves c t
  | _ :: t => addedLeaves c t

theorem stepE_linksKept (p : Prob) (h : WF p) (e : Edit) :
    LinksKept p (stepE p e).1 (fun c => addedLeaves c [e]) := by
  cases e with
  | num op => exact (setNumber_shape p op.kind op.obj op.n).linksKept
  | relink => exact (C04_relink_frame p h).1.linksKept
  | addLeaf c l => exact addLeaf_linksKept p c l

theorem LinksKept.trans {a b c : Prob} {e1 e2 : ObjId → List Leaf} (h1 : LinksKept a b e1) (h2 : LinksKept b c e2) :
    LinksKept a c (fun x => e1 x ++ e2 x) :=
  ⟨h2.cellObjs.trans h1.cellObjs, h2.univObjs.trans h1.univObjs, fun k o => (h2.mem k o).trans (h1.mem k o),
   h2.surf.trans h1.surf, h2.mat.trans h1.mat, fun x => (h2.cellMat x).trans (h1.cellMat x),
   fun x => (h2.cellUniv x).trans (h1.cellUniv x), fun x => (h2.cellFill x).trans (h1.cellFill x),
   fun x => (h2.cellFillTr x).trans (h1.cellFillTr x),
   fun x => by rw [h2.cellGeom, h1.cellGeom, List.append_assoc]⟩

theorem addedLeaves_cons (c : ObjId) (e : Edit) (t : List Edit) :
    addedLeaves c (e :: t) = addedLeaves c [e] ++ addedLeaves c t := by
  cases e with
  | num op => simp [addedLeaves]
  | relink => simp [addedLeaves]
  | addLeaf c' l =>
    by_cases h : c' = c <;> simp [addedLeaves, h]

theorem runE_wf (p : Prob) (h : WF p) (es : List Edit) (ha : ApplicableRun p es) :
    WF (runE p es) ∧ LinksKept p (runE p es) (fun c => addedLeaves c es) := by
  induction es generalizing p with
  | nil =>
    exact ⟨h, LinksKept.of_cell rfl rfl (fun _ _ => Iff.rfl) rfl rfl rfl⟩
  | cons e t ih =>
    have h1 := C04_wf_stepE p h e ha.1
    obtain ⟨hw, hk⟩ := ih (stepE p e).1 h1 ha.2
    refine ⟨hw, ?_⟩
    have he : (fun c => addedLeaves c (e :: t)) = fun x => addedLeaves x [e] ++ addedLeaves x t :=
      funext fun c => addedLeaves_cons c e t
    exact he ▸ (stepE_linksKept p h e).trans hk

/-- **C04_history_neutral** — for every well-formed problem and EVERY finite history of number assignments
    (accepted or rejected), calls of `add_cell_children_to_problem` and geometry edits that add a leaf, in any
    interleaving: the final state is well-formed; every pointer field is the one
    before the history — the transform and the periodic surface of every surface, the MT parent of every material,
    material, universe, fill and fill transform of every cell, and the leaves of every cell followed by the added
    ones; the collections have the same members; and at EVERY reference site of the final state the number written
    resolves, by MCNP's look-up in the written file, to exactly one card: the card of the object the pointer holds. -/
theorem C04_history_neutral (p : Prob) (h : WF p) (es : List Edit) (ha : ApplicableRun p es) :
    WF (runE p es) ∧ LinksKept p (runE p es) (fun c => addedLeaves c es) ∧
    ∀ s ck o, (runE p es).ptr s = some (ck, o) →
      ∃ n, (write (runE p es)).at s = some (ck, n) ∧
        resolve (write (runE p es)) ck n = some (cardIdx (runE p es) ck o) ∧
        ((runE p es).coll (kindOf ck)).objs[cardIdx (runE p es) ck o]? = some o := by
  obtain ⟨hw, hk⟩ := runE_wf p h es ha
  exact ⟨hw, hk, fun s ck o hs => C04_resolve (runE p es) hw s ck o hs⟩

/-! ### non-vacuity: the example problem, a swap of the two surfaces (a periodic pair), then relink and a new leaf -/

def exEdits : List Edit :=
  [.num ⟨.surf, 0, 99⟩, .num ⟨.surf, 1, 1⟩, .num ⟨.surf, 0, 2⟩, .relink, .addLeaf 1 { isCell := false, target := 0 }]

theorem exEdits_applicable : ApplicableRun exProb exEdits := by
  refine ⟨trivial, trivial, trivial, trivial, ?_, trivial⟩
  intro _
  decide
example : ((runE exProb exEdits).surfs.objs, (write (runE exProb exEdits)).surfs) =
    ((runE exProb (exEdits.take 3)).surfs.objs.reverse, (write (runE exProb (exEdits.take 3))).surfs.reverse) := by decide +kernel
example : (runE exProb exEdits).surf = exProb.surf := (C04_history_neutral exProb exProb_wf exEdits exEdits_applicable).2.1.surf

/-! ### histories with writes in between (seeded C04f) -/

def editsOf (is : List Item) : List Edit := is.filterMap id
def writesIn (is : List Item) : Nat := (is.filter Option.isNone).length

theorem editsOf_none (t : List Item) : editsOf (none :: t) = editsOf t := rfl
theorem editsOf_some (e : Edit) (t : List Item) : editsOf (some e :: t) = e :: editsOf t := rfl
theorem writesIn_none (t : List Item) : writesIn (none :: t) = writesIn t + 1 := rfl
theorem writesIn_some (e : Edit) (t : List Item) : writesIn (some e :: t) = writesIn t := rfl
theorem editsOf_append (a b : List Item) : editsOf (a ++ b) = editsOf a ++ editsOf b := by
  simp [editsOf]

theorem applicableRun_append_left (p : Prob) (a b : List Edit) (h : ApplicableRun p (a ++ b)) : ApplicableRun p a := by
  induction a generalizing p with
  | nil => trivial
  | cons e t ih => exact ⟨h.1, ih _ h.2⟩

/-- the loop of `runW` from any list `fs` of files written so far: the edits are applied, every write adds one file -/
theorem foldl_stepW (p : Prob) (fs : List WFile) (is : List Item) :
    ∃ gs, is.foldl stepW (p, fs) = (runE p (editsOf is), fs ++ gs) ∧ gs.length = writesIn is := by
  induction is generalizing p fs with
  | nil => exact ⟨[], by rw [List.append_nil]; rfl, rfl⟩
  | cons i t ih =>
    cases i with
    | none =>
      obtain ⟨gs, h1, h2⟩ := ih p (fs ++ [write p])
      refine ⟨write p :: gs, ?_, by rw [writesIn_none, List.length_cons, h2]⟩
      rw [List.foldl_cons, editsOf_none]
      exact h1.trans (by rw [List.append_assoc]; rfl)
    | some e =>
      rw [List.foldl_cons, editsOf_some, writesIn_some]
      exact ih (stepE p e).1 fs

/-- **C04_history_writes** — for every well-formed problem and EVERY finite history of edits (number assignments
    accepted or rejected, `add_cell_children_to_problem`, added leaves) with ANY number of `write_to_file` calls at any
    places in it: the final problem is the one the history reaches with the writes left
    out; as many files are written as there are writes; and the file of EVERY write is the write of the state the
    edits before it reach — nothing an earlier write did enters it — so that in every such file, at every reference
    site, the number written resolves by MCNP's look-up to exactly one card: the card of the object the pointer holds,
    which is the object it held before the history (`LinksKept`).  In particular an object that leaves its number,
    is written, and returns (its old number handed on to another object or not) is referred to by its number of
    the moment in every file. -/
theorem C04_history_writes (p : Prob) (h : WF p) (is : List Item) (ha : ApplicableRun p (editsOf is)) :
    (runW p is).1 = runE p (editsOf is) ∧ (runW p is).2.length = writesIn is ∧
    ∀ pre post, is = pre ++ none :: post →
      ∃ f, (runW p is).2[writesIn pre]? = some f ∧ f = write (runE p (editsOf pre)) ∧
        WF (runE p (editsOf pre)) ∧ LinksKept p (runE p (editsOf pre)) (fun c => addedLeaves c (editsOf pre)) ∧
        ∀ s ck o, (runE p (editsOf pre)).ptr s = some (ck, o) →
          ∃ n, f.at s = some (ck, n) ∧ resolve f ck n = some (cardIdx (runE p (editsOf pre)) ck o) ∧
            ((runE p (editsOf pre)).coll (kindOf ck)).objs[cardIdx (runE p (editsOf pre)) ck o]? = some o := by
  obtain ⟨gs, h1, h2⟩ := foldl_stepW p [] is
  refine ⟨congrArg Prod.fst h1, (congrArg (·.2.length) h1).trans h2, ?_⟩
  intro pre post hs
  have hpre : ApplicableRun p (editsOf pre) := by
    rw [hs, editsOf_append] at ha
    exact applicableRun_append_left p _ _ ha
  obtain ⟨hw, hk, hr⟩ := C04_history_neutral p h (editsOf pre) hpre
  refine ⟨write (runE p (editsOf pre)), ?_, rfl, hw, hk, hr⟩
  -- the loop over `pre ++ none :: post` is the loop over `post` after this write after the loop over `pre`
  obtain ⟨g1, e1, l1⟩ := foldl_stepW p [] pre
  obtain ⟨g2, e2, _⟩ := foldl_stepW (runE p (editsOf pre)) (g1 ++ [write (runE p (editsOf pre))]) post
  have : (runW p is).2 = g1 ++ write (runE p (editsOf pre)) :: g2 := by
    rw [runW, hs, List.foldl_append, e1, List.foldl_cons]
    exact (congrArg Prod.snd e2).trans (List.append_assoc ..)
  rw [this, ← l1, List.getElem?_append_right (Nat.le_refl _), Nat.sub_self]
  rfl

/-! non-vacuity: the periodic pair of `exProb`: surface 0 leaves its number, WRITE, returns and surface 1 takes the
    number just left, WRITE, relink: two files, the first with the intermediate number at the partner's pointer -/
def exItems : List Item :=
  [some (.num ⟨.surf, 0, 99⟩), none, some (.num ⟨.surf, 0, 1⟩), some (.num ⟨.surf, 1, 99⟩), none, some .relink]

theorem exItems_applicable : ApplicableRun exProb (editsOf exItems) :=
  ⟨trivial, trivial, trivial, trivial, trivial⟩
example : (runW exProb exItems).2.length = 2 := (C04_history_writes exProb exProb_wf exItems exItems_applicable).2.1
example : ((runW exProb exItems).2.map (fun f => f.surfs.map (fun s => (s.number, s.per)))) =
    [(write (runE exProb [.num ⟨.surf, 0, 99⟩])).surfs.map (fun s => (s.number, s.per)),
     (write (runE exProb [.num ⟨.surf, 0, 99⟩, .num ⟨.surf, 0, 1⟩, .num ⟨.surf, 1, 99⟩])).surfs.map (fun s => (s.number, s.per))] := by decide +kernel

end MontePyVerif.Renumber
