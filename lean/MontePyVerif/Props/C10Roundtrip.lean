import MontePyVerif.Props.C10
import MontePyVerif.Props.C01Blocks
import MontePyVerif.Lemmas.ListBasics
/-!
# C10, end to end: a card wrapped by `wrap_string_for_mcnp` is read back by MCNP's rules as the same card

The reader is `Spec/File.lean` (`startCard`, `contStep`, `words`), the card-level notions are `WCard` of
`Model/FileWrite.lean` and `CardOK`, `readCard` of `Props/C01Blocks.lean`, so that `C10_roundtrip` delivers exactly the hypothesis
`CardOK` that `C01_blocks` asks of every written card, and says what `readCard` of the wrapped card is.
-/
namespace MontePyVerif.C10
open MontePyVerif MontePyVerif.Wrap

/-! ## 1. the word splitter of `Spec/File.lean` is a `WordReader` (bridge to C01's reader) -/

theorem fileWordsAux_acc (geo : Bool) : ∀ (s cur : Str) (acc acc' : List Str),
    Spec.File.wordsAux geo s cur (acc ++ acc') = acc'.reverse ++ Spec.File.wordsAux geo s cur acc
  | [], cur, acc, acc' => by
    by_cases h : cur.isEmpty = true <;> simp [Spec.File.wordsAux, h]
  | c :: t, cur, acc, acc' => by
    have flush : (if cur.isEmpty = true then acc ++ acc' else cur.reverse :: (acc ++ acc')) =
        (if cur.isEmpty = true then acc else cur.reverse :: acc) ++ acc' := by
      by_cases h : cur.isEmpty = true <;> simp [h]
    rw [Spec.File.wordsAux, Spec.File.wordsAux, flush]
    by_cases h1 : Spec.File.isSep c = true
    · rw [if_pos h1, if_pos h1]
      exact fileWordsAux_acc geo t [] _ acc'
    · rw [if_neg h1, if_neg h1]
      by_cases h2 : ((c = '(' || c = ')') || (geo && (c = ':' || c = '#'))) = true
      · rw [if_pos h2, if_pos h2]
        exact fileWordsAux_acc geo t [] ([c] :: _) acc'
      · rw [if_neg h2, if_neg h2]
        exact fileWordsAux_acc geo t (c :: cur) acc acc'

theorem fileWordsAux_append_blank (geo : Bool) : ∀ (a b cur : Str) (acc : List Str),
    Spec.File.wordsAux geo (a ++ ' ' :: b) cur acc =
      Spec.File.wordsAux geo a cur acc ++ Spec.File.wordsAux geo b [] []
  | [], b, cur, acc => by
    have hs : Spec.File.isSep ' ' = true := by decide
    rw [List.nil_append, Spec.File.wordsAux, Spec.File.wordsAux, if_pos hs]
    exact fileWordsAux_acc geo b [] [] _
  | c :: a, b, cur, acc => by
    rw [List.cons_append, Spec.File.wordsAux, Spec.File.wordsAux]
    by_cases h1 : Spec.File.isSep c = true
    · rw [if_pos h1, if_pos h1]
      exact fileWordsAux_append_blank geo a b _ _
    · rw [if_neg h1, if_neg h1]
      by_cases h2 : ((c = '(' || c = ')') || (geo && (c = ':' || c = '#'))) = true
      · rw [if_pos h2, if_pos h2]
        exact fileWordsAux_append_blank geo a b _ _
      · rw [if_neg h2, if_neg h2]
        exact fileWordsAux_append_blank geo a b _ _

theorem fileWords_append_blank (a b : Str) :
    Spec.File.words (a ++ ' ' :: b) = Spec.File.words a ++ Spec.File.words b :=
  fileWordsAux_append_blank false a b [] []

theorem fileWords_reader : WordReader Spec.File.words :=
  .of_append_blank rfl fileWords_append_blank

theorem fileWords_blanks (n : Nat) : Spec.File.words (blanks n) = [] := by
  have := fileWords_reader.blanks n []
  rwa [List.append_nil, fileWords_reader.nil] at this

/-- C10_words_file — `C10_words` for the word splitter of `Spec/File.lean` (blanks and `=` separate, parentheses are
    words): every text, every width, blank indents, no over-long chunk. -/
theorem C10_words_file (W ni ns : Nat) (text : Str) (h : NoLongChunk W ni ns text) :
    ((textwrapWrap W (blanks ni) (blanks ns) text).map Spec.File.words).flatten = Spec.File.words (munge text) :=
  textwrapWrap_words fileWords_reader W ni ns text h

/-! ## 2. plain lines; the model's tests and `Spec/File.lean`'s tests are the same tests -/

/-- no white space other than the blank (no tab, no control white space, no Unicode space) -/
def Clean (l : Str) : Prop := ∀ c ∈ l, pyIsSpace c = true → c = ' '

instance (l : Str) : Decidable (Clean l) := by unfold Clean; infer_instance

theorem pyIsSpace_of_isTwWs (c : Char) (h : isTwWs c = true) : pyIsSpace c = true := by
  have hall : ∀ n ∈ Gen.textwrapWhitespaceCodes, Gen.pySpaceCodes.contains n = true := by decide
  simp only [isTwWs, List.contains_iff_mem] at h
  exact hall _ h

theorem Clean.ws {l : Str} (h : Clean l) : ∀ c ∈ l, isTwWs c = true → c = ' ' :=
  fun c hc hw => h c hc (pyIsSpace_of_isTwWs c hw)

theorem Clean.tail {c : Char} {l : Str} (h : Clean (c :: l)) : Clean l :=
  fun x hx => h x (List.mem_cons_of_mem _ hx)

theorem Clean.of_subset {l m : Str} (h : Clean l) (hs : m ⊆ l) : Clean m :=
  fun c hc => h c (hs hc)

theorem Clean.no_tab {l : Str} (h : Clean l) : ∀ c ∈ l, c ≠ '\t' := by
  rintro c hc rfl
  exact absurd (h _ hc (by decide)) (by decide)

theorem clean_of_printable (l : Str) (h : ∀ c ∈ l, c = ' ' ∨ (33 ≤ c.toNat ∧ c.toNat < 127)) : Clean l := by
  have key : ∀ n ∈ Gen.pySpaceCodes, n ≤ 32 ∨ 127 ≤ n := by decide
  intro c hc hs
  rcases h c hc with h | ⟨h1, h2⟩
  · exact h
  · rcases key _ (List.contains_iff_mem.mp hs) with h | h <;> omega

theorem clean_cons_dollar {t : Str} (h : Clean t) : Clean ('$' :: t) := by
  intro c hc hs
  rcases List.mem_cons.mp hc with rfl | hc
  · exact absurd hs (by decide)
  · exact h c hc hs

theorem blank_of_clean_not_strip (x : Str) (hcl : Clean x) (h : stripNonEmpty x = false) : x = blanks x.length := by
  refine List.eq_replicate_iff.mpr ⟨rfl, fun c hc => hcl c hc ?_⟩
  simp only [stripNonEmpty, List.any_eq_false, Bool.not_eq_true'] at h
  simpa using h c hc

theorem expandTabsAux_clean (n : Nat) : ∀ (l : Str) (col : Nat), Clean l → expandTabsAux n col l = l
  | [], _, _ => rfl
  | c :: rest, col, h => by
    have hc : (c == '\t') = false := by simpa using h.no_tab c List.mem_cons_self
    unfold expandTabsAux
    simp only [hc, Bool.false_eq_true, if_false]
    split <;> rw [expandTabsAux_clean n rest _ h.tail]

theorem expandTabs_clean (n : Nat) (l : Str) (h : Clean l) : expandTabs n l = l :=
  expandTabsAux_clean n l 0 h

theorem munge_clean (l : Str) (h : Clean l) : munge l = l := by
  have h1 : Gen.textwrapExpandTabs = true := by decide
  have h2 : Gen.textwrapReplaceWhitespace = true := by decide
  simp only [munge, h1, h2, if_true, expandTabs_clean _ l h]
  conv => rhs; rw [← List.map_id l]
  apply List.map_congr_left
  intro c hc
  by_cases hx : isTwWs c = true
  · simp [h.ws c hc hx]
  · simp [hx]

theorem leadBlanks_eq (l : Str) : leadBlanks l = (l.takeWhile (· = ' ')).length := by
  fun_induction leadBlanks l with
  | case1 rest ih => simp [ih]
  | case2 l hne =>
    cases l with
    | nil => rfl
    | cons c t =>
      have : c ≠ ' ' := by
        intro h; subst h; exact hne t rfl
      simp [this]

theorem beq_dec (a b : Char) : (a == b) = decide (a = b) := by
  by_cases h : a = b <;> simp [h]

theorem isCommentLine_eq (l : Str) : isCommentLine l = Spec.File.isCommentCard l := by
  have h5 : Gen.blankSpaceContinue = 5 := rfl
  simp only [isCommentLine, Spec.File.isCommentCard, leadBlanks_eq, h5]
  by_cases hl : (l.takeWhile (· = ' ')).length ≥ 5
  · have : ¬ (l.takeWhile (· = ' ')).length < 5 := by omega
    simp [hl, this]
  · have : (l.takeWhile (· = ' ')).length < 5 := by omega
    simp only [hl, if_false, this, decide_true, Bool.true_and]
    cases l.drop (l.takeWhile (· = ' ')).length with
    | nil => rfl
    | cons c rest => cases rest <;> simp [beq_dec]

theorem splitDollar_of_no_dollar : ∀ (a : Str), '$' ∉ a → Spec.File.splitDollar a = (a, none)
  | [], _ => rfl
  | c :: t, h => by
    have hc : c ≠ '$' := fun e => h (e ▸ List.mem_cons_self)
    simp [Spec.File.splitDollar, hc, splitDollar_of_no_dollar t fun e => h (List.mem_cons_of_mem _ e)]

theorem splitDollar_append : ∀ (a t : Str), '$' ∉ a → Spec.File.splitDollar (a ++ '$' :: t) = (a, some t)
  | [], t, _ => by simp [Spec.File.splitDollar]
  | c :: a, t, h => by
    have hc : c ≠ '$' := fun e => h (e ▸ List.mem_cons_self)
    simp [Spec.File.splitDollar, hc, splitDollar_append a t fun e => h (List.mem_cons_of_mem _ e)]

theorem partitionDollar_of_no_dollar : ∀ (a : Str), '$' ∉ a → partitionDollar a = (a, false, [])
  | [], _ => rfl
  | c :: t, h => by
    have hc : c ≠ '$' := fun e => h (e ▸ List.mem_cons_self)
    simp [partitionDollar, hc, partitionDollar_of_no_dollar t fun e => h (List.mem_cons_of_mem _ e)]

theorem partitionDollar_append : ∀ (a t : Str), '$' ∉ a → partitionDollar (a ++ '$' :: t) = (a, true, t)
  | [], t, _ => by simp [partitionDollar]
  | c :: a, t, h => by
    have hc : c ≠ '$' := fun e => h (e ▸ List.mem_cons_self)
    simp [partitionDollar, hc, partitionDollar_append a t fun e => h (List.mem_cons_of_mem _ e)]

theorem splitDollar_fst (L : Str) : (Spec.File.splitDollar L).1 = (partitionDollar L).1 := by
  by_cases hd : '$' ∈ L
  · obtain ⟨d, t, rfl, hnd⟩ := List.eq_append_cons_of_mem hd
    rw [splitDollar_append d t hnd, partitionDollar_append d t hnd]
  · rw [splitDollar_of_no_dollar L hd, partitionDollar_of_no_dollar L hd]

theorem not_fileBlank_of_mem (l : Str) (c : Char) (hc : c ∈ l) (h : pyIsSpace c = false) :
    Spec.File.isBlankLine l = false := by
  cases hb : Spec.File.isBlankLine l with
  | false => rfl
  | true =>
    simp only [Spec.File.isBlankLine, List.all_eq_true] at hb
    have := hb c hc
    simp only [Spec.File.isBlankC, Bool.or_eq_true, decide_eq_true_eq] at this
    rcases this with rfl | rfl <;> exact absurd h (by decide)

theorem not_fileBlank_of_stripNonEmpty (l : Str) (h : stripNonEmpty l = true) : Spec.File.isBlankLine l = false := by
  simp only [stripNonEmpty, List.any_eq_true, Bool.not_eq_true'] at h
  obtain ⟨c, hc, hs⟩ := h
  exact not_fileBlank_of_mem l c hc hs

/-! ## 3. indentation and comment-card tests on prefixes -/
open _root_.MontePyVerif.Spec.File (isIndented isCommentCard isBlankLine)

theorem lead_append (p r : Str) : ((p ++ r).takeWhile (· = ' ')).length =
    if (p.takeWhile (· = ' ')).length = p.length then p.length + (r.takeWhile (· = ' ')).length
    else (p.takeWhile (· = ' ')).length := by
  rw [List.takeWhile_append]
  split <;> simp

theorem lead_le (p : Str) : (p.takeWhile (· = ' ')).length ≤ p.length :=
  (List.takeWhile_sublist _).length_le

theorem isIndented_prefix (p r : Str) (h : 5 ≤ p.length) : isIndented (p ++ r) = isIndented p := by
  simp only [isIndented, lead_append]
  split
  · rename_i hall
    rw [hall]
    simp only [ge_iff_le, decide_eq_decide]
    omega
  · rfl

theorem isIndented_blanks5 (x : Str) : isIndented (blanks 5 ++ x) = true :=
  isIndented_prefix (blanks 5) x (Nat.le_refl 5)

theorem isIndented_blanks (n : Nat) (h : 5 ≤ n) : isIndented (blanks n) = true := by
  simp [isIndented, blanks, h]

theorem isIndented_dollar (a t : Str) : isIndented (a ++ '$' :: t) = isIndented a := by
  simp only [isIndented, lead_append, List.takeWhile_cons_of_neg (p := (· = ' ')) (a := '$') (by decide),
    List.length_nil, Nat.add_zero]
  split
  · rename_i hall; rw [hall]
  · rfl

theorem indented_append (o s : Str) (h : isIndented o = true) : isIndented (o ++ s) = true := by
  rw [isIndented_prefix _ _ (Nat.le_trans (of_decide_eq_true h) (lead_le o))]
  exact h

theorem not_comment_of_indented (x : Str) (h : isIndented x = true) : isCommentCard x = false := by
  simp only [isIndented, decide_eq_true_eq] at h
  simp [isCommentCard, h]

theorem not_indented_of_comment (x : Str) (h : isCommentCard x = true) : isIndented x = false := by
  cases hi : isIndented x with
  | false => rfl
  | true => rw [not_comment_of_indented x hi] at h; cases h

/-- six characters decide: at most four blanks, the `c` and the character behind it -/
theorem isCommentCard_prefix (p r : Str) (h : 6 ≤ p.length) : isCommentCard (p ++ r) = isCommentCard p := by
  by_cases hall : (p.takeWhile (· = ' ')).length = p.length
  · -- six or more blanks: neither is a comment card
    have h1 : isIndented p = true := by simp only [isIndented, hall]; exact decide_eq_true (by omega)
    rw [not_comment_of_indented _ h1, not_comment_of_indented _ (indented_append p r h1)]
  · have hle := lead_le p
    simp only [isCommentCard, lead_append, hall, if_false]
    split
    · rfl
    · rw [List.drop_append_of_le_length hle]
      have hlen : 2 ≤ (p.drop (p.takeWhile (· = ' ')).length).length := by
        simp only [List.length_drop]; omega
      cases hd : p.drop (p.takeWhile (· = ' ')).length with
      | nil => rw [hd] at hlen; simp at hlen
      | cons c rest =>
        cases rest with
        | nil => rw [hd] at hlen; simp at hlen
        | cons d rr => rfl

theorem takeWhile_blank_eq_blanks (l : Str) : l.takeWhile (· = ' ') = blanks (l.takeWhile (· = ' ')).length :=
  List.eq_replicate_iff.mpr ⟨rfl, fun c hc => of_decide_eq_true (List.all_eq_true.mp List.all_takeWhile c hc)⟩

theorem commentCard_shape (l : Str) (h : isCommentCard l = true) :
    ∃ k c r, k < 5 ∧ (c = 'c' ∨ c = 'C') ∧ l = blanks k ++ c :: r ∧ (r = [] ∨ ∃ r', r = ' ' :: r') := by
  simp only [isCommentCard] at h
  split at h
  · cases h
  · rename_i hlead
    have hsplit := List.takeWhile_append_dropWhile (p := (· = ' ')) (l := l)
    rw [ListBasics.drop_length_takeWhile] at h
    cases hdw : l.dropWhile (· = ' ') with
    | nil => rw [hdw] at h; cases h
    | cons c r =>
      rw [hdw] at h
      simp only [Bool.and_eq_true, Bool.or_eq_true, decide_eq_true_eq] at h
      refine ⟨(l.takeWhile (· = ' ')).length, c, r, by omega, h.1, ?_, ?_⟩
      · rw [← takeWhile_blank_eq_blanks l, ← hdw, hsplit]
      · cases r with
        | nil => exact Or.inl rfl
        | cons d r' => exact Or.inr ⟨r', by rw [of_decide_eq_true h.2]⟩

theorem takeWhile_blanks_cons (k : Nat) (c : Char) (r : Str) (hc : c ≠ ' ') :
    (blanks k ++ c :: r).takeWhile (· = ' ') = blanks k := by
  rw [List.takeWhile_append_of_pos (by simp [blanks]), List.takeWhile_cons_of_neg (by simpa using hc), List.append_nil]

theorem isCommentCard_of_shape (k : Nat) (c : Char) (r : Str) (hk : k < 5) (hc : c = 'c' ∨ c = 'C')
    (hr : r = [] ∨ ∃ r', r = ' ' :: r') : isCommentCard (blanks k ++ c :: r) = true := by
  have hcb : c ≠ ' ' := by rcases hc with rfl | rfl <;> decide
  have hdrop : (blanks k ++ c :: r).drop k = c :: r := by
    have := List.drop_left (l₁ := blanks k) (l₂ := c :: r)
    rwa [length_blanks] at this
  simp only [isCommentCard, takeWhile_blanks_cons k c r hcb, length_blanks, hdrop, Nat.not_le_of_lt hk, if_false]
  rcases hr with rfl | ⟨r', rfl⟩ <;> rcases hc with rfl | rfl <;> rfl

/-! ## 4. what a physical line contributes to the card it belongs to (reader of `Spec/File.lean`) -/
open _root_.MontePyVerif.Spec.File (Card startCard contStep stripAmp splitDollar commentText rstrip lstrip isBlankC)
open _root_.MontePyVerif.FileWrite (WCard CardOK ContOK readCard)

/-- text without its blanks and tabs: what is compared of comments (wrapping re-flows them) -/
def sq (s : Str) : Str := s.filter (fun c => !isBlankC c)

theorem sq_append (a b : Str) : sq (a ++ b) = sq a ++ sq b := by simp [sq]

theorem sq_blank_cons (b : Str) : sq (' ' :: b) = sq b := rfl

theorem sq_dropWhile : ∀ (s : Str), sq (s.dropWhile isBlankC) = sq s
  | [] => rfl
  | c :: t => by
    by_cases hc : isBlankC c = true
    · simp only [List.dropWhile_cons, hc, if_true, sq_dropWhile t]
      simp [sq, hc]
    · simp [hc]

theorem sq_lstrip (s : Str) : sq (lstrip s) = sq s := sq_dropWhile s

theorem sq_rstrip (s : Str) : sq (rstrip s) = sq s := by
  have hrev : ∀ s : Str, sq s.reverse = (sq s).reverse := fun s => List.filter_reverse
  rw [rstrip, hrev, sq_dropWhile, hrev, List.reverse_reverse]

theorem stripAmp_of_no_amp (s : Str) (h : '&' ∉ s) : stripAmp s = (s, false) := by
  unfold stripAmp
  simp only
  split
  · rename_i rest heq
    -- `&` would be the last character of `s` without its trailing blanks
    have : '&' ∈ s.reverse.dropWhile isBlankC := by
      have : '&' ∈ (rstrip s).reverse := heq ▸ List.mem_cons_self
      simpa [rstrip] using this
    exact absurd (List.mem_reverse.mp ((List.dropWhile_sublist _).subset this)) h
  · rfl

/-- the data of a data line does not hold the continuation mark -/
def NoAmpL (l : Str) : Prop := isCommentCard l = false → '&' ∉ (splitDollar l).1

/-- words the line adds to its card -/
def cw (l : Str) : List Str := if isCommentCard l = true then [] else Spec.File.words (splitDollar l).1
/-- `$` comment text the line adds -/
def cdl (l : Str) : Str :=
  if isCommentCard l = true then [] else match (splitDollar l).2 with | some t => sq t | none => []
/-- comment-card text the line adds -/
def ccm (l : Str) : Str := if isCommentCard l = true then sq (commentText l) else []

/-- what is observed of a card: its words, its `$` comments and its comment cards without their blanks -/
def obsCard (k : Card) : List Str × Str × Str := (Spec.File.words k.text, sq k.dollar.flatten, sq k.ccomments.flatten)

def obsLines (ls : List Str) : List Str × Str × Str := ((ls.map cw).flatten, (ls.map cdl).flatten, (ls.map ccm).flatten)

theorem obsLines_append (a b : List Str) :
    obsLines (a ++ b) = ((obsLines a).1 ++ (obsLines b).1, (obsLines a).2.1 ++ (obsLines b).2.1,
      (obsLines a).2.2 ++ (obsLines b).2.2) := by
  simp [obsLines]

theorem obsLines_singleton (x : Str) : obsLines [x] = (cw x, cdl x, ccm x) := by simp [obsLines]

theorem startCard_of_noAmp (l : Str) (hn : '&' ∉ (splitDollar l).1) :
    startCard l = (⟨(splitDollar l).1, (match (splitDollar l).2 with | some t => [rstrip (lstrip t)] | none => []), []⟩, false) := by
  simp only [startCard, stripAmp_of_no_amp _ hn]
  rfl

theorem sq_dollar_flatten (l : Str) :
    sq (match (splitDollar l).2 with | some t => [rstrip (lstrip t)] | none => []).flatten =
      match (splitDollar l).2 with | some t => sq t | none => [] := by
  cases (splitDollar l).2 with
  | none => rfl
  | some t => simp [sq_rstrip, sq_lstrip]

theorem obs_contStep (k : Card) (a : Bool) (l : Str) (hn : NoAmpL l) :
    obsCard (contStep (k, a) l).1 =
      ((obsCard k).1 ++ cw l, (obsCard k).2.1 ++ cdl l, (obsCard k).2.2 ++ ccm l) := by
  by_cases hc : isCommentCard l = true
  · simp [contStep, hc, obsCard, cw, cdl, ccm, sq_append]
  · have hc' : isCommentCard l = false := by simpa using hc
    simp only [contStep, hc, if_false, startCard_of_noAmp l (hn hc'), obsCard, cw, cdl, ccm, Bool.false_eq_true,
      List.append_nil, fileWords_append_blank, List.flatten_append, sq_append, sq_dollar_flatten]

theorem obs_fold : ∀ (ls : List Str) (k : Card) (a : Bool), (∀ l ∈ ls, NoAmpL l) →
    obsCard (ls.foldl contStep (k, a)).1 =
      ((obsCard k).1 ++ (obsLines ls).1, (obsCard k).2.1 ++ (obsLines ls).2.1, (obsCard k).2.2 ++ (obsLines ls).2.2)
  | [], k, a, _ => by simp [obsLines]
  | l :: t, k, a, h => by
    rw [List.foldl_cons, obs_fold t (contStep (k, a) l).1 (contStep (k, a) l).2 fun x hx => h x (List.mem_cons_of_mem _ hx),
      obs_contStep k a l (h l List.mem_cons_self)]
    simp [obsLines, List.append_assoc]

theorem obs_readCard (c : WCard) (hfirst : isCommentCard c.first = false) (hn : ∀ l ∈ c.lines, NoAmpL l) :
    obsCard (readCard c) = obsLines c.lines := by
  have hs := startCard_of_noAmp c.first (hn c.first List.mem_cons_self hfirst)
  rw [readCard, obs_fold c.rest _ _ fun l hl => hn l (List.mem_cons_of_mem _ hl)]
  simp only [hs, obsCard, obsLines, FileWrite.WCard.lines, List.map_cons, List.flatten_cons, cw, cdl, ccm, hfirst,
    Bool.false_eq_true, if_false, sq_dollar_flatten, List.flatten_nil]
  rfl

theorem obsLines_cons (x : Str) (xs : List Str) :
    obsLines (x :: xs) = (cw x ++ (obsLines xs).1, cdl x ++ (obsLines xs).2.1, ccm x ++ (obsLines xs).2.2) := rfl

theorem obs_plain (x : Str) (hd : '$' ∉ x) (hnc : isCommentCard x = false) :
    cw x = Spec.File.words x ∧ cdl x = [] ∧ ccm x = [] := by
  simp [cw, cdl, ccm, hnc, splitDollar_of_no_dollar x hd]

theorem obs_attached (a t : Str) (hd : '$' ∉ a) (hnc : isCommentCard (a ++ '$' :: t) = false) :
    cw (a ++ '$' :: t) = Spec.File.words a ∧ cdl (a ++ '$' :: t) = sq t ∧ ccm (a ++ '$' :: t) = [] := by
  simp [cw, cdl, ccm, hnc, splitDollar_append a t hd]

theorem obsLines_plain (ls : List Str) (h : ∀ x ∈ ls, '$' ∉ x ∧ isCommentCard x = false) :
    obsLines ls = ((ls.map Spec.File.words).flatten, [], []) := by
  induction ls with
  | nil => rfl
  | cons x xs ih =>
    obtain ⟨h1, h2, h3⟩ := obs_plain x (h x List.mem_cons_self).1 (h x List.mem_cons_self).2
    rw [obsLines_cons, ih fun y hy => h y (List.mem_cons_of_mem _ hy), h1, h2, h3]
    rfl

/-! ## 5. the lines `_wrap_line` produces -/

structure ContLine (x : Str) : Prop where
  nonblank : isBlankLine x = false
  indented : isIndented x = true
  noamp : '&' ∉ (splitDollar x).1

theorem ContLine.not_comment {x : Str} (h : ContLine x) : isCommentCard x = false :=
  not_comment_of_indented x h.indented

/-- a well-formed data line (first line of a card or continuation) -/
structure DLine (x : Str) : Prop where
  nonblank : isBlankLine x = false
  notcomment : isCommentCard x = false
  noamp : '&' ∉ (splitDollar x).1

theorem ContLine.dline {x : Str} (h : ContLine x) : DLine x := ⟨h.nonblank, h.not_comment, h.noamp⟩

theorem DLine.of_plain {x : Str} (hb : isBlankLine x = false) (hd : '$' ∉ x) (ha : '&' ∉ x)
    (hnc : isCommentCard x = false) : DLine x :=
  ⟨hb, hnc, by rw [splitDollar_of_no_dollar x hd]; exact ha⟩

theorem DLine.of_attached {a t : Str} (hd : '$' ∉ a) (ha : '&' ∉ a) (hnc : isCommentCard (a ++ '$' :: t) = false) :
    DLine (a ++ '$' :: t) :=
  ⟨not_fileBlank_of_mem _ '$' (by simp) (by decide), hnc, by rw [splitDollar_append a t hd]; exact ha⟩

theorem dollarLine_facts (y : Str) :
    ContLine (blanks 5 ++ '$' :: y) ∧ cw (blanks 5 ++ '$' :: y) = [] ∧ cdl (blanks 5 ++ '$' :: y) = sq y ∧
      ccm (blanks 5 ++ '$' :: y) = [] := by
  have hind := isIndented_blanks5 ('$' :: y)
  have hobs := obs_attached (blanks 5) y (by decide) (not_comment_of_indented _ hind)
  rw [fileWords_blanks] at hobs
  refine ⟨⟨not_fileBlank_of_mem _ '$' (by simp) (by decide), hind, ?_⟩, hobs⟩
  rw [splitDollar_append (blanks 5) y (by decide)]
  exact (by decide : '&' ∉ blanks 5)

/-- `ret` in `_wrap_line`, for the data `d` before the `$` -/
def dataPart (W : Nat) (d : Str) : List Str := (textwrapWrap W [] (blanks 5) d).filter stripNonEmpty

/-- the `$` comment `t` wrapped onto lines of its own -/
def commentPart (W : Nat) (t : Str) : List Str := textwrapWrap W (blanks 5) (blanks 5 ++ ['$', ' ']) ('$' :: t)

theorem dollarLines (W : Nat) (hW : 7 < W) (t : Str) (hcl : Clean t) :
    commentPart W t ≠ [] ∧ (∀ x ∈ commentPart W t, ContLine x) ∧ obsLines (commentPart W t) = ([], sq t, []) := by
  obtain ⟨bodies, hb1, hb2, hb3⟩ := textwrapWrap_bodies W (blanks 5) (blanks 5 ++ ['$', ' ']) ('$' :: t)
    (show 5 < W by omega) (show 7 < W from hW)
  rw [munge_clean _ (clean_cons_dollar hcl)] at hb2
  rw [commentPart, hb1]
  -- the first body begins with the `$`
  match bodies, hb2, hb3 with
  | [], hb2, _ => cases hb2
  | [] :: _, _, hb3 => exact absurd rfl (hb3 _ List.mem_cons_self)
  | (x :: b0) :: bs, hb2, _ =>
    simp only [List.flatten_cons, List.cons_append, List.cons.injEq] at hb2
    obtain ⟨rfl, hrest⟩ := hb2
    have hcont : ∀ b, (blanks 5 ++ ['$', ' ']) ++ b = blanks 5 ++ '$' :: ' ' :: b := fun b => by simp
    have hsum : ∀ bs : List Str, obsLines (bs.map ((blanks 5 ++ ['$', ' ']) ++ ·)) = ([], sq bs.flatten, []) := by
      intro bs
      induction bs with
      | nil => rfl
      | cons b bs ih =>
        obtain ⟨-, h1, h2, h3⟩ := dollarLine_facts (' ' :: b)
        rw [List.map_cons, obsLines_cons, ih, hcont, h1, h2, h3, List.flatten_cons, sq_append]
        rfl
    rw [indentLines_cons, if_pos rfl]
    refine ⟨List.cons_ne_nil _ _, ?_, ?_⟩
    · intro y hy
      rcases List.mem_cons.mp hy with rfl | hy
      · exact (dollarLine_facts b0).1
      · obtain ⟨b, -, rfl⟩ := List.mem_map.mp hy
        exact hcont b ▸ (dollarLine_facts (' ' :: b)).1
    · obtain ⟨-, h1, h2, h3⟩ := dollarLine_facts b0
      rw [obsLines_cons, hsum, h1, h2, h3, ← hrest, sq_append]
      rfl

theorem flatten_map_filter {α β} (p : α → Bool) (f : α → List β) : ∀ (L : List α),
    (∀ x ∈ L, p x = false → f x = []) → ((L.filter p).map f).flatten = (L.map f).flatten
  | [], _ => rfl
  | x :: L, h => by
    have ih := flatten_map_filter p f L (fun y hy => h y (List.mem_cons_of_mem _ hy))
    by_cases hp : p x = true
    · simp [hp, ih]
    · have hp' : p x = false := by simpa using hp
      simp [hp', ih, h x List.mem_cons_self hp']

/-- a line `x` that wrapping the data `d` yields; `suffix` is for the `$` comment that `_wrap_line` puts back behind
    the last line -/
structure DataLine (d x : Str) : Prop where
  dline : DLine x
  nodollar : '$' ∉ x
  noamp : '&' ∉ x
  suffix : ∀ s, isCommentCard (d ++ s) = false → isCommentCard (x ++ s) = false

theorem dataLines (W : Nat) (hW : 7 < W) (d : Str) (hcl : Clean d) (hlong : NoLongChunk W 0 5 d)
    (hamp : '&' ∉ d) (hdol : '$' ∉ d) (hcd : isCommentCard d = false) :
    (∀ x ∈ dataPart W d, DataLine d x) ∧
    (∀ o os, dataPart W d = o :: os →
      isIndented o = isIndented d ∧ ∀ x ∈ os, isIndented x = true) ∧
    ((dataPart W d).map Spec.File.words).flatten = Spec.File.words d ∧
    (stripNonEmpty d = true → dataPart W d ≠ []) := by
  unfold dataPart
  have hind : ∀ x ∈ (textwrapWrap W [] (blanks 5) d).tail, isIndented x = true := fun x hx => by
    obtain ⟨t, rfl⟩ := C10_indent W [] (blanks 5) d x hx
    exact isIndented_blanks5 t
  have hwords : ((textwrapWrap W [] (blanks 5) d).map Spec.File.words).flatten = Spec.File.words (munge d) :=
    C10_words_file W 0 5 d hlong
  obtain ⟨bodies, hb1, hb2, -⟩ :=
    textwrapWrap_bodies W [] (blanks 5) d (show 0 < W by omega) (show 5 < W by omega)
  have hfirst := textwrap_first W (blanks 5) d hlong
  rw [munge_clean _ hcl] at hwords hb2 hfirst
  rw [length_blanks] at hfirst
  generalize textwrapWrap W [] (blanks 5) d = lines0 at *
  have hchars : ∀ x ∈ lines0, ∀ c ∈ x, c = ' ' ∨ c ∈ d := by
    intro x hx c hc
    obtain ⟨b, hb, hxb⟩ := mem_indentLines _ _ _ _ x (hb1 ▸ hx)
    have hbd : ∀ c ∈ b, c ∈ d := fun c hc => hb2 ▸ List.mem_flatten_of_mem hb hc
    rcases hxb with rfl | rfl
    · exact Or.inr (hbd c hc)
    · rcases List.mem_append.mp hc with h | h
      · exact Or.inl (List.eq_of_mem_replicate h)
      · exact Or.inr (hbd c h)
  have hclean : ∀ x ∈ lines0, Clean x := fun x hx c hc hs => (hchars x hx c hc).elim id (hcl c · hs)
  refine ⟨?_, ?_, ?_, ?_⟩
  · intro x hx
    obtain ⟨hx1, hx2⟩ := List.mem_filter.mp hx
    have hxd : '$' ∉ x := fun h => (hchars x hx1 _ h).elim (by decide) hdol
    have hxa : '&' ∉ x := fun h => (hchars x hx1 _ h).elim (by decide) hamp
    suffices hs : ∀ s, isCommentCard (d ++ s) = false → isCommentCard (x ++ s) = false by
      have h0 := hs []
      rw [List.append_nil, List.append_nil] at h0
      exact ⟨.of_plain (not_fileBlank_of_stripNonEmpty x hx2) hxd hxa (h0 hcd), hxd, hxa, hs⟩
    intro s hs
    cases lines0 with
    | nil => cases hx1
    | cons l0 ls =>
      rcases List.mem_cons.mp hx1 with rfl | hx1
      · rcases hfirst _ ls rfl with ⟨-, h⟩ | ⟨h6, r, hr⟩
        · rw [h]; exact hs
        · rw [isCommentCard_prefix _ _ h6, ← isCommentCard_prefix _ (r ++ s) h6, ← List.append_assoc, ← hr]
          exact hs
      · exact not_comment_of_indented _ (indented_append x s (hind x hx1))
  · intro o os hret
    cases lines0 with
    | nil => cases hret
    | cons l0 ls =>
      have hl0 : isIndented l0 = isIndented d := by
        rcases hfirst l0 ls rfl with ⟨-, h⟩ | ⟨h6, r, hr⟩
        · rw [h]
        · rw [hr, isIndented_prefix _ _ (by omega)]
      by_cases hk : stripNonEmpty l0 = true
      · rw [List.filter_cons, if_pos hk] at hret
        obtain ⟨rfl, rfl⟩ := List.cons.inj hret
        exact ⟨hl0, fun x hx => hind x (List.mem_filter.mp hx).1⟩
      · -- a blank first line is dropped: it has six or more blanks, so the data is indented, as is what follows
        rw [List.filter_cons, if_neg hk] at hret
        have hsub : ∀ x ∈ o :: os, isIndented x = true := fun x hx => hind x (List.mem_filter.mp (hret ▸ hx)).1
        refine ⟨?_, fun x hx => hsub x (List.mem_cons_of_mem _ hx)⟩
        have h6 : 6 ≤ l0.length := by
          rcases hfirst l0 ls rfl with ⟨rfl, -⟩ | ⟨h6, -⟩
          · cases hret
          · exact h6
        rw [hsub o List.mem_cons_self, ← hl0,
          blank_of_clean_not_strip l0 (hclean l0 List.mem_cons_self) (by simpa using hk)]
        exact (isIndented_blanks _ (by omega)).symm
  · rw [flatten_map_filter stripNonEmpty Spec.File.words lines0, hwords]
    intro x hx hs
    rw [blank_of_clean_not_strip x (hclean x hx) hs]
    exact fileWords_blanks _
  · intro hs
    simp only [stripNonEmpty, List.any_eq_true, Bool.not_eq_true'] at hs
    obtain ⟨c, hc, hcs⟩ := hs
    obtain ⟨b, hb, hcb⟩ := List.mem_flatten.mp (hb2 ▸ hc)
    obtain ⟨x, hx, ind, rfl⟩ := body_mem_indentLines [] (blanks 5) true bodies b hb
    intro h
    have : ind ++ b ∈ lines0.filter stripNonEmpty := List.mem_filter.mpr
      ⟨hb1 ▸ hx, List.any_eq_true.mpr ⟨c, List.mem_append_right _ hcb, by simpa using hcs⟩⟩
    rw [h] at this
    cases this

/-- the data lines the round trip is proved for (the class `C10_content_data` names, per line):
    no chunk of the data longer than a continuation line holds; no `&` in the data; the data before a `$` is not by
    itself a comment card (`c$ …`); a line that holds only a `$` comment is a continuation line -/
structure DataOK (W : Nat) (L : Str) : Prop where
  long : NoLongChunk W 0 5 (partitionDollar L).1
  amp : '&' ∉ (partitionDollar L).1
  cdollar : isCommentCard (partitionDollar L).1 = false
  only : stripNonEmpty (partitionDollar L).1 = true ∨ isIndented L = true

theorem wrapLine_data_shape (W : Nat) (L : Str) (hcl : Clean L) (hnc : isCommentCard L = false) :
    wrapLine L W [] (blanks 5) = [L] ∨
    ('$' ∉ L ∧ wrapLine L W [] (blanks 5) = dataPart W L) ∨
    ∃ d t, L = d ++ '$' :: t ∧ '$' ∉ d ∧
      (wrapLine L W [] (blanks 5) = dataPart W d ++
          commentPart W t ∨
        ∃ front last, dataPart W d = front ++ [last] ∧
          wrapLine L W [] (blanks 5) = front ++ [last ++ '$' :: t]) := by
  have hcm : isCommentLine (expandTabs Gen.tabSize L) = false := by
    rw [expandTabs_clean _ L hcl, isCommentLine_eq, hnc]
  by_cases hfit : ([] : Str).length + (expandTabs Gen.tabSize L).length ≤ W
  · rw [(C10_fits_unchanged L W [] (blanks 5)).2 hcm hfit, expandTabs_clean _ L hcl]
    exact Or.inl rfl
  · rw [wrapLine_data_long L W [] (blanks 5) hcm hfit, expandTabs_clean _ L hcl]
    by_cases hd : '$' ∈ L
    · obtain ⟨d, t, rfl, hnd⟩ := List.eq_append_cons_of_mem hd
      refine Or.inr (Or.inr ⟨d, t, rfl, hnd, ?_⟩)
      rw [partitionDollar_append d t hnd]
      simp only [if_true, attachDollar]
      rw [← dataPart, ← commentPart]
      rcases List.eq_nil_or_concat (dataPart W d) with
        h | ⟨front, last, h⟩
      · rw [h]; exact Or.inl rfl
      · rw [h, List.concat_eq_append, List.getLast?_concat, List.dropLast_concat]
        by_cases hl : last.length + ('$' :: t).length ≤ W
        · exact Or.inr ⟨front, last, rfl, if_pos hl⟩
        · exact Or.inl (if_neg hl)
    · rw [partitionDollar_of_no_dollar L hd]
      exact Or.inr (Or.inl ⟨hd, rfl⟩)

theorem wrapLine_data (W : Nat) (hW : 7 < W) (L : Str) (hcl : Clean L) (hnb : stripNonEmpty L = true)
    (hnc : isCommentCard L = false) (hok : DataOK W L) :
    ∃ o os, wrapLine L W [] (blanks 5) = o :: os ∧ isIndented o = isIndented L ∧ (∀ x ∈ o :: os, DLine x) ∧
      (∀ x ∈ os, isIndented x = true) ∧ obsLines (o :: os) = (cw L, cdl L, ccm L) := by
  rcases wrapLine_data_shape W L hcl hnc with hfit | ⟨hd, hout⟩ | ⟨d, t, rfl, hd, hout⟩
  · refine ⟨L, [], hfit, rfl, fun x hx => ?_, nofun, obsLines_singleton L⟩
    rw [List.mem_singleton.mp hx]
    exact ⟨not_fileBlank_of_stripNonEmpty L hnb, hnc, splitDollar_fst L ▸ hok.amp⟩
  · obtain ⟨hlong, hamp, -, -⟩ := hok
    rw [partitionDollar_of_no_dollar L hd] at hlong hamp
    obtain ⟨hline, hind, hwords, hne⟩ := dataLines W hW L hcl hlong hamp hd hnc
    rw [hout]
    generalize dataPart W L = R at *
    cases R with
    | nil => exact absurd rfl (hne hnb)
    | cons o os =>
      obtain ⟨h1, h2, h3⟩ := obs_plain L hd hnc
      refine ⟨o, os, rfl, (hind o os rfl).1, fun x hx => (hline x hx).dline, (hind o os rfl).2, ?_⟩
      rw [obsLines_plain _ fun x hx => ⟨(hline x hx).nodollar, (hline x hx).dline.notcomment⟩, hwords, h1, h2, h3]
  · obtain ⟨hlong, hamp, hcd, honly⟩ := hok
    rw [partitionDollar_append d t hd] at hlong hamp hcd honly
    obtain ⟨hline, hind, hwords, hne⟩ := dataLines W hW d (hcl.of_subset (List.subset_append_left _ _)) hlong hamp hd hcd
    obtain ⟨dl1, dl2, dl3⟩ := dollarLines W hW t
      (hcl.of_subset fun c hc => List.mem_append_right _ (List.mem_cons_of_mem _ hc))
    obtain ⟨h1, h2, h3⟩ := obs_attached d t hd hnc
    rw [h1, h2, h3]
    simp only [isIndented_dollar] at honly ⊢
    generalize dataPart W d = R at *
    generalize commentPart W t = cl at *
    have hRobs : ∀ R' ⊆ R, obsLines R' = ((R'.map Spec.File.words).flatten, [], []) := fun R' hs =>
      obsLines_plain R' fun x hx => ⟨(hline x (hs hx)).nodollar, (hline x (hs hx)).dline.notcomment⟩
    rcases hout with hout | ⟨front, last, rfl, hout⟩
    · -- the comment on lines of its own
      rw [hout]
      cases R with
      | nil =>
        cases cl with
        | nil => exact absurd rfl dl1
        | cons c cs =>
          have hi : isIndented d = true := honly.resolve_left fun h => hne h rfl
          refine ⟨c, cs, rfl, by rw [(dl2 c List.mem_cons_self).indented, hi], fun x hx => (dl2 x hx).dline,
            fun x hx => (dl2 x (List.mem_cons_of_mem _ hx)).indented, ?_⟩
          rw [dl3, ← hwords]
          rfl
      | cons o os =>
        refine ⟨o, os ++ cl, rfl, (hind o os rfl).1, fun x hx => ?_, fun x hx => ?_, ?_⟩
        · rcases List.mem_append.mp (List.cons_append ▸ hx) with hx | hx
          · exact (hline x hx).dline
          · exact (dl2 x hx).dline
        · rcases List.mem_append.mp hx with hx | hx
          · exact (hind o os rfl).2 x hx
          · exact (dl2 x hx).indented
        · rw [← List.cons_append, obsLines_append, hRobs _ (List.Subset.refl _), hwords, dl3]
          simp only [List.append_nil, List.nil_append]
    · -- the comment behind the last data line
      have hlast := hline last (List.mem_append_right _ List.mem_cons_self)
      have hlnc : isCommentCard (last ++ '$' :: t) = false := hlast.suffix _ hnc
      obtain ⟨a1, a2, a3⟩ := obs_attached last t hlast.nodollar hlnc
      have hdl : DLine (last ++ '$' :: t) := .of_attached hlast.nodollar hlast.noamp hlnc
      have hobs : obsLines (front ++ [last ++ '$' :: t]) = (Spec.File.words d, sq t, []) := by
        rw [obsLines_append, obsLines_singleton, a1, a2, a3, hRobs front (List.subset_append_left _ _), ← hwords]
        simp only [List.map_append, List.flatten_append, List.map_cons, List.map_nil, List.flatten_cons,
          List.flatten_nil, List.append_nil, List.nil_append]
      rw [hout]
      cases front with
      | nil =>
        refine ⟨last ++ '$' :: t, [], rfl, ?_, fun x hx => ?_, nofun, hobs⟩
        · rw [isIndented_dollar]; exact (hind last [] rfl).1
        · rw [List.mem_singleton.mp hx]; exact hdl
      | cons o os =>
        obtain ⟨g1, g2⟩ := hind o (os ++ [last]) rfl
        refine ⟨o, os ++ [last ++ '$' :: t], rfl, g1, fun x hx => ?_, fun x hx => ?_, hobs⟩
        · rcases List.mem_append.mp (List.cons_append ▸ hx) with hx | hx
          · exact (hline x (List.mem_append_left _ hx)).dline
          · rw [List.mem_singleton.mp hx]; exact hdl
        · rcases List.mem_append.mp hx with hx | hx
          · exact g2 x (List.mem_append_left _ hx)
          · rw [List.mem_singleton.mp hx]
            exact indented_append _ _ (g2 last (List.mem_append_right _ List.mem_cons_self))

/-! ### comment cards -/

theorem lstrip_blanks_cons (k : Nat) (c : Char) (y : Str) (hc : isBlankC c = false) :
    lstrip (blanks k ++ c :: y) = c :: y := by
  induction k with
  | zero => simp [blanks, lstrip, hc]
  | succ j ih => rw [blanks, List.replicate_succ, List.cons_append]; exact ih

theorem commentLine_facts (k : Nat) (c : Char) (y : Str) (hk : k < 5) (hc : c = 'c' ∨ c = 'C')
    (hy : y = [] ∨ ∃ y', y = ' ' :: y') :
    isCommentCard (blanks k ++ c :: y) = true ∧ isBlankLine (blanks k ++ c :: y) = false ∧
      cw (blanks k ++ c :: y) = [] ∧ cdl (blanks k ++ c :: y) = [] ∧ ccm (blanks k ++ c :: y) = sq y := by
  have hcc := isCommentCard_of_shape k c y hk hc hy
  have hcb : isBlankC c = false := by rcases hc with rfl | rfl <;> decide
  have hcs : pyIsSpace c = false := by rcases hc with rfl | rfl <;> decide
  refine ⟨hcc, not_fileBlank_of_mem _ c (by simp) hcs, by simp [cw, hcc], by simp [cdl, hcc], ?_⟩
  simp only [ccm, hcc, if_true, commentText, sq_lstrip, sq_rstrip, lstrip_blanks_cons k c y hcb, List.drop_one,
    List.tail_cons]

/-- C comment cards the round trip is proved for: no chunk of the comment longer than a continuation `c ` line holds -/
def CommentOK (W : Nat) (L : Str) : Prop := NoLongChunk W 0 ((L.takeWhile (· = ' ')).length + 2) L

theorem wrapLine_comment_eq (W k : Nat) (c : Char) (r init : Str) (hcl : Clean (blanks k ++ c :: r)) (hcb : c ≠ ' ')
    (hc : isCommentCard (blanks k ++ c :: r) = true) :
    wrapLine (blanks k ++ c :: r) W init (blanks 5) =
      if (blanks k ++ c :: r).length ≤ W then [blanks k ++ c :: r]
      else textwrapWrap W [] (blanks k ++ [c, ' ']) (blanks k ++ c :: r) := by
  have hcm : isCommentLine (expandTabs Gen.tabSize (blanks k ++ c :: r)) = true := by
    rw [expandTabs_clean _ _ hcl, isCommentLine_eq, hc]
  have hpre : (blanks k ++ c :: r).take (k + 1) ++ [' '] = blanks k ++ [c, ' '] := by
    have := List.take_left (l₁ := blanks k ++ [c]) (l₂ := r)
    simp only [List.length_append, length_blanks, List.length_singleton, List.append_assoc,
      List.singleton_append] at this
    rw [this, List.append_assoc]
    rfl
  by_cases hfit : (expandTabs Gen.tabSize (blanks k ++ c :: r)).length ≤ W
  · rw [(C10_fits_unchanged _ W init (blanks 5)).1 hcm hfit, expandTabs_clean _ _ hcl]
    rw [expandTabs_clean _ _ hcl] at hfit
    rw [if_pos hfit]
  · rw [wrapLine_comment_long _ W init (blanks 5) hcm hfit, expandTabs_clean _ _ hcl, leadBlanks_eq,
      takeWhile_blanks_cons k c r hcb, length_blanks, hpre]
    rw [expandTabs_clean _ _ hcl] at hfit
    rw [if_neg hfit]

theorem commentLines_facts (k : Nat) (c : Char) (hk : k < 5) (hc : c = 'c' ∨ c = 'C') (r0 : Str)
    (hr0 : r0 = [] ∨ ∃ y', r0 = ' ' :: y') (bs : List Str) :
    (∀ x ∈ (blanks k ++ c :: r0) :: bs.map ((blanks k ++ [c, ' ']) ++ ·), isBlankLine x = false ∧ isCommentCard x = true) ∧
    obsLines ((blanks k ++ c :: r0) :: bs.map ((blanks k ++ [c, ' ']) ++ ·)) = ([], [], sq (r0 ++ bs.flatten)) := by
  obtain ⟨h0c, h0b, h01, h02, h03⟩ := commentLine_facts k c r0 hk hc hr0
  have hcont : ∀ b, (blanks k ++ [c, ' ']) ++ b = blanks k ++ c :: ' ' :: b := fun b => by simp
  have hfb := fun b => commentLine_facts k c (' ' :: b) hk hc (Or.inr ⟨b, rfl⟩)
  have hsum : obsLines (bs.map ((blanks k ++ [c, ' ']) ++ ·)) = ([], [], sq bs.flatten) := by
    induction bs with
    | nil => rfl
    | cons b l ih =>
      obtain ⟨-, -, h1, h2, h3⟩ := hfb b
      rw [List.map_cons, obsLines_cons, ih, hcont, h1, h2, h3, List.flatten_cons, sq_append]
      rfl
  refine ⟨fun x hx => ?_, by rw [obsLines_cons, hsum, h01, h02, h03, sq_append]; rfl⟩
  rcases List.mem_cons.mp hx with rfl | hx
  · exact ⟨h0b, h0c⟩
  · obtain ⟨b, -, rfl⟩ := List.mem_map.mp hx
    exact hcont b ▸ ⟨(hfb b).2.1, (hfb b).1⟩

theorem commentBody_shape (k : Nat) (c : Char) (r b0 rest : Str) (h : b0 ++ rest = blanks k ++ c :: r)
    (hlen : k + 1 ≤ b0.length) (hr : r = [] ∨ ∃ r', r = ' ' :: r') :
    ∃ r0, b0 = blanks k ++ c :: r0 ∧ r = r0 ++ rest ∧ (r0 = [] ∨ ∃ y', r0 = ' ' :: y') := by
  have h' : b0 ++ rest = (blanks k ++ [c]) ++ r := by rw [h, List.append_assoc]; rfl
  -- `blanks k ++ [c]` and `b0` are prefixes of the same list, and `b0` is not the shorter
  obtain ⟨r0, rfl⟩ := List.prefix_of_prefix_length_le ⟨r, h'.symm⟩ (List.prefix_append b0 rest)
    (by rw [List.length_append, length_blanks]; exact hlen)
  have h2 : r0 ++ rest = r := List.append_cancel_left (by rw [← List.append_assoc]; exact h')
  refine ⟨r0, by rw [List.append_assoc]; rfl, h2.symm, ?_⟩
  cases r0 with
  | nil => exact Or.inl rfl
  | cons x y' =>
    rcases hr with hr | ⟨r', hr'⟩
    · rw [hr] at h2; cases h2
    · rw [hr'] at h2; exact Or.inr ⟨y', by rw [(List.cons.inj h2).1]⟩

theorem wrapLine_comment (W : Nat) (hW : 7 < W) (L init : Str) (hcl : Clean L) (hc : isCommentCard L = true)
    (hok : CommentOK W L) :
    wrapLine L W init (blanks 5) ≠ [] ∧
    (∀ x ∈ wrapLine L W init (blanks 5), isBlankLine x = false ∧ isCommentCard x = true) ∧
    obsLines (wrapLine L W init (blanks 5)) = (cw L, cdl L, ccm L) := by
  obtain ⟨k, c, r, hk, hcC, rfl, hr⟩ := commentCard_shape L hc
  have hcb : c ≠ ' ' := by rcases hcC with rfl | rfl <;> decide
  obtain ⟨-, hLb, hL1, hL2, hL3⟩ := commentLine_facts k c r hk hcC hr
  rw [hL1, hL2, hL3, wrapLine_comment_eq W k c r init hcl hcb hc]
  by_cases hfit : (blanks k ++ c :: r).length ≤ W
  · rw [if_pos hfit]
    refine ⟨List.cons_ne_nil _ _, fun x hx => ?_, by rw [obsLines_singleton, hL1, hL2, hL3]⟩
    rw [List.mem_singleton.mp hx]
    exact ⟨hLb, hc⟩
  · rw [if_neg hfit]
    have hplen : (blanks k ++ [c, ' ']).length = k + 2 := by rw [List.length_append, length_blanks]; rfl
    rw [CommentOK, takeWhile_blanks_cons k c r hcb, length_blanks, ← hplen] at hok
    obtain ⟨bodies, hb1, hb2, -⟩ := textwrapWrap_bodies W [] (blanks k ++ [c, ' ']) (blanks k ++ c :: r)
      (by rw [List.length_nil]; omega) (by rw [hplen]; omega)
    have hfirst := textwrap_first W (blanks k ++ [c, ' ']) (blanks k ++ c :: r) hok
    rw [munge_clean _ hcl] at hb2 hfirst
    rw [hb1] at hfirst ⊢
    cases bodies with
    | nil => simp at hb2
    | cons b0 bs =>
      rw [indentLines_cons, if_pos rfl, List.nil_append] at hfirst ⊢
      -- the first body holds the blanks and the `c`: it is all of the card, or longer than blanks, `c` and a blank
      have hlen : k + 1 ≤ b0.length := by
        rcases hfirst b0 _ rfl with ⟨-, h⟩ | ⟨h, -⟩
        · rw [h, List.length_append, length_blanks, List.length_cons]; omega
        · omega
      obtain ⟨r0, rfl, rfl, hr0⟩ := commentBody_shape k c r b0 bs.flatten hb2 hlen hr
      obtain ⟨h1, h2⟩ := commentLines_facts k c hk hcC r0 hr0 bs
      exact ⟨List.cons_ne_nil _ _, h1, h2⟩

/-! ## 6. the whole card -/

/-- the physical source lines the round trip is proved for -/
structure LineOK (W : Nat) (L : Str) : Prop where
  clean : Clean L
  nonblank : stripNonEmpty L = true
  ok : if isCommentCard L = true then CommentOK W L else DataOK W L

theorem LineOK.comment {W : Nat} {L : Str} (h : LineOK W L) (hc : isCommentCard L = true) : CommentOK W L := by
  have := h.ok
  rwa [if_pos hc] at this

theorem LineOK.data {W : Nat} {L : Str} (h : LineOK W L) (hc : isCommentCard L = false) : DataOK W L := by
  have := h.ok
  rwa [if_neg (by rw [hc]; exact Bool.false_ne_true)] at this

theorem LineOK.noAmpL {W : Nat} {L : Str} (h : LineOK W L) : NoAmpL L :=
  fun hc => splitDollar_fst L ▸ (h.data hc).amp

/-- what `wrap_string_for_mcnp(…, is_first_line=True)` returns for these source lines -/
def wrapCard (W : Nat) (ls : List Str) : List Str := ls.flatMap (fun l => wrapLine l W [] (blanks 5))

theorem wrapStringWith_eq (s : Str) (W : Nat) :
    (wrapStringWith s W true).1 = wrapCard W ((splitLines s).filter stripNonEmpty) :=
  wrapStringWith_fst s W true

theorem contOK_iff : ∀ (ls : List Str), (∀ l ∈ ls, NoAmpL l) →
    (ContOK false ls ↔ ∀ l ∈ ls, isBlankLine l = false ∧ (isCommentCard l = true ∨ isIndented l = true))
  | [], _ => by simp [ContOK]
  | l :: t, h => by
    have ih := contOK_iff t fun x hx => h x (List.mem_cons_of_mem _ hx)
    by_cases hc : isCommentCard l = true
    · simp [ContOK, hc, ih]
    · have hs := startCard_of_noAmp l (h l List.mem_cons_self (by simpa using hc))
      rw [List.forall_mem_cons, ← ih, ContOK, if_neg hc, hs]
      simp only [Bool.false_eq_true, false_or, hc, and_assoc]

/-- what the round trip uses of the lines `o :: os` that `_wrap_line` returns for the source line `L` -/
structure WrapsTo (W : Nat) (L o : Str) (os : List Str) : Prop where
  eq : wrapLine L W [] (blanks 5) = o :: os
  indented : isIndented o = isIndented L
  comment : isCommentCard o = isCommentCard L
  rest : ∀ x ∈ os, isIndented x = true ∨ isCommentCard x = true
  line : ∀ x ∈ o :: os, isBlankLine x = false ∧ NoAmpL x
  obs : obsLines (o :: os) = (cw L, cdl L, ccm L)

theorem wrapLine_lines (W : Nat) (hW : 7 < W) (L : Str) (h : LineOK W L) : ∃ o os, WrapsTo W L o os := by
  by_cases hc : isCommentCard L = true
  · obtain ⟨hne, hall, hobs⟩ := wrapLine_comment W hW L [] h.clean hc (h.comment hc)
    cases hw : wrapLine L W [] (blanks 5) with
    | nil => exact absurd hw hne
    | cons o os =>
      rw [hw] at hall hobs
      have ho := (hall o List.mem_cons_self).2
      refine ⟨o, os, hw, ?_, by rw [ho, hc], fun x hx => Or.inr (hall x (List.mem_cons_of_mem _ hx)).2,
        fun x hx => ⟨(hall x hx).1, fun hx' => ?_⟩, hobs⟩
      · rw [not_indented_of_comment o ho, not_indented_of_comment L hc]
      · rw [(hall x hx).2] at hx'; cases hx'
  · have hc' : isCommentCard L = false := by simpa using hc
    obtain ⟨o, os, he, hio, hd, hos, hobs⟩ := wrapLine_data W hW L h.clean h.nonblank hc' (h.data hc')
    exact ⟨o, os, he, hio, by rw [(hd o List.mem_cons_self).notcomment, hc'], fun x hx => Or.inl (hos x hx),
      fun x hx => ⟨(hd x hx).nonblank, fun _ => (hd x hx).noamp⟩, hobs⟩

theorem wrapCard_cons (W : Nat) (l : Str) (t : List Str) :
    wrapCard W (l :: t) = wrapLine l W [] (blanks 5) ++ wrapCard W t := rfl

theorem wrapCard_obs (W : Nat) (hW : 7 < W) : ∀ (ls : List Str), (∀ l ∈ ls, LineOK W l) →
    obsLines (wrapCard W ls) = obsLines ls
  | [], _ => rfl
  | l :: t, h => by
    obtain ⟨o, os, hw⟩ := wrapLine_lines W hW l (h l List.mem_cons_self)
    rw [wrapCard_cons, obsLines_append, wrapCard_obs W hW t fun x hx => h x (List.mem_cons_of_mem _ hx), hw.eq, hw.obs]
    rfl

theorem wrapCard_cont (W : Nat) (hW : 7 < W) (ls : List Str) (h : ∀ l ∈ ls, LineOK W l)
    (hsrc : ∀ l ∈ ls, isCommentCard l = true ∨ isIndented l = true) :
    ∀ x ∈ wrapCard W ls, (isBlankLine x = false ∧ NoAmpL x) ∧ (isCommentCard x = true ∨ isIndented x = true) := by
  intro x hx
  obtain ⟨l, hl, hxl⟩ := List.mem_flatMap.mp hx
  obtain ⟨o, os, hw⟩ := wrapLine_lines W hW l (h l hl)
  rw [hw.eq] at hxl
  refine ⟨hw.line x hxl, ?_⟩
  rcases List.mem_cons.mp hxl with rfl | hxl
  · rw [hw.indented, hw.comment]; exact hsrc l hl
  · exact (hw.rest x hxl).symm

/-- **C10_roundtrip_card** — a well-formed card (`CardOK` of C01Blocks) whose lines are in the class `LineOK`,
    wrapped line by line as `wrap_string_for_mcnp` does, is again a well-formed card (first line not blank, not a
    comment card, not in the continuation columns; further lines comment cards or indented data, none blank; the last
    not ending in `&`), and the reader of `Spec/File.lean` reads in it the same words, the same `$` comment text and
    the same comment-card text. -/
theorem C10_roundtrip_card (W : Nat) (hW : 7 < W) (src : WCard) (hok : CardOK src)
    (hcls : ∀ l ∈ src.lines, LineOK W l) :
    ∃ o os, wrapCard W src.lines = o :: os ∧ CardOK ⟨o, os⟩ ∧
      obsCard (readCard ⟨o, os⟩) = obsCard (readCard src) := by
  obtain ⟨f, rest⟩ := src
  obtain ⟨hfnb, hfnc, hfni, hcont⟩ := hok
  have hlr : ∀ l ∈ rest, LineOK W l := fun l hl => hcls l (List.mem_cons_of_mem _ hl)
  have hnaf := (hcls f List.mem_cons_self).noAmpL hfnc
  rw [startCard_of_noAmp f hnaf] at hcont
  have hsrc := (contOK_iff rest fun l hl => (hlr l hl).noAmpL).mp hcont
  obtain ⟨o, more, hw⟩ := wrapLine_lines W hW f (hcls f List.mem_cons_self)
  have hout : wrapCard W (f :: rest) = o :: (more ++ wrapCard W rest) := by rw [wrapCard_cons, hw.eq]; rfl
  have hrest : ∀ x ∈ more ++ wrapCard W rest,
      (isBlankLine x = false ∧ NoAmpL x) ∧ (isCommentCard x = true ∨ isIndented x = true) := by
    intro x hx
    rcases List.mem_append.mp hx with hx | hx
    · exact ⟨hw.line x (List.mem_cons_of_mem _ hx), (hw.rest x hx).symm⟩
    · exact wrapCard_cont W hW rest hlr (fun l hl => (hsrc l hl).2) x hx
  have hoc : isCommentCard o = false := by rw [hw.comment]; exact hfnc
  have hoa := (hw.line o List.mem_cons_self).2 hoc
  refine ⟨o, more ++ wrapCard W rest, hout,
    ⟨(hw.line o List.mem_cons_self).1, hoc, by rw [hw.indented]; exact hfni, ?_⟩, ?_⟩
  · rw [startCard_of_noAmp o hoa]
    exact (contOK_iff _ fun x hx => (hrest x hx).1.2).mpr fun x hx => ⟨(hrest x hx).1.1, (hrest x hx).2⟩
  · rw [obs_readCard ⟨o, more ++ wrapCard W rest⟩ hoc, obs_readCard ⟨f, rest⟩ hfnc fun l hl => (hcls l hl).noAmpL]
    · show obsLines (o :: (more ++ wrapCard W rest)) = _
      rw [← hout]
      exact wrapCard_obs W hW _ hcls
    · intro l hl
      rcases List.mem_cons.mp hl with rfl | hl
      · exact fun _ => hoa
      · exact (hrest l hl).1.2

/-- 7: the continuation indent and `$ `, the longest indent `_wrap_line` wraps with -/
theorem lineLength_wide (e : (Nat × Nat × Nat) × Nat) (he : e ∈ Gen.lineLength) : 7 < e.2 := by
  have := C10_tables.1 e he
  have h5 : Gen.blankSpaceContinue = 5 := rfl
  omega

/-- **C10_roundtrip** (partial: the class `LineOK` excludes the recorded finding C10-F1, a word longer than
    limit-5 columns, together with `&` inside data, `c$ …`, tabs/control white space and un-indented `$`-only
    lines) — for every regime of the code's `LINE_LENGTH` table and every string `s` handed to
    `wrap_string_for_mcnp(s, v, True)` whose non-blank lines form a well-formed card of that class: the lines
    returned form a well-formed card (`CardOK`, the hypothesis of `C01_blocks`) in which MCNP's rules
    (`Spec/File.lean`: `readCard`, `words`) read the same words and the same comment text. -/
theorem C10_roundtrip : ∀ e ∈ Gen.lineLength, ∀ (s : Str) (src : WCard),
    (splitLines s).filter stripNonEmpty = src.lines → CardOK src → (∀ l ∈ src.lines, LineOK e.2 l) →
    ∃ o os, (wrapStringWith s e.2 true).1 = o :: os ∧ CardOK ⟨o, os⟩ ∧
      obsCard (readCard ⟨o, os⟩) = obsCard (readCard src) := by
  intro e he s src hs hok hcls
  rw [wrapStringWith_eq, hs]
  exact C10_roundtrip_card e.2 (lineLength_wide e he) src hok hcls

/-! ### non-vacuity: a card of the 80-column regime that has to be wrapped (a `$` comment that does not fit, a
    98-column comment card, a continuation line).  The strings are character lists: the kernel is slow at decoding a
    string literal. -/

/-- the class `LineOK` for a data line of blanks and printable ASCII, as one decidable statement -/
theorem lineOK_data (W : Nat) (L : Str)
    (h : (∀ c ∈ L, c = ' ' ∨ (33 ≤ c.toNat ∧ c.toNat < 127)) ∧ stripNonEmpty L = true ∧ isCommentCard L = false ∧
      NoLongChunk W 0 5 (partitionDollar L).1 ∧ '&' ∉ (partitionDollar L).1 ∧
      isCommentCard (partitionDollar L).1 = false ∧ (stripNonEmpty (partitionDollar L).1 = true ∨ isIndented L = true)) :
    LineOK W L :=
  ⟨clean_of_printable L h.1, h.2.1, by
    rw [if_neg (by rw [h.2.2.1]; exact Bool.false_ne_true)]
    exact ⟨h.2.2.2.1, h.2.2.2.2.1, h.2.2.2.2.2.1, h.2.2.2.2.2.2⟩⟩

theorem lineOK_comment (W : Nat) (L : Str)
    (h : (∀ c ∈ L, c = ' ' ∨ (33 ≤ c.toNat ∧ c.toNat < 127)) ∧ stripNonEmpty L = true ∧ isCommentCard L = true ∧
      NoLongChunk W 0 ((L.takeWhile (· = ' ')).length + 2) L) : LineOK W L :=
  ⟨clean_of_printable L h.1, h.2.1, by rw [if_pos h.2.2.1]; exact h.2.2.2⟩

/-- `1 0 -1 -2 -3 -4 -5 -6 -7 -8 -9 -10 -11 -12 -13 -14 -15 -16 imp:n=1 $ this dollar comment is too long` -/
def exLine1 : Str := ['1', ' ', '0', ' ', '-', '1', ' ', '-', '2', ' ', '-', '3', ' ', '-', '4', ' ', '-', '5', ' ', '-', '6', ' ', '-', '7', ' ', '-', '8', ' ', '-', '9', ' ', '-', '1', '0', ' ', '-', '1', '1', ' ', '-', '1', '2', ' ', '-', '1', '3', ' ', '-', '1', '4', ' ', '-', '1', '5', ' ', '-', '1', '6', ' ', 'i', 'm', 'p', ':', 'n', '=', '1', ' ', '$', ' ', 't', 'h', 'i', 's', ' ', 'd', 'o', 'l', 'l', 'a', 'r', ' ', 'c', 'o', 'm', 'm', 'e', 'n', 't', ' ', 'i', 's', ' ', 't', 'o', 'o', ' ', 'l', 'o', 'n', 'g']
/-- `c this is a very long comment line that is longer than eighty columns but shorter than 128 columns` -/
def exLine2 : Str := ['c', ' ', 't', 'h', 'i', 's', ' ', 'i', 's', ' ', 'a', ' ', 'v', 'e', 'r', 'y', ' ', 'l', 'o', 'n', 'g', ' ', 'c', 'o', 'm', 'm', 'e', 'n', 't', ' ', 'l', 'i', 'n', 'e', ' ', 't', 'h', 'a', 't', ' ', 'i', 's', ' ', 'l', 'o', 'n', 'g', 'e', 'r', ' ', 't', 'h', 'a', 'n', ' ', 'e', 'i', 'g', 'h', 't', 'y', ' ', 'c', 'o', 'l', 'u', 'm', 'n', 's', ' ', 'b', 'u', 't', ' ', 's', 'h', 'o', 'r', 't', 'e', 'r', ' ', 't', 'h', 'a', 'n', ' ', '1', '2', '8', ' ', 'c', 'o', 'l', 'u', 'm', 'n', 's']
/-- `     vol=2 u=3` -/
def exLine3 : Str := [' ', ' ', ' ', ' ', ' ', 'v', 'o', 'l', '=', '2', ' ', 'u', '=', '3']
/-- the three lines with line ends and an empty line in between, as handed to `wrap_string_for_mcnp` -/
def exString : Str := ['1', ' ', '0', ' ', '-', '1', ' ', '-', '2', ' ', '-', '3', ' ', '-', '4', ' ', '-', '5', ' ', '-', '6', ' ', '-', '7', ' ', '-', '8', ' ', '-', '9', ' ', '-', '1', '0', ' ', '-', '1', '1', ' ', '-', '1', '2', ' ', '-', '1', '3', ' ', '-', '1', '4', ' ', '-', '1', '5', ' ', '-', '1', '6', ' ', 'i', 'm', 'p', ':', 'n', '=', '1', ' ', '$', ' ', 't', 'h', 'i', 's', ' ', 'd', 'o', 'l', 'l', 'a', 'r', ' ', 'c', 'o', 'm', 'm', 'e', 'n', 't', ' ', 'i', 's', ' ', 't', 'o', 'o', ' ', 'l', 'o', 'n', 'g', '\n', 'c', ' ', 't', 'h', 'i', 's', ' ', 'i', 's', ' ', 'a', ' ', 'v', 'e', 'r', 'y', ' ', 'l', 'o', 'n', 'g', ' ', 'c', 'o', 'm', 'm', 'e', 'n', 't', ' ', 'l', 'i', 'n', 'e', ' ', 't', 'h', 'a', 't', ' ', 'i', 's', ' ', 'l', 'o', 'n', 'g', 'e', 'r', ' ', 't', 'h', 'a', 'n', ' ', 'e', 'i', 'g', 'h', 't', 'y', ' ', 'c', 'o', 'l', 'u', 'm', 'n', 's', ' ', 'b', 'u', 't', ' ', 's', 'h', 'o', 'r', 't', 'e', 'r', ' ', 't', 'h', 'a', 'n', ' ', '1', '2', '8', ' ', 'c', 'o', 'l', 'u', 'm', 'n', 's', '\n', '\n', ' ', ' ', ' ', ' ', ' ', 'v', 'o', 'l', '=', '2', ' ', 'u', '=', '3', '\n']

def exCard : WCard := ⟨exLine1, [exLine2, exLine3]⟩

theorem exCard_ok : CardOK exCard := (FileWrite.cardOKb_iff exCard).mp (by decide +kernel)

theorem exCard_lines : ∀ l ∈ exCard.lines, LineOK 80 l := by
  intro l hl
  simp only [exCard, FileWrite.WCard.lines, List.mem_cons, List.mem_nil_iff, or_false] at hl
  rcases hl with rfl | rfl | rfl
  · exact lineOK_data _ _ (by decide +kernel)
  · exact lineOK_comment _ _ (by decide +kernel)
  · exact lineOK_data _ _ (by decide +kernel)

/-- two of its lines are longer than 80 columns: the card really is wrapped -/
example : 80 < exLine1.length ∧ 80 < exLine2.length := by decide +kernel

theorem exString_lines : (splitLines exString).filter stripNonEmpty = exCard.lines := by decide +kernel

example : ∃ o os, (wrapStringWith exString 80 true).1 = o :: os ∧ CardOK ⟨o, os⟩ ∧
    obsCard (readCard ⟨o, os⟩) = obsCard (readCard exCard) :=
  C10_roundtrip ((6, 1, 0), 80) (by decide) exString exCard exString_lines exCard_ok exCard_lines

/-! ## 7. the start rule and the blank-line rule as statements of their own -/

/-- **C10_start** — for every source line of the class `LineOK`: the first line `_wrap_line` returns is indented
    exactly when the source line is (an input's first line is not pushed into the continuation columns, a
    continuation line stays one) and is a comment card exactly when the source line is; every further line starts
    with at least `BLANK_SPACE_CONTINUE` blanks or is a comment card. -/
theorem C10_start (W : Nat) (hW : 7 < W) (L : Str) (h : LineOK W L) :
    ∃ o os, wrapLine L W [] (blanks Gen.blankSpaceContinue) = o :: os ∧
      isIndented o = isIndented L ∧ isCommentCard o = isCommentCard L ∧
      ∀ x ∈ os, isIndented x = true ∨ isCommentCard x = true := by
  obtain ⟨o, os, hw⟩ := wrapLine_lines W hW L h
  exact ⟨o, os, hw.eq, hw.indented, hw.comment, hw.rest⟩

theorem textBlank_of_fileBlank (x : Str) (h : isBlankLine x = false) : Spec.Text.isBlankLine x = false := by
  cases ht : Spec.Text.isBlankLine x with
  | false => rfl
  | true =>
    simp only [Spec.Text.isBlankLine, List.all_eq_true, beq_iff_eq] at ht
    have : isBlankLine x = true := List.all_eq_true.mpr fun c hc => by rw [ht c hc]; rfl
    rw [this] at h; cases h

/-- **C10_noblank** — no line `_wrap_line` produces is blank (a blank line would end the block), in every branch:
    lines that fit, wrapped data, a `$` comment put back behind its data or moved to lines of its own, wrapped comment
    cards.  Hypotheses: the source line is not blank and holds no white space but blanks; for a comment card, no
    word longer than a continuation `c ` line (otherwise nothing about the data: over-long words included). -/
theorem C10_noblank (W : Nat) (hW : 7 < W) (L : Str) (hcl : Clean L) (hnb : stripNonEmpty L = true)
    (hcm : isCommentCard L = true → CommentOK W L) :
    ∀ x ∈ wrapLine L W [] (blanks Gen.blankSpaceContinue),
      isBlankLine x = false ∧ Spec.Text.isBlankLine x = false := by
  suffices hx : ∀ x ∈ wrapLine L W [] (blanks 5), isBlankLine x = false from
    fun x hxm => ⟨hx x hxm, textBlank_of_fileBlank x (hx x hxm)⟩
  by_cases hc : isCommentCard L = true
  · exact fun x hx => ((wrapLine_comment W hW L [] hcl hc (hcm hc)).2.1 x hx).1
  · have hret : ∀ d, ∀ x ∈ dataPart W d, isBlankLine x = false :=
      fun d x hx => not_fileBlank_of_stripNonEmpty x (List.mem_filter.mp hx).2
    have hdollar : ∀ a t, isBlankLine (a ++ '$' :: t) = false :=
      fun a t => not_fileBlank_of_mem _ '$' (by simp) (by decide)
    intro x hx
    rcases wrapLine_data_shape W L hcl (by simpa using hc) with h | ⟨-, h⟩ | ⟨d, t, rfl, -, h | ⟨front, last, hfl, h⟩⟩
    · rw [h, List.mem_singleton] at hx
      exact hx ▸ not_fileBlank_of_stripNonEmpty L hnb
    · exact hret L x (h ▸ hx)
    · rcases List.mem_append.mp (h ▸ hx) with hx | hx
      · exact hret d x hx
      · exact ((dollarLines W hW t (hcl.of_subset fun c hc =>
          List.mem_append_right _ (List.mem_cons_of_mem _ hc))).2.1 x hx).nonblank
    · rcases List.mem_append.mp (h ▸ hx) with hx | hx
      · exact hret d x (hfl ▸ List.mem_append_left _ hx)
      · exact List.mem_singleton.mp hx ▸ hdollar last t

/-- **C10_data_stays_data** (the converse of `C10_comment_stays_comment`) — for every data line of the class `LineOK`
    (in particular one whose first word merely begins with `c`/`C` in columns 1-5: `c14`, `cf4`, `cut:n`, `ctme` …):
    no line `_wrap_line` returns is a comment card, the lines contribute no comment-card text, and their data words are
    exactly the words of the source line.  (`C10_start` gives the first half for the first line only — its
    continuation clause allows "indented or comment card"; here every continuation line is indented.) -/
theorem C10_data_stays_data (W : Nat) (hW : 7 < W) (L : Str) (h : LineOK W L) (hd : isCommentCard L = false) :
    (∀ x ∈ wrapLine L W [] (blanks Gen.blankSpaceContinue), isCommentCard x = false) ∧
    (obsLines (wrapLine L W [] (blanks Gen.blankSpaceContinue))).1 = Spec.File.words (splitDollar L).1 ∧
    (obsLines (wrapLine L W [] (blanks Gen.blankSpaceContinue))).2.2 = [] := by
  obtain ⟨o, os, he, -, hdl, -, hobs⟩ := wrapLine_data W hW L h.clean h.nonblank hd (h.data hd)
  have h5 : blanks Gen.blankSpaceContinue = blanks 5 := rfl
  rw [h5, he, hobs]
  exact ⟨fun x hx => (hdl x hx).notcomment, by simp [cw, hd], by simp [ccm, hd]⟩

/-- `c14 -1.0 -0.9 -0.8 -0.7 -0.6 -0.5 -0.4 -0.3 -0.2 -0.1 0.0 0.1 0.2 0.3 0.4 0.5 0.6 0.7 0.8 0.9 1.0`: the cosine bins of tally 14 (97 columns) -/
def exC14 : Str := ['c', '1', '4', ' ', '-', '1', '.', '0', ' ', '-', '0', '.', '9', ' ', '-', '0', '.', '8', ' ', '-', '0', '.', '7', ' ', '-', '0', '.', '6', ' ', '-', '0', '.', '5', ' ', '-', '0', '.', '4', ' ', '-', '0', '.', '3', ' ', '-', '0', '.', '2', ' ', '-', '0', '.', '1', ' ', '0', '.', '0', ' ', '0', '.', '1', ' ', '0', '.', '2', ' ', '0', '.', '3', ' ', '0', '.', '4', ' ', '0', '.', '5', ' ', '0', '.', '6', ' ', '0', '.', '7', ' ', '0', '.', '8', ' ', '0', '.', '9', ' ', '1', '.', '0']
/-- `  C14 -1.0 -0.9 -0.8 -0.7 -0.6 -0.5 -0.4 -0.3 -0.2 -0.1 0.0 0.1 0.2 0.3 0.4 0.5 0.6 0.7 0.8 0.9 1.0 $ cosine bins` -/
def exC14b : Str := [' ', ' ', 'C', '1', '4', ' ', '-', '1', '.', '0', ' ', '-', '0', '.', '9', ' ', '-', '0', '.', '8', ' ', '-', '0', '.', '7', ' ', '-', '0', '.', '6', ' ', '-', '0', '.', '5', ' ', '-', '0', '.', '4', ' ', '-', '0', '.', '3', ' ', '-', '0', '.', '2', ' ', '-', '0', '.', '1', ' ', '0', '.', '0', ' ', '0', '.', '1', ' ', '0', '.', '2', ' ', '0', '.', '3', ' ', '0', '.', '4', ' ', '0', '.', '5', ' ', '0', '.', '6', ' ', '0', '.', '7', ' ', '0', '.', '8', ' ', '0', '.', '9', ' ', '1', '.', '0', ' ', '$', ' ', 'c', 'o', 's', 'i', 'n', 'e', ' ', 'b', 'i', 'n', 's']

theorem exC14_ok : LineOK 80 exC14 ∧ LineOK 80 exC14b :=
  ⟨lineOK_data _ _ (by decide +kernel), lineOK_data _ _ (by decide +kernel)⟩

/-- non-vacuity on the look-alike family: both lines are data for MCNP (`isCommentCard = false`), are longer than 80
    columns, are in the class, and so none of the lines they are wrapped into is a comment card -/
example : isCommentCard exC14 = false ∧ isCommentCard exC14b = false ∧ 80 < exC14.length ∧ 80 < exC14b.length := by decide +kernel

example : (∀ x ∈ wrapLine exC14 80 [] (blanks Gen.blankSpaceContinue), isCommentCard x = false) ∧
    (∀ x ∈ wrapLine exC14b 80 [] (blanks Gen.blankSpaceContinue), isCommentCard x = false) :=
  ⟨(C10_data_stays_data 80 (by omega) exC14 exC14_ok.1 (by decide +kernel)).1,
   (C10_data_stays_data 80 (by omega) exC14b exC14_ok.2 (by decide +kernel)).1⟩

/-! ## 8. without the class: refuted by the code (finding C10-F1) -/

/-- `1 0 ` followed by a word of 77 `h` -/
def longLine : Str := ['1', ' ', '0', ' ', 'h', 'h', 'h', 'h', 'h', 'h', 'h', 'h', 'h', 'h', 'h', 'h', 'h', 'h', 'h', 'h', 'h', 'h', 'h', 'h', 'h', 'h', 'h', 'h', 'h', 'h', 'h', 'h', 'h', 'h', 'h', 'h', 'h', 'h', 'h', 'h', 'h', 'h', 'h', 'h', 'h', 'h', 'h', 'h', 'h', 'h', 'h', 'h', 'h', 'h', 'h', 'h', 'h', 'h', 'h', 'h', 'h', 'h', 'h', 'h', 'h', 'h', 'h', 'h', 'h', 'h', 'h', 'h', 'h', 'h', 'h', 'h', 'h', 'h', 'h', 'h', 'h']

theorem longLine_wrapped : wrapLine longLine 80 [] (blanks 5) =
    [['1', ' ', '0', ' '], blanks 5 ++ List.replicate 75 'h', blanks 5 ++ ['h', 'h']] := by
  decide +kernel

/-- the round trip claimed for every card of plain, non-blank lines — without the class `LineOK` -/
def C10_roundtrip_statement : Prop :=
  ∀ e ∈ Gen.lineLength, ∀ (s : Str) (src : WCard),
    (splitLines s).filter stripNonEmpty = src.lines → CardOK src → (∀ l ∈ src.lines, Clean l) →
    ∃ o os, (wrapStringWith s e.2 true).1 = o :: os ∧ CardOK ⟨o, os⟩ ∧
      obsCard (readCard ⟨o, os⟩) = obsCard (readCard src)

/-- **C10_roundtrip_refuted** — the code refutes it (finding C10-F1): in the 80-column regime the card `1 0 h…h` with a
    77-character word is written on three lines and read back with the words `1 0 h×75 hh`. -/
theorem C10_roundtrip_refuted : ¬ C10_roundtrip_statement := by
  intro h
  have hsl : (splitLines longLine).filter stripNonEmpty = [longLine] := by decide +kernel
  obtain ⟨o, os, he, _, hobs⟩ := h ((6, 1, 0), 80) (by decide) longLine ⟨longLine, []⟩ hsl
    ((FileWrite.cardOKb_iff _).mp (by decide +kernel))
    (List.forall_mem_singleton.mpr (clean_of_printable _ (by decide +kernel)))
  rw [wrapStringWith_eq, hsl] at he
  simp only [wrapCard, List.flatMap_cons, List.flatMap_nil, List.append_nil, longLine_wrapped] at he
  injection he with h1 h2
  subst h1 h2
  exact absurd (congrArg Prod.fst hobs) (by decide +kernel)
end MontePyVerif.C10
