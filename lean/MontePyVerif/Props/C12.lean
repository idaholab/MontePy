import MontePyVerif.Spec.Card
import MontePyVerif.Gen.Tokens
import MontePyVerif.Gen.Grammar
import MontePyVerif.Gen.Registry
import MontePyVerif.Model.Dispatch
import MontePyVerif.Lemmas.Cfg
import MontePyVerif.Lemmas.LexNum
/-! # C12 — every input in the documented core grammar is accepted

Proved, for all sentences of the families, whatever their size: the pinned terminals of G are in the tables the
code uses (`C12_pinned`); every well-formed card of G, under any legal layout of gaps, derives from the start symbol
of ANY grammar that contains the pinned required productions, and the grammars extracted from the SLY classes
contain them (`C12_cfg…`); the table look-ups route a cell parameter, a data card, a surface to its class
(`C12_dispatch`, `C12_param_keys`); the constant-count tests accept exactly G's arities (`C12_arity`); the lexers
re-classify keywords, particles and mnemonics (`C12_lexclass…`); the rules of `tokens.py` that compete on a
numeric word (`Model/LexNum.lean`) make one token of the expected type of every spelling of G's `Real` rule and of
the shortcuts (`C12_lexnum…`).

What is NOT proved here: context-free derivability is not LALR acceptance — SLY resolves the shift/reduce and
reduce/reduce conflicts counted in `Gen.Grammar` silently (`Props/C12LR.lean` is about the automaton) — and of the
regular expressions of `tokens.py` only the numeric rules are modelled.  Acceptance and the token classes are
validated on the real parser by `tools/props/c12.py` (acceptance oracle + comparison of `Spec.Card.*.classes`
with the real token stream).
-/
namespace MontePyVerif.C12
open MontePyVerif MontePyVerif.Spec.Card MontePyVerif.Cfg MontePyVerif.Dispatch
open MontePyVerif.Gen

/-! ## C12_pinned -/

def C12_pinned_statement : Prop :=
  pinnedKeywords ⊆ Tokens.cellLexerKeywords ∧ pinnedKeywords ⊆ Tokens.dataLexerKeywords ∧
  pinnedParticles ⊆ Tokens.cellLexerParticles ∧ pinnedParticles ⊆ Tokens.dataLexerParticles ∧
  pinnedSurfaceTypes ⊆ Tokens.surfaceLexerSurfaceTypes ∧
  pinnedCellKeywords ⊆ Registry.allowedCellKeywords ∧
  pinnedSurfaceTypes.map upper ⊆ Registry.surfaceTypeValues ∧
  pinnedParticles.map upper ⊆ Registry.particleValues ∧
  pinnedCellKeywords.map lower ⊆ pinnedKeywords ∧
  [1, 2] ⊆ Registry.latticeValues

/-- `C12_pinned` and the same inclusions for `ParticleLexer`'s own two tables (for `C12_lexclass`) in one
    declaration: the kernel keeps the decoded string tables only until the end of a declaration. -/
theorem pinned_tables : C12_pinned_statement ∧
    pinnedKeywords ⊆ Tokens.particleLexerKeywords ∧ pinnedParticles ⊆ Tokens.particleLexerParticles := by
  unfold C12_pinned_statement
  decide +kernel

theorem C12_pinned : C12_pinned_statement := pinned_tables.1

/-- non-vacuity: the pinned sets are the full lists of 5.2 -/
example : pinnedSurfaceTypes.length = 40 ∧ pinnedCellKeywords.length = 18 ∧ pinnedParticles.length = 22 := by decide

/-! ## C12_cfg -/

structure Grammar where
  start : String
  productions : Prods

/-- the full statement: for ANY production list containing the required productions of a parser, every
    well-formed card of the family (any size, any legal gaps) derives from that parser's start symbol -/
def C12_cfg_statement : Prop :=
  (∀ P : Prods, reqCell ⊆ P → ∀ c : CellCard, c.WF = true → Der P "cell" c.classes) ∧
  (∀ P : Prods, reqGeometry ⊆ P → ∀ e : Geom, e.WF = true → ∀ pad : Gap, pad.ok = true →
      Der P "geometry_expr" (e.classes ++ pad.cls)) ∧
  (∀ P : Prods, reqNumbers ⊆ P → ∀ es : Entries, es ≠ [] → es.WF = true → Der P "number_sequence" es.classes) ∧
  (∀ P : Prods, reqSurface ⊆ P → ∀ s : SurfaceCard, s.WF = true → Der P "surface" s.classes) ∧
  (∀ P : Prods, reqData ⊆ P → ∀ d : DataCard, d.WF = true → DataCard.isPlain d = true → Der P "data_input" d.classes) ∧
  (∀ P : Prods, reqMaterial ⊆ P → ∀ lead c g0 fr ps, (DataCard.mk lead c g0 (.material fr ps)).WF = true →
      Der P "material" (DataCard.mk lead c g0 (.material fr ps)).classes) ∧
  (∀ P : Prods, reqThermal ⊆ P → ∀ lead c g0 laws, (DataCard.mk lead c g0 (.thermal laws)).WF = true →
      Der P "thermal_mat" (DataCard.mk lead c g0 (.thermal laws)).classes)

/-- No hypothesis on the numbers: an interpolation may end on a zero, because the interpolate productions end in
    `numerical_phrase` (since MontePy e8e6f87; before, they ended in `number_phrase`, a non-zero NUMBER, and
    `a nI 0` had no derivation). -/
theorem C12_cfg : C12_cfg_statement :=
  ⟨fun _ => cell_der, fun _ h e hw => (geom_der h e hw).expr, fun _ => entries_der, fun _ => surface_der,
   fun _ => data_der, fun _ => material_der, fun _ => thermal_der⟩

theorem C12_cfg_geometry : ∀ P : Prods, reqGeometry ⊆ P → ∀ e : Geom, e.WF = true → ∀ pad : Gap, pad.ok = true →
    Der P "geometry_expr" (e.classes ++ pad.cls) :=
  have ⟨_, hgeo, _⟩ := C12_cfg
  hgeo

/-- The nine inclusions of `C12_required_productions` and `C12_required_productions_extended` in one declaration:
    the parser classes share most of their productions, and the kernel keeps what it has reduced only until the
    end of a declaration. -/
theorem required_sub_extracted :
    (reqCell ⊆ Grammar.cellParser.productions ∧ reqSurface ⊆ Grammar.surfaceParser.productions ∧
      reqData ⊆ Grammar.dataParser.productions ∧ reqMaterial ⊆ Grammar.materialParser.productions ∧
      reqThermal ⊆ Grammar.thermalParser.productions) ∧
    (reqTally ⊆ Grammar.tallyParser.productions ∧ reqTallySeg ⊆ Grammar.tallySegmentParser.productions ∧
      reqSdef ⊆ Grammar.paramOnlyDataParser.productions ∧ reqLettered ⊆ Grammar.dataParser.productions) := by
  decide +kernel

/-- the per-run obligation: the required productions are among those the translator extracted from the SLY
    parser classes of the working tree (deleting or altering a production G needs fails here) -/
theorem C12_required_productions :
    reqCell ⊆ Grammar.cellParser.productions ∧ reqSurface ⊆ Grammar.surfaceParser.productions ∧
    reqData ⊆ Grammar.dataParser.productions ∧ reqMaterial ⊆ Grammar.materialParser.productions ∧
    reqThermal ⊆ Grammar.thermalParser.productions ∧
    Grammar.cellParser.start = "cell" ∧ Grammar.surfaceParser.start = "surface" ∧
    Grammar.dataParser.start = "data_input" ∧ Grammar.materialParser.start = "material" ∧
    Grammar.thermalParser.start = "thermal_mat" := by
  obtain ⟨h1, h2, h3, h4, h5⟩ := required_sub_extracted.1
  exact ⟨h1, h2, h3, h4, h5, rfl, rfl, rfl, rfl, rfl⟩

/-- `C12_cfg` instantiated with MontePy's grammars as they are now -/
theorem C12_cfg_montepy :
    (∀ c : CellCard, c.WF = true → Der Grammar.cellParser.productions Grammar.cellParser.start c.classes) ∧
    (∀ s : SurfaceCard, s.WF = true → Der Grammar.surfaceParser.productions Grammar.surfaceParser.start s.classes) ∧
    (∀ d : DataCard, d.WF = true → DataCard.isPlain d = true →
      Der Grammar.dataParser.productions Grammar.dataParser.start d.classes) ∧
    (∀ lead c g0 fr ps, (DataCard.mk lead c g0 (.material fr ps)).WF = true →
      Der Grammar.materialParser.productions Grammar.materialParser.start
        (DataCard.mk lead c g0 (.material fr ps)).classes) ∧
    (∀ lead c g0 laws, (DataCard.mk lead c g0 (.thermal laws)).WF = true →
      Der Grammar.thermalParser.productions Grammar.thermalParser.start
        (DataCard.mk lead c g0 (.thermal laws)).classes) := by
  obtain ⟨h1, h2, h3, h4, h5, s1, s2, s3, s4, s5⟩ := C12_required_productions
  obtain ⟨hcell, _, _, hsurf, hdata, hmat, htherm⟩ := C12_cfg
  rw [s1, s2, s3, s4, s5]
  exact ⟨hcell _ h1, hsurf _ h2, hdata _ h3, hmat _ h4, htherm _ h5⟩

/-! non-vacuity: concrete sentences of G that satisfy every hypothesis -/

/-- `1 0 (1:-2)(3) #4 imp:n,p=1 fill=0:1 0:0 0:0 5 6 $c` -/
def exampleCell : CellCard where
  lead := []
  number := "1"
  g0 := [.space]
  material := none
  g1 := [.space]
  geometry :=
    .inter (.inter (.paren [] (.union (.surf "1") [] [] (.surf "-2")) []) [] (.paren [] (.surf "3") []))
      [.space] (.compl (.surf "4"))
  g2 := [.space]
  params :=
    [{ key := { star := false, name := "imp", nameCls := "KEYWORD", number := none, particles := ["n", "p"] },
       sep := { before := [], eq := true, after := [] },
       val := .nums [(.real ⟨"1", false⟩, [.space])] },
     { key := { star := false, name := "fill", nameCls := "KEYWORD", number := none, particles := [] },
       sep := { before := [], eq := true, after := [] },
       val := .lattice ⟨"0", true⟩ ⟨"1", false⟩ [.space] ⟨"0", true⟩ ⟨"0", true⟩ [.space] ⟨"0", true⟩ ⟨"0", true⟩
         [.space] [(.real ⟨"5", false⟩, [.space]), (.real ⟨"6", false⟩, [.space, .dollar])] }]

example : exampleCell.WF = true := by decide
example : exampleCell.render =
    ["1", "0", "(", "1", ":", "-2", ")", "(", "3", ")", "#", "4", "imp:n,p", "1",
     "fill", "0", ":", "1", "0", ":", "0", "0", ":", "0", "5", "6"] := rfl
example : Der Grammar.cellParser.productions "cell" exampleCell.classes :=
  C12_cfg_montepy.1 exampleCell (by decide)

/-- `*7 -3 k/x 1 2r 4 0.5` -/
def exampleSurface : SurfaceCard where
  lead := []
  star := true
  number := "7"
  g0 := [.space]
  pointer := some ("-3", [.space])
  mnemonic := "k/x"
  g1 := [.space]
  constants := [(.rep ⟨"1", false⟩ [.space] "2r" true, [.space]), (.real ⟨"4", false⟩, [.space]),
    (.real ⟨"0.5", false⟩, [])]

example : exampleSurface.WF = true := by decide

/-- `e4 5 3i 0`: an interpolation that ends on zero is a sentence of G and is derivable -/
def exampleInterpZero : DataCard where
  lead := []
  classifier := { star := false, name := "e", nameCls := "PARTICLE", number := some "4", particles := [] }
  g0 := [.space]
  body := .numbers none [(.interp ⟨"5", false⟩ [.space] "3i" true false [.space] ⟨"0", true⟩, [])]

example : exampleInterpZero.WF = true ∧ exampleInterpZero.interpEndNonzero = false := by decide
example : Der Grammar.dataParser.productions "data_input" exampleInterpZero.classes :=
  C12_cfg_montepy.2.2.1 exampleInterpZero (by decide) (by decide)

/-! ### tally, FS, SDEF, SI/SP/SB/DS with an option letter -/

/-- for ANY production list containing the required productions: every well-formed F card (bins, groups with
    gaps, total), FS card, SDEF card (numbers, `dN`, particle values; possibly no parameter) and lettered
    SI/SP/SB/DS card derives from the start symbol of its parser -/
def C12_cfg_extended_statement : Prop :=
  (∀ P : Prods, reqTally ⊆ P → ∀ lead c g0 items total, (XCard.mk lead c g0 (.tally items total)).WF = true →
      Der P "tally" (XCard.mk lead c g0 (.tally items total)).classes) ∧
  (∀ P : Prods, reqTallySeg ⊆ P → ∀ lead c g0 es total, (XCard.mk lead c g0 (.segments es total)).WF = true →
      Der P "tally" (XCard.mk lead c g0 (.segments es total)).classes) ∧
  (∀ P : Prods, reqSdef ⊆ P → ∀ lead c g0 ps, (XCard.mk lead c g0 (.sdef ps)).WF = true →
      Der P "param_data_input" (XCard.mk lead c g0 (.sdef ps)).classes) ∧
  (∀ P : Prods, reqLettered ⊆ P → ∀ lead c g0 l g es, (XCard.mk lead c g0 (.lettered l g es)).WF = true →
      Der P "data_input" (XCard.mk lead c g0 (.lettered l g es)).classes)

theorem C12_cfg_extended : C12_cfg_extended_statement :=
  ⟨fun _ => tally_der, fun _ => segments_der, fun _ => sdef_der, fun _ => lettered_der⟩

theorem C12_required_productions_extended :
    reqTally ⊆ Grammar.tallyParser.productions ∧ reqTallySeg ⊆ Grammar.tallySegmentParser.productions ∧
    reqSdef ⊆ Grammar.paramOnlyDataParser.productions ∧ reqLettered ⊆ Grammar.dataParser.productions ∧
    Grammar.tallyParser.start = "tally" ∧ Grammar.tallySegmentParser.start = "tally" ∧
    Grammar.paramOnlyDataParser.start = "param_data_input" := by
  obtain ⟨h1, h2, h3, h4⟩ := required_sub_extracted.2
  exact ⟨h1, h2, h3, h4, rfl, rfl, rfl⟩

theorem C12_cfg_extended_montepy :
    (∀ lead c g0 items total, (XCard.mk lead c g0 (.tally items total)).WF = true →
      Der Grammar.tallyParser.productions Grammar.tallyParser.start (XCard.mk lead c g0 (.tally items total)).classes) ∧
    (∀ lead c g0 es total, (XCard.mk lead c g0 (.segments es total)).WF = true →
      Der Grammar.tallySegmentParser.productions Grammar.tallySegmentParser.start
        (XCard.mk lead c g0 (.segments es total)).classes) ∧
    (∀ lead c g0 ps, (XCard.mk lead c g0 (.sdef ps)).WF = true →
      Der Grammar.paramOnlyDataParser.productions Grammar.paramOnlyDataParser.start
        (XCard.mk lead c g0 (.sdef ps)).classes) ∧
    (∀ lead c g0 l g es, (XCard.mk lead c g0 (.lettered l g es)).WF = true →
      Der Grammar.dataParser.productions Grammar.dataParser.start (XCard.mk lead c g0 (.lettered l g es)).classes) := by
  obtain ⟨h1, h2, h3, h4, s1, s2, s3⟩ := C12_required_productions_extended
  have s4 : Grammar.dataParser.start = "data_input" := rfl
  obtain ⟨htally, hseg, hsdef, hlettered⟩ := C12_cfg_extended
  rw [s1, s2, s3, s4]
  exact ⟨htally _ h1, hseg _ h2, hsdef _ h3, hlettered _ h4⟩

/-- `*f14:n,p 1 ( 2 3) (4) t` -/
def exampleTally : XCard where
  lead := []
  classifier := { star := true, starCls := "PARTICLE_SPECIAL", name := "f", nameCls := "PARTICLE", number := some "14",
                  particles := ["n", "p"] }
  g0 := [.space]
  body := .tally [.bins [(.real ⟨"1", false⟩, [.space])],
                  .group [.space] [(.real ⟨"2", false⟩, [.space]), (.real ⟨"3", false⟩, [])] [.space],
                  .group [] [(.real ⟨"4", false⟩, [])] [.space]] (some ("t", []))

example : exampleTally.WF = true := by decide
example : exampleTally.render = ["*f14:n,p", "1", "(", "2", "3", ")", "(", "4", ")", "t"] := rfl

/-- `sdef erg=d1 pos 0 0 0 par=n` and the bare `sdef` -/
def exampleSdef : XCard where
  lead := []
  classifier := { star := false, name := "sdef", nameCls := "TEXT", number := none, particles := [] }
  g0 := [.space]
  body := .sdef [⟨"erg", ⟨[], true, []⟩, .dist "d" "1" [.space]⟩,
                 ⟨"pos", ⟨[.space], false, []⟩, .nums [(.real ⟨"0", true⟩, [.space]), (.real ⟨"0", true⟩, [.space]),
                    (.real ⟨"0", true⟩, [.space])]⟩,
                 ⟨"par", ⟨[], true, []⟩, .particle "n" []⟩]
example : exampleSdef.WF = true := by decide
example : ({ exampleSdef with g0 := [], body := .sdef [] } : XCard).WF = true := by decide

/-! ## C12_dispatch -/

/-- (class, prefix) pairs of PREFIX_MATCHES -/
def classPrefixes : List (String × String) := Registry.prefixMatches.map (fun c => (c.1, c.2.1))

/-- the order in which the Python set is scanned cannot matter: no two classes share a prefix or a name -/
theorem prefixes_nodup : (Registry.prefixMatches.map (·.2.1)).Nodup ∧ (Registry.prefixMatches.map (·.1)).Nodup := by
  decide +kernel

/-- GENERAL (all strings): a cell parameter is handed to a modifier class only if that class' prefix EQUALS the
    keyword — never to another class (the unrepaired `prefix in key` refuted this for `nonu`, `unc`) -/
theorem C12_dispatch_cell_exact : ∀ (k cls : String), cls ∈ routeCellKeyword k → (cls, k) ∈ classPrefixes := by
  intro k cls h
  unfold routeCellKeyword at h
  simp only [List.mem_map, List.mem_filter] at h
  obtain ⟨c, ⟨hc, hcond⟩, rfl⟩ := h
  simp only [Bool.and_eq_true, beq_iff_eq] at hcond
  unfold classPrefixes
  exact List.mem_map.mpr ⟨c, hc, by rw [← hcond.2]⟩

/-- GENERAL: `parse_data` returns the catch-all or the class whose prefix equals the card's prefix -/
theorem C12_dispatch_data_exact : ∀ (p : String), parseData p = "DataInput" ∨ (parseData p, p) ∈ classPrefixes := by
  intro p
  unfold parseData
  cases h : Registry.prefixMatches.find? (fun c => c.2.1 == p) with
  | none => exact .inl rfl
  | some c =>
    refine .inr ?_
    have hm := List.mem_of_find?_eq_some h
    have hp := List.find?_some h
    simp only [beq_iff_eq] at hp
    exact List.mem_map.mpr ⟨c, hm, by rw [← hp]⟩

/-- the shape of the classifier G gives to the data cards that have a class of their own -/
def pinnedDataShapes : List (String × Bool × Bool) :=
  [("m", true, false), ("mt", true, false), ("tr", true, false), ("mode", false, false), ("imp", false, true),
   ("vol", false, false), ("u", false, false), ("lat", false, false), ("fill", false, false)]

/-- the parser G's data cards need: parenthesised tally bins, segment lists, key=value only, … -/
def expectedParser (name : String) : String :=
  if name == "m" then "MaterialParser" else if name == "mt" then "ThermalParser"
  else if name == "f" || name == "fm" then "TallyParser" else if name == "fs" then "TallySegmentParser"
  else if name == "sdef" then "ParamOnlyDataParser" else "DataParser"

def C12_dispatch_statement : Prop :=
  -- every pinned cell keyword goes to its own class (when one exists) or to the generic path, never elsewhere
  (∀ k ∈ pinnedCellKeywords, ∀ cls ∈ routeCellKeyword (lower k), (cls, lower k) ∈ classPrefixes) ∧
  (∀ k ∈ pinnedCellKeywords, (routeCellKeyword (lower k)).length =
      if ["imp", "vol", "u", "lat", "fill"].contains (lower k) then 1 else 0) ∧
  -- every data name of G goes to the class whose prefix equals it, else to the catch-all
  (∀ n ∈ pinnedDataNames, ∀ c ∈ classPrefixes, c.2 = n → parseData n = c.1) ∧
  (∀ n ∈ pinnedDataNames, (∀ c ∈ classPrefixes, c.2 ≠ n) → parseData n = "DataInput") ∧
  (∀ s ∈ pinnedDataShapes, parseData s.1 ≠ "DataInput") ∧
  -- … whose name check accepts G's classifier, for every number
  (∀ s ∈ pinnedDataShapes, ∀ k : Int, k > 0 →
      enforceName (parseData s.1) s.1 (if s.2.1 then some k else none) s.2.2 = none) ∧
  -- … and is parsed by the parser that has G's productions for it
  (∀ n ∈ pinnedDataNames, dataParserOf n = expectedParser n)

/-- `__enforce_name` looks at the number only through "is there one" and "is it positive" -/
theorem enforceName_pos (cls p : String) (k : Int) (hk : k > 0) (b : Bool) :
    enforceName cls p (some k) b = enforceName cls p (some 1) b := by
  simp [enforceName, hk]

theorem C12_dispatch : C12_dispatch_statement := by
  unfold C12_dispatch_statement
  refine ⟨fun k _ cls h => C12_dispatch_cell_exact _ _ h, ?_⟩
  -- the next four conjuncts sweep the same tables: grouped, one evaluation serves all four
  rw [← and_assoc, ← and_assoc, ← and_assoc]
  refine ⟨by decide +kernel, ?_, by decide +kernel⟩
  intro s hs k hk
  have one : ∀ s ∈ pinnedDataShapes,
      enforceName (parseData s.1) s.1 (if s.2.1 then some 1 else none) s.2.2 = none := by decide +kernel
  rw [← one s hs]
  cases s.2.1
  · rfl
  · exact enforceName_pos _ _ k hk _

/-- non-vacuity / what the repair changed: `NONU` and `UNC` take the generic path -/
example : routeCellKeyword (lower "NONU") = [] ∧ routeCellKeyword (lower "UNC") = [] ∧
    routeCellKeyword (lower "U") = ["UniverseInput"] := by decide +kernel

/-- the in-place part of `_parse_keyword_modifiers` on a concrete cell: `u=2 nonu=1 imp:n=1 imp:p=0 tmp1=3` -/
example : parseKeywordModifiers [⟨"u", "", ""⟩, ⟨"nonu", "", ""⟩, ⟨"imp", ":n", ""⟩, ⟨"imp", ":p", ""⟩, ⟨"tmp", "", "1"⟩] =
    some { set := ["_universe", "_importance"], merged := ["_importance"], dropped := [], found := ["u", "imp"],
           keys := ["u", "nonu", "imp:n", "imp:p", "tmp1", "vol", "lat", "fill"] } := by decide +kernel

/-! ### ParametersNode.append keeps the classifier's number in the key -/

/-- two parameters of G with the same keyword and particles but different indices (`TMP1` / `TMP2`,
    `WWN1:n` / `WWN2:n`) never collide.  (Refuted until MontePy 280a407: the number was not part of the key.) -/
theorem C12_param_keys : ∀ (a b : Param), a.pfx = b.pfx → a.particles = b.particles → a.number ≠ b.number →
    a.keyChars ≠ b.keyChars := by
  intro a b hp hq hn h
  unfold Param.keyChars at h
  rw [hp, hq] at h
  have h1 := List.append_cancel_right h
  have h2 := List.append_cancel_left h1
  exact hn (String.toList_inj.mp h2)

example : (Param.mk "tmp" "" "1").key = "tmp1" ∧ (Param.mk "WWN" ":N" "2").key = "wwn2:n" := by decide +kernel
example : parseKeywordModifiers [⟨"tmp", "", "1"⟩, ⟨"tmp", "", "2"⟩] ≠ none := by decide
/-- the same parameter twice is still refused -/
example : parseKeywordModifiers [⟨"tmp", "", "1"⟩, ⟨"tmp", "", "1"⟩] = none := by decide

/-! ## C12_arity -/

/-- the mnemonics `surface_builder` sends to a class with a constant-count test -/
def countedMnemonics : List String := ["px", "py", "pz", "cx", "cy", "cz", "c/x", "c/y", "c/z", "p"]

def C12_arity_statement : Prop :=
  -- every arity of 5.2 is accepted …
  (∀ ma ∈ pinnedSurfaceArities, ∀ n ∈ ma.2, surfaceAccepts ma.1 n = true) ∧
  (∀ ma ∈ pinnedSurfaceArities, ∀ n ∈ ma.2, surfaceAccepts (upper ma.1) n = true) ∧
  -- … the specialised classes accept EXACTLY G's arities, for every n …
  (∀ m ∈ countedMnemonics, ∀ n : Nat, surfaceAccepts m n = arityAllowed m n) ∧
  -- … and every other mnemonic of G has no count test at all
  (∀ m ∈ pinnedSurfaceTypes, m ∉ countedMnemonics → ∀ n : Nat, surfaceAccepts m n = true)

theorem toUpper_idem (c : Char) : c.toUpper.toUpper = c.toUpper := by
  unfold Char.toUpper
  split
  · next h =>
    split
    · next h' =>
      -- a letter moved from `a…z` to `A…Z` is no longer in `a…z`
      exfalso
      simp only [UInt32.le_iff_toNat_le, UInt32.toNat_add] at h h'
      revert h h'
      simp +decide
      omega
    · rfl
  · simp

theorem upper_upper (s : String) : upper (upper s) = upper s := by
  simp [upper, String.toList_ofList, List.map_map, Function.comp_def, toUpper_idem]

/-- `Surface.__init__` upper-cases the mnemonic before anything looks at it -/
theorem accepts_upper (m : String) (n : Nat) : surfaceAccepts (upper m) n = surfaceAccepts m n := by
  simp [surfaceAccepts, surfaceBuilder, convertToEnum, upper_upper]

theorem C12_arity : C12_arity_statement := by
  -- what is evaluated: the count tests of the ten specialised mnemonics are G's arities, the other mnemonics of G
  -- have none, and looking a pinned mnemonic up gives its own row
  have counted : ∀ m ∈ countedMnemonics,
      (match convertToEnum m with
        | some v => decide (countsOf (surfaceClass v) = arities m) && !(arities m).isEmpty
        | none => false) = true := by decide +kernel
  have others : ∀ m ∈ pinnedSurfaceTypes, m ∉ countedMnemonics →
      (match convertToEnum m with | some v => (countsOf (surfaceClass v)).isEmpty | none => false) = true := by
    decide +kernel
  have row : ∀ ma ∈ pinnedSurfaceArities, arities ma.1 = ma.2 := by decide +kernel
  have sharp : ∀ m ∈ countedMnemonics, ∀ n : Nat, surfaceAccepts m n = arityAllowed m n := by
    intro m hm n
    have hk := counted m hm
    unfold surfaceAccepts surfaceBuilder arityAllowed
    cases hc : convertToEnum m with
    | none => simp [hc] at hk
    | some v =>
      simp only [hc, Bool.and_eq_true, decide_eq_true_eq, Bool.not_eq_true'] at hk
      simp only [hk.1, hk.2, Bool.false_or]
      cases (arities m).contains n <;> rfl
  have free : ∀ m ∈ pinnedSurfaceTypes, m ∉ countedMnemonics → ∀ n : Nat, surfaceAccepts m n = true := by
    intro m hm hnot n
    have hk := others m hm hnot
    unfold surfaceAccepts surfaceBuilder
    cases hc : convertToEnum m with
    | none => simp [hc] at hk
    | some v => simp only [hc] at hk; simp [hk]
  have lowerCase : ∀ ma ∈ pinnedSurfaceArities, ∀ n ∈ ma.2, surfaceAccepts ma.1 n = true := by
    intro ma hma n hn
    by_cases hc : ma.1 ∈ countedMnemonics
    · rw [sharp _ hc, arityAllowed, row ma hma]; simpa using hn
    · exact free _ (List.mem_map.mpr ⟨ma, hma, rfl⟩) hc n
  exact ⟨lowerCase, fun ma hma n hn => (accepts_upper _ _).trans (lowerCase ma hma n hn), sharp, free⟩

example : surfaceAccepts "px" 2 = false ∧ surfaceAccepts "p" 9 = true ∧ surfaceAccepts "arb" 30 = true := by decide +kernel

/-! ## C12_lexclass -/

/-- outside a particle position, keywords in any letter case become KEYWORD tokens in cell and data cards;
    mnemonics become SURFACE_TYPE -/
def C12_lexclass_statement : Prop :=
  (∀ w : String, lower w ∈ pinnedKeywords → particleLexerText false w = "KEYWORD") ∧
  (∀ w : String, lower w ∈ pinnedSurfaceTypes → surfaceLexerText w = "SURFACE_TYPE")

theorem C12_lexclass : C12_lexclass_statement := by
  constructor
  · intro w h
    have hmem : lower w ∈ Tokens.particleLexerKeywords := pinned_tables.2.1 h
    simp [particleLexerText, hmem]
  · intro w h
    obtain ⟨_, _, _, _, hsurf, _⟩ := C12_pinned
    simp [surfaceLexerText, hsurf h]

example : lower "NoNu" ∈ pinnedKeywords ∧ lower "C/X" ∈ pinnedSurfaceTypes := by decide +kernel

/-- the full statement for particles: where only a particle can stand, every letter designator of table 2-2,
    in any letter case, becomes a PARTICLE token — also `u`, `x`, `y`, `z`, which are keywords too.
    (Refuted by `u` until MontePy 22ba69f: the keyword test came first everywhere.) -/
def C12_lexclass_particles_statement : Prop :=
  ∀ w : String, lower w ∈ pinnedParticles → particleLexerText true w = "PARTICLE"

theorem C12_lexclass_particles : C12_lexclass_particles_statement := by
  intro w h
  have hp : lower w ∈ Tokens.particleLexerParticles := pinned_tables.2.2 h
  simp [particleLexerText, hp]

/-- the positions G puts a particle in are recognised: after `:` and `,`, on a MODE card spelled `mode`, `MODE` or `Mode`,
    after `par` / `par=` (but not after a longer word that merely ends in par) -/
theorem C12_expects_particle :
    (∀ f k, expectsParticle (some ':') f k = true) ∧ (∀ f k, expectsParticle (some ',') f k = true) ∧
    (∀ p k, expectsParticle p (some "mode") k = true) ∧ (∀ p k, expectsParticle p (some "MODE") k = true) ∧
    (∀ p k, expectsParticle p (some "Mode") k = true) ∧
    expectsParticle (some '=') (some "sdef") "sdef erg=1 par" = true ∧
    expectsParticle (some ' ') (some "sdef") "sdef par" = true ∧
    expectsParticle (some '=') (some "sdef") "sdef spar" = false ∧
    expectsParticle (some ' ') (some "u") "u" = false ∧ expectsParticle none none "" = false := by
  have mode : ∀ f, lower f = "mode" → ∀ p k, expectsParticle p (some f) k = true :=
    fun f hf p k => by simp [expectsParticle, hf]
  exact ⟨fun f k => by simp [expectsParticle], fun f k => by simp [expectsParticle], mode _ (by decide +kernel),
    mode _ (by decide +kernel), mode _ (by decide +kernel), by decide +kernel⟩

def isKeywordLetter (w : String) : Bool := Tokens.particleLexerKeywords.contains (lower w)

/-- elsewhere the keyword test still comes first (`u=1`, `x=d1` are keywords), and a particle letter that is no
    keyword is a PARTICLE anyway -/
theorem C12_lexclass_particles_elsewhere :
    ∀ w : String, lower w ∈ pinnedParticles → isKeywordLetter w = false → particleLexerText false w = "PARTICLE" := by
  intro w h hk
  have hp : lower w ∈ Tokens.particleLexerParticles := pinned_tables.2.2 h
  have hk' : lower w ∉ Tokens.particleLexerKeywords := by
    intro hmem
    simp [isKeywordLetter, hmem] at hk
  simp [particleLexerText, hk', hp]

example : pinnedParticles.filter isKeywordLetter = ["u", "x", "y", "z"] := by decide +kernel
example : particleLexerText false "u" = "KEYWORD" ∧ particleLexerText true "U" = "PARTICLE" := by decide +kernel

/-! ## C12_lexnum — the regular-expression decision on numeric words (Model/LexNum.lean)

The rules were modelled from these exact pattern strings; `C12_lexnum_patterns` pins them (and their order, the
rules in front of them, the flags and the shortcut expressions) against what the translator extracted from every
lexer class: a changed pattern makes this theorem false, the module stops building and the check searches. -/

/-- the rules in front of the numeric ones: none can start at a sign, a digit or a point -/
def pinnedLeadingRules : List (String × String) :=
  [("COMPLEMENT", "\\#"), ("DOLLAR_COMMENT", "(\\$.*)"), ("COMMENT", "(C\\n)|(C\\s.*)"),
   ("SOURCE_COMMENT", "(SC\\d+.*)"), ("TALLY_COMMENT", "(FC\\d+.*)"), ("SPACE", "(\\s+)")]

/-- the rules that compete on a numeric word, in master-regex order (THERMAL_LAW starts with a letter) -/
def pinnedNumericRules : List (String × String) :=
  [("ZAID", "(\\d{4,6}\\.(\\d{2}(?!e[+\\-]?\\d)[a-z]|\\d{3}[a-z]{2}))"),
   ("THERMAL_LAW", "[a-z][a-z\\d/-]+\\.\\d+[a-z]"),
   ("NUMBER_WORD",
    "([+\\-]?\\d+(?!e[+\\-]?\\d)[a-z]+)|([+\\-]?(\\d+\\.?\\d*|\\.\\d+)(e[+\\-]?\\d+|[+\\-]\\d+)?m(?![a-z]))"),
   ("NUMBER", "([+\\-]?[0-9]+\\.?[0-9]*E?[+\\-]?[0-9]*)|([+\\-]?[0-9]*\\.?[0-9]+E?[+\\-]?[0-9]*)"),
   ("TEXT", "([+\\-]?[0-9]*\\.?[0-9]*E?[+\\-]?[0-9]*[ijrml]+[a-z\\./]*)|([a-z]+[a-z\\./]*)")]

/-- `_EXPRESSIONS`, from which `LexNum.parseShortcut` was written -/
def pinnedShortcutExpressions : List (String × String) :=
  [("INTERPOLATE", "^\\d*I$"), ("JUMP", "^\\d*J$"), ("LOG_INTERPOLATE", "^\\d*I?LOG$"),
   ("MULTIPLY", "^[+\\-]?([0-9]+\\.?[0-9]*|\\.[0-9]+)E?[+\\-]?[0-9]*M$"), ("REPEAT", "^\\d*R$")]

theorem C12_lexnum_patterns :
    (∀ rules ∈ [Tokens.mCNPLexerRules, Tokens.particleLexerRules, Tokens.cellLexerRules, Tokens.dataLexerRules,
        Tokens.surfaceLexerRules], rules.take 11 = pinnedLeadingRules ++ pinnedNumericRules) ∧
    (∀ fl ∈ [Tokens.mCNPLexerReflags, Tokens.particleLexerReflags, Tokens.cellLexerReflags,
        Tokens.dataLexerReflags, Tokens.surfaceLexerReflags], fl = 66) ∧   -- re.IGNORECASE | re.VERBOSE
    Tokens.shortcutExpressions = pinnedShortcutExpressions := by
  -- `rfl` compares the string literals of the two sides as they stand; `decide` would decode every one of them
  refine ⟨?_, by decide, rfl⟩
  simp only [List.forall_mem_cons, List.not_mem_nil, false_imp_iff, implies_true, and_true]
  exact ⟨rfl, rfl, rfl, rfl, rfl⟩

namespace LexBridge
open MontePyVerif.LexNum

def dchar (d : Fin 10) : Char := Char.ofNat (48 + d.val)

theorem kind_dchar : ∀ d : Fin 10, kind (dchar d) = K.dig (d.val == 0) := by decide

def dchars (ds : List (Fin 10)) : List Char := ds.map dchar
def zflags (ds : List (Fin 10)) : List Bool := ds.map (fun d => d.val == 0)

theorem kinds_dchars (ds : List (Fin 10)) : (dchars ds).map kind = digs (zflags ds) := by
  induction ds with
  | nil => rfl
  | cons d ds ih => simp [dchars, zflags, kind_dchar, digs] at ih ⊢

theorem zflags_cons (d : Fin 10) (ds : List (Fin 10)) : zflags (d :: ds) = (d.val == 0) :: zflags ds := rfl

/-- `MantC`, `ExpC`, `RealC`: G's `Real` rule on CHARACTERS: sign, digits, point, exponent with `e` or `E` or without a letter -/
inductive MantC
  | int (d : Fin 10) (ip : List (Fin 10))
  | intDot (d : Fin 10) (ip fp : List (Fin 10))
  | dotFrac (d : Fin 10) (fp : List (Fin 10))
inductive ExpC
  | none
  | letter (upper : Bool) (sg : Option Bool) (d : Fin 10) (ds : List (Fin 10))
  | bare (minus : Bool) (d : Fin 10) (ds : List (Fin 10))
structure RealC where
  sign : Option Bool
  mant : MantC
  exp : ExpC

def signC : Option Bool → List Char
  | none => [] | some true => ['+'] | some false => ['-']
def MantC.chars : MantC → List Char
  | .int d ip => dchars (d :: ip)
  | .intDot d ip fp => dchars (d :: ip) ++ '.' :: dchars fp
  | .dotFrac d fp => '.' :: dchars (d :: fp)
def ExpC.chars : ExpC → List Char
  | .none => []
  | .letter up sg d ds => (if up then 'E' else 'e') :: (signC sg ++ dchars (d :: ds))
  | .bare mn d ds => (if mn then '-' else '+') :: dchars (d :: ds)
def RealC.chars (r : RealC) : List Char := signC r.sign ++ (r.mant.chars ++ r.exp.chars)

def MantC.sp : MantC → MantSp
  | .int d ip => .int (d.val == 0) (zflags ip)
  | .intDot d ip fp => .intDot (d.val == 0) (zflags ip) (zflags fp)
  | .dotFrac d fp => .dotFrac (d.val == 0) (zflags fp)
def ExpC.sp : ExpC → ExpSp
  | .none => .none
  | .letter _ sg d ds => .letter sg (d.val == 0) (zflags ds)
  | .bare mn d ds => .bare mn (d.val == 0) (zflags ds)
def RealC.sp (r : RealC) : RealSp := ⟨r.sign, r.mant.sp, r.exp.sp⟩

theorem kinds_signC (sg : Option Bool) : (signC sg).map kind = signK sg := by
  cases sg with
  | none => rfl
  | some b => cases b <;> decide

theorem kinds_real (r : RealC) : r.chars.map kind = r.sp.ks := by
  obtain ⟨sg, mant, ex⟩ := r
  have hdot : kind '.' = K.dot := by decide
  have he : kind 'e' = K.e ∧ kind 'E' = K.e ∧ kind '+' = K.plus ∧ kind '-' = K.minus := by decide
  have hm : mant.chars.map kind = mant.sp.ks := by
    cases mant <;>
      simp only [MantC.chars, MantC.sp, MantSp.ks, List.map_append, List.map_cons, kinds_dchars, hdot, zflags_cons]
  have hx : ex.chars.map kind = ex.sp.ks := by
    cases ex with
    | none => rfl
    | letter up sg' d ds =>
      cases up <;>
        simp only [ExpC.chars, ExpC.sp, ExpSp.ks, List.map_append, List.map_cons, kinds_signC, kinds_dchars, he,
          zflags_cons, digs_cons, if_true, if_false, Bool.false_eq_true]
    | bare mn d ds =>
      cases mn <;>
        simp only [ExpC.chars, ExpC.sp, ExpSp.ks, List.map_cons, kinds_dchars, he, zflags_cons, digs_cons,
          if_true, if_false, Bool.false_eq_true]
  simp [RealC.chars, RealC.sp, RealSp.ks, kinds_signC, hm, hx]

end LexBridge

open MontePyVerif.LexNum LexBridge in
/-- every character string that spells G's `Real` rule (any digits, any length, `e` or `E`
    or no letter, any signs) is ONE token of the numeric rules: NUMBER, or NULL when every significand digit is
    `0`, taking the whole word, in every context (the five lexer classes share the pinned rules). -/
theorem C12_lexnum_real (r : RealC) (nuc : Bool) :
    classify nuc (r.chars.map kind) =
      some (if r.sp.isZero then "NULL" else "NUMBER", r.chars.length) := by
  rw [kinds_real, real_classify]
  have : r.sp.ks.length = r.chars.length := by rw [← kinds_real]; simp
  rw [this]

open MontePyVerif.LexNum LexBridge in
/-- `<n>r`, `<n>i`, `<n>j`, `<n>ilog` with any non-empty digit run n are one token of
    the type of that shortcut -/
theorem C12_lexnum_counted (z : Bool) (ns : List Bool) (c : Counted) (nuc : Bool) :
    classify nuc (digs (z :: ns) ++ c.ks) = some (c.type, (digs (z :: ns) ++ c.ks).length) :=
  counted_classify z ns c nuc

open MontePyVerif.LexNum LexBridge in
/-- `<x>m` with x any spelling of `Real` is one NUM_MULTIPLY token; the one exception
    is by design: `dddd.ddm` (4-6 digits, two decimals, no sign or exponent) on an input that lists nuclides is a
    ZAID -/
theorem C12_lexnum_multiply (r : RealC) (nuc : Bool) :
    classify nuc ((r.chars ++ ['m']).map kind) =
      some (if zaidShaped r.sp && nuc then "ZAID" else "NUM_MULTIPLY", (r.chars ++ ['m']).length) := by
  have hk : (r.chars ++ ['m']).map kind = r.sp.ks ++ [K.m] := by
    rw [List.map_append, kinds_real]; rfl
  rw [hk, mult_classify]
  have : (r.sp.ks ++ [K.m]).length = (r.chars ++ ['m']).length := by rw [← hk]; simp
  rw [this]

/-- the shortcut words without a count are classified by `MCNP_Lexer.TEXT` (modelled in
    Model/Dispatch.lean), in any letter case -/
theorem C12_lexnum_countless :
    (∀ w kw, lower w = "r" → mcnpLexerText kw w = "REPEAT") ∧ (∀ w kw, lower w = "i" → mcnpLexerText kw w = "INTERPOLATE") ∧
    (∀ w kw, lower w = "j" → mcnpLexerText kw w = "JUMP") ∧
    (∀ w kw, lower w = "ilog" → mcnpLexerText kw w = "LOG_INTERPOLATE") := by
  refine ⟨?_, ?_, ?_, ?_⟩ <;> intro w kw h <;> simp [mcnpLexerText, parseShortcutWord, h]

/-- non-vacuity and the two repaired defects of main as instances: `58695.87E0` is a NUMBER (335c6eb),
    `4145.81m` a multiply shortcut off the nuclide inputs and a ZAID on them (0a90ce7) -/
example : LexNum.classifyString false "58695.87E0" = some ("NUMBER", 10) ∧
    LexNum.classifyString false "4145.81m" = some ("NUM_MULTIPLY", 8) ∧
    LexNum.classifyString true "4145.81m" = some ("ZAID", 8) ∧
    LexNum.classifyString true "1001.80c" = some ("ZAID", 8) ∧
    LexNum.classifyString false "-0.0e+00" = some ("NULL", 8) ∧
    LexNum.classifyString false "03e" = some ("NUMBER_WORD", 3) := by decide +kernel

end MontePyVerif.C12
