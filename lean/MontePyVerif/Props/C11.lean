import MontePyVerif.Lemmas.Flatten
import MontePyVerif.Lemmas.Layout
import MontePyVerif.Lemmas.LayoutModel
/-!
# C11 — the problem read does not depend on the file's physical layout

What is proved here is the **reader half** of C11 (lines → inputs): `_clean_line` and line splitting (LF / CRLF),
tab expansion, and the refinement of the model of `read_data` to the Spec reader.  The **lexer / LALR half**
(letter case, `=` versus blank, padding anywhere) lives in SLY, which is not modelled: it is tied by validation on
the real parser only (tools/props/c11.py), and is *not* claimed as a theorem.
-/
namespace MontePyVerif.C11
open MontePyVerif MontePyVerif.Reader MontePyVerif.Refine MontePyVerif.Flatten MontePyVerif.LineFacts

/-- **C11_tables**: the constants of `constants.py` the reader model and the Spec rest on, as the translator finds
    them now (`Gen/Constants.lean`): a tab is 8 columns (the Spec's tab stops), continuation needs 5 blanks (the
    Spec's columns 1-5), the ASCII ceiling is 127, and the column limit is 128 at 6.2.0 and 6.3.0, 80 at
    6.1.0 and 5.1.60, absent at 5.0.0. -/
theorem C11_tables :
    Gen.tabSize = 8 ∧ Gen.blankSpaceContinue = 5 ∧ Gen.asciiCeiling = 127 ∧
    maxLineLength (6, 2, 0) = some 128 ∧ maxLineLength (6, 3, 0) = some 128 ∧
    maxLineLength (6, 1, 0) = some 80 ∧ maxLineLength (5, 1, 60) = some 80 ∧ maxLineLength (5, 0, 0) = none := by decide

/-! ## `_clean_line` and the line ends -/

/-- an ASCII line body: no byte ≥ 127, no CR, no LF -/
def PlainBytes (bs : List Nat) : Prop := ∀ b ∈ bs, b < Gen.asciiCeiling ∧ b ≠ 13 ∧ b ≠ 10

theorem cleanByte_plain (b : Nat) (h : b < Gen.asciiCeiling) : cleanByte b = Char.ofNat b := by
  unfold cleanByte; simp [h]

/-- bytes at or above `ASCII_CEILING` become blanks -/
theorem C11_clean_high (b : Nat) (h : b ≥ Gen.asciiCeiling) : cleanByte b = ' ' := by
  unfold cleanByte; simp; omega

theorem ofNat_ne_cr (b : Nat) (h1 : b < Gen.asciiCeiling) (h2 : b ≠ 13) : Char.ofNat b ≠ '\r' := by
  intro e
  have hb : b < 127 := h1
  have hv : b.isValidChar := by unfold Nat.isValidChar; omega
  have : (Char.ofNat b).val.toNat = b := by
    simp [Char.ofNat, hv, Char.ofNatAux]
  rw [e] at this
  exact h2 (by simpa using this.symm)

theorem fixNewlines_cons (c : Char) (t : List Char) (h : c ≠ '\r') : fixNewlines (c :: t) = c :: fixNewlines t :=
  fixNewlines.eq_4 c t (fun _ e _ => h e) (fun e => h e)

theorem fixNewlines_append_noCR (s t : List Char) (h : ∀ c ∈ s, c ≠ '\r') :
    fixNewlines (s ++ t) = s ++ fixNewlines t := by
  induction s with
  | nil => rfl
  | cons c s ih =>
    rw [List.cons_append, fixNewlines_cons c _ (h c (by simp)), ih (fun d hd => h d (List.mem_cons_of_mem _ hd))]
    rfl

theorem map_cleanByte (bs : List Nat) (h : PlainBytes bs) :
    bs.map cleanByte = bs.map Char.ofNat ∧ ∀ c ∈ bs.map Char.ofNat, c ≠ '\r' := by
  refine ⟨List.map_congr_left (fun b hb => cleanByte_plain b (h b hb).1), fun c hc => ?_⟩
  obtain ⟨b, hb, rfl⟩ := List.mem_map.mp hc
  exact ofNat_ne_cr b (h b hb).1 (h b hb).2.1

/-- **C11_clean_plain** (nothing else changes): a line of plain ASCII bytes is decoded byte by byte -/
theorem C11_clean_plain (bs : List Nat) (h : PlainBytes bs) : cleanLine bs = bs.map Char.ofNat := by
  obtain ⟨hm, hn⟩ := map_cleanByte bs h
  unfold cleanLine
  rw [hm]
  simpa [fixNewlines] using fixNewlines_append_noCR _ [] hn

/-- **C11_clean** (line ends): LF, CRLF and a lone CR at the end of a plain line all become one LF -/
theorem C11_clean (bs : List Nat) (h : PlainBytes bs) :
    cleanLine (bs ++ [10]) = bs.map Char.ofNat ++ ['\n'] ∧
    cleanLine (bs ++ [13, 10]) = bs.map Char.ofNat ++ ['\n'] ∧
    cleanLine (bs ++ [13]) = bs.map Char.ofNat ++ ['\n'] := by
  obtain ⟨hm, hn⟩ := map_cleanByte bs h
  unfold cleanLine
  simp only [List.map_append, hm]
  refine ⟨?_, ?_, ?_⟩ <;> rw [fixNewlines_append_noCR _ _ hn] <;> rfl

/-! ## lines of a file: LF and CRLF files are read alike -/

theorem splitLinesAux_line (l rest cur : List Nat) (h : ∀ b ∈ l, b ≠ 10) :
    splitLinesAux (l ++ 10 :: rest) cur = (cur.reverse ++ l ++ [10]) :: splitLinesAux rest [] := by
  induction l generalizing cur with
  | nil => simp [splitLinesAux]
  | cons b l ih =>
    have hb : b ≠ 10 := h b (by simp)
    simp only [List.cons_append, splitLinesAux]
    have : (b == 10) = false := by simpa using hb
    simp only [this, Bool.false_eq_true, ↓reduceIte]
    rw [ih _ (fun x hx => h x (List.mem_cons_of_mem _ hx))]
    simp

/-- the bytes of a file whose lines `ls` all end in `eol` -/
def encode (eol : List Nat) (ls : List (List Nat)) : List Nat := ls.flatMap (· ++ eol)

theorem splitLines_encode (pre : List Nat) (hpre : ∀ b ∈ pre, b ≠ 10) (ls : List (List Nat))
    (h : ∀ l ∈ ls, ∀ b ∈ l, b ≠ 10) :
    splitLines (encode (pre ++ [10]) ls) = ls.map (· ++ pre ++ [10]) := by
  unfold splitLines encode
  induction ls with
  | nil => rfl
  | cons l ls ih =>
    simp only [List.flatMap_cons, List.map_cons]
    have : l ++ (pre ++ [10]) ++ List.flatMap (fun x => x ++ (pre ++ [10])) ls =
        (l ++ pre) ++ 10 :: List.flatMap (fun x => x ++ (pre ++ [10])) ls := by simp
    rw [this, splitLinesAux_line (l ++ pre) _ []]
    · rw [ih (fun l' hl' => h l' (List.mem_cons_of_mem _ hl'))]; simp
    · intro b hb
      rcases List.mem_append.mp hb with hb | hb
      · exact h l (by simp) b hb
      · exact hpre b hb

/-- **C11_crlf**: a file written with CRLF line ends gives the reader the very lines of the same file written
    with LF line ends: each line body decoded byte by byte, followed by one `"\n"` -/
theorem C11_crlf (ls : List (List Nat)) (h : ∀ l ∈ ls, PlainBytes l) :
    fileLines (encode [13, 10] ls) = ls.map (fun l => l.map Char.ofNat ++ ['\n']) ∧
    fileLines (encode [10] ls) = ls.map (fun l => l.map Char.ofNat ++ ['\n']) := by
  have key : ∀ pre : List Nat, (∀ b ∈ pre, b ≠ 10) →
      (∀ l ∈ ls, cleanLine (l ++ pre ++ [10]) = l.map Char.ofNat ++ ['\n']) →
      fileLines (encode (pre ++ [10]) ls) = ls.map (fun l => l.map Char.ofNat ++ ['\n']) := by
    intro pre hpre hc
    unfold fileLines
    rw [splitLines_encode pre hpre ls (fun l hl b hb => (h l hl b hb).2.2), List.map_map]
    exact List.map_congr_left hc
  exact ⟨key [13] (by decide) (fun l hl => by rw [List.append_assoc]; exact (C11_clean l (h l hl)).2.1),
    key [] nofun (fun l hl => by rw [List.append_nil]; exact (C11_clean l (h l hl)).1)⟩

/-! ## tabs -/

/-- **C11_tabs**: the model's `expandtabs(8)` of a line (with its terminator) is the Spec's tab expansion of the
    line body: a tab is as many blanks as reach the next multiple of eight -/
theorem C11_tabs (l t : List Char) (hl : ∀ c ∈ l, c ≠ '\n' ∧ c ≠ '\r') (ht : IsTerm t) (col : Nat) :
    expandtabsAux Gen.tabSize col (l ++ t) = Spec.expandTabsFrom col l ++ t := by
  have e8 : Gen.tabSize = 8 := rfl
  rw [e8]
  induction l generalizing col with
  | nil =>
    rcases ht with rfl | rfl
    · rfl
    · simp [expandtabsAux, Spec.expandTabsFrom]
  | cons c l ih =>
    have hc := hl c (by simp)
    have ih' := fun col => ih (fun d hd => hl d (List.mem_cons_of_mem _ hd)) col
    simp only [List.cons_append, expandtabsAux, Spec.expandTabsFrom]
    by_cases htab : c = '\t'
    · subst htab
      simp only [beq_self_eq_true, ↓reduceIte]
      rw [ih', List.append_assoc]
    · have h1 : (c == '\t') = false := by simpa using htab
      have h2 : (c == '\n' || c == '\r') = false := by simp [hc.1, hc.2]
      simp only [h1, Bool.false_eq_true, ↓reduceIte, htab, h2, ih', List.cons_append]

/-! ## the reader refines the Spec -/

/-- **C11_reader_refines_spec**: on a file whose lines are `GoodLine`s (the named exclusions: white space other
    than the blank, a line that reaches the limit, a line that begins with `#` in columns 1-5, `&` directly before `$`,
    a line holding only `$…` or `&`, a first `$` glued to the end of a word) the inputs the model of `read_data` yields — block
    and words, read cards and errors included — are the Spec reader's, for every starting block (a file pulled in by a
    read card starts in the block of the card).  Lines may follow the blank line that ends the data block (`GoodLine`s
    here, any lines at all in `C11_after_terminator`): since fixes c74af97 / fec410e the code stops reading there, as
    the Spec does. -/
theorem C11_reader_refines_spec (limit : Nat) (cfg : Cfg) (hl : cfg.lineLength = limit)
    (mlines : List Str) (slines : List Spec.Line) (h : FileOK limit mlines slines) :
    proj (readData cfg mlines) =
      Spec.cutS (Spec.fileStream limit (joinPath cfg.topDir) cfg.chain cfg.firstBlock.value slines) :=
  fileStream_ok cfg hl mlines slines h

theorem cutS_map_notRead (resolve : Spec.Word → List Char) (chain : List (List Char)) (is : List Spec.Inp)
    (h : ∀ i ∈ is, Spec.cardOf i.words = .notRead) :
    Spec.cutS (is.map (Spec.outOf resolve chain)) = is.map .inp := by
  induction is with
  | nil => rfl
  | cons i is ih =>
    have hi := h i (by simp)
    simp only [List.map_cons, Spec.outOf, hi, Spec.cutS]
    rw [ih (fun j hj => h j (List.mem_cons_of_mem _ hj))]

/-- **C11_reader_inputs**: in a file without read cards (the domain of C11: the core grammar excludes them) the model
    yields exactly the Spec's inputs, in order, each in its block, with its words -/
theorem C11_reader_inputs (limit : Nat) (cfg : Cfg) (hl : cfg.lineLength = limit)
    (mlines : List Str) (slines : List Spec.Line) (h : FileOK limit mlines slines)
    (hnr : ∀ i ∈ Spec.inputsFrom limit cfg.firstBlock.value slines, Spec.cardOf i.words = .notRead) :
    proj (readData cfg mlines) = (Spec.inputsFrom limit cfg.firstBlock.value slines).map .inp := by
  rw [C11_reader_refines_spec limit cfg hl mlines slines h]
  unfold Spec.fileStream
  exact cutS_map_notRead _ _ _ hnr

/-- **C11_reader_layout** (reader half of C11): two files — however differently laid out — in which the Spec reader
    finds the same inputs give the same inputs in the model of `read_data`, word for word -/
theorem C11_reader_layout (limit : Nat) (cfg : Cfg) (hl : cfg.lineLength = limit)
    (m1 m2 : List Str) (s1 s2 : List Spec.Line)
    (h1 : FileOK limit m1 s1) (h2 : FileOK limit m2 s2)
    (hsame : Spec.inputsFrom limit cfg.firstBlock.value s1 = Spec.inputsFrom limit cfg.firstBlock.value s2) :
    proj (readData cfg m1) = proj (readData cfg m2) := by
  rw [C11_reader_refines_spec limit cfg hl m1 s1 h1, C11_reader_refines_spec limit cfg hl m2 s2 h2]
  unfold Spec.fileStream
  rw [hsame]

/-! ### behind the blank line that ends the data block nothing is read -/

/-- the loop of `read_data` ends within `ls`: by the `break` at the blank line that ends the data block, or by a raise -/
def stopsWithin (cfg : Cfg) : LState → List Str → Bool
  | _, [] => false
  | st, l :: ls =>
    if hasRaise (stepLine cfg st l).1 then true
    else if stopsAfter cfg l (stepLine cfg st l).2 then true
    else stopsWithin cfg (stepLine cfg st l).2 ls

/-- **C11_after_terminator** (repaired finding C11-F1): once the blank line that ends the data block has been read —
    counted from the block the file starts in — the model of `read_data` yields the same events whatever follows:
    **any** lines at all (not only well-formed ones) behind it are never looked at. -/
theorem C11_after_terminator (cfg : Cfg) (ls junk : List Str) :
    ∀ st, stopsWithin cfg st ls = true → goLines cfg st (ls ++ junk) = goLines cfg st ls := by
  intro st h
  induction st, ls using goLines_induct cfg with
  | nil => nomatch h
  | raise st l ls hr => rw [List.cons_append, goLines_step, if_pos hr]
  | stop st l ls hr hs => rw [List.cons_append, goLines_step, if_neg hr, if_pos hs]
  | go st l ls hr hs ih =>
    rw [stopsWithin, if_neg hr, if_neg hs] at h
    rw [List.cons_append, goLines_step, if_neg hr, if_neg hs, ih h]

theorem C11_after_terminator_readData (cfg : Cfg) (ls junk : List Str) (h : stopsWithin cfg (initState cfg) ls = true) :
    readData cfg (ls ++ junk) = readData cfg ls := C11_after_terminator cfg ls junk _ h

/-! ## the Spec reader inverts every valid layout -/

open MontePyVerif.Layout in
/-- a layout of a sequence of inputs is **valid** for the column limit: every input has a word and begins in
    columns 1-5; every laid-out data line consists of proper words (`WordOK`: not empty, no blank, `$`, tab; not the
    lone `&`), fits the limit, and — when it begins in columns 1-5 — does not begin with a lone `c`/`C` (it would be a
    comment line); every C comment line is indented by less than five, has no tab in its text and fits -/
def ValidLayout (limit : Nat) (items : List (Spec.InputLayout × List Spec.Word)) : Prop :=
  (∀ it ∈ items, it.1.lead < 5 ∧ it.2 ≠ []) ∧
  ∀ pl ∈ layInputs items, match pl with
    | .data d => DLineOK limit d
    | .comment c => CommentOK limit c

open MontePyVerif.Layout in
theorem kinds_of_valid (limit : Nat) (pls : List Spec.PLine)
    (h : ∀ pl ∈ pls, match pl with | .data d => DLineOK limit d | .comment c => CommentOK limit c) :
    (pls.map Spec.PLine.str).map (Spec.classify limit) = pls.map kindOf := by
  rw [List.map_map]
  apply List.map_congr_left
  intro pl hpl
  have := h pl hpl
  cases pl with
  | data d => exact classify_data d this
  | comment c => exact classify_comment c this

open MontePyVerif.Layout in
/-- **C11_spec_layout**: for every sequence of inputs (lists of words), every layout of them that is valid for the
    column limit — any number of blanks between words, line breaks with five or more blanks, `&` with trailing blanks
    and the next line anywhere, `$` comments, C comment lines between any two words and in front of any input, leading
    blanks, trailing blanks — and every starting block, the Spec reader finds exactly these inputs, in that block, in
    order, word for word. -/
theorem C11_spec_layout (limit start : Nat) (hs : start < 3) (items : List (Spec.InputLayout × List Spec.Word))
    (hv : ValidLayout limit items) :
    Spec.inputsFrom limit start (Spec.renderInputs items) = items.map (fun it => ⟨start, it.2⟩) := by
  unfold Spec.inputsFrom
  rw [renderInputs_eq, kinds_of_valid limit _ hv.2]
  exact run_inputs items ⟨start, none, false⟩ hs rfl hv.1

/-! ## the reader does not see the layout -/

open MontePyVerif.Layout MontePyVerif.LayoutModel in
/-- a layout that is valid for MCNP (`ValidLayout`) and on which the code has no reason to differ (`DLineM`,
    `CommentM`: no character Python counts as white space inside words, only blanks as white space in comment texts,
    lines shorter than the limit, no `#` as the first non-blank of columns 1-5) -/
def ValidLayoutM (limit : Nat) (items : List (Spec.InputLayout × List Spec.Word)) : Prop :=
  (∀ it ∈ items, it.1.lead < 5 ∧ it.2 ≠ []) ∧ ∀ pl ∈ layInputs items, PLineOK limit pl

open MontePyVerif.Layout MontePyVerif.LayoutModel in
theorem ValidLayoutM.valid {limit : Nat} {items : List (Spec.InputLayout × List Spec.Word)}
    (h : ValidLayoutM limit items) : ValidLayout limit items := by
  refine ⟨h.1, fun pl hpl => ?_⟩
  have := h.2 pl hpl
  cases pl with
  | data d => exact this.1
  | comment c => exact this.1

open MontePyVerif.Layout MontePyVerif.LayoutModel in
/-- **C11_reader_render**: the model of `read_data`, given the lines of *any* valid layout of a sequence of inputs,
    yields exactly those inputs — block and words — (and treats read cards among them as the Spec does) -/
theorem C11_reader_render (limit : Nat) (cfg : Cfg) (hl : cfg.lineLength = limit)
    (items : List (Spec.InputLayout × List Spec.Word)) (hv : ValidLayoutM limit items) :
    proj (readData cfg ((Spec.renderInputs items).map (· ++ ['\n']))) =
      Spec.cutS ((items.map (fun it => (⟨cfg.firstBlock.value, it.2⟩ : Spec.Inp))).map
        (Spec.outOf (joinPath cfg.topDir) cfg.chain)) := by
  have hf := fileOK_render limit (layInputs items) hv.2
  have hm : (Spec.renderInputs items).map (· ++ ['\n']) = (layInputs items).map (fun pl => pl.str ++ ['\n']) := by
    rw [renderInputs_eq, List.map_map]; rfl
  rw [hm, C11_reader_refines_spec limit cfg hl _ _ hf, ← renderInputs_eq]
  unfold Spec.fileStream
  rw [C11_spec_layout limit _ (value_lt _) items hv.valid]

/-- **C11_reader_layout_render** (the reader half of C11 at full strength): two valid layouts of the same inputs —
    however they differ in blanks, line breaks, `&`, `$` comments, C comment lines, leading and trailing blanks —
    give the same inputs in the model of `read_data`, word for word, in every block -/
theorem C11_reader_layout_render (limit : Nat) (cfg : Cfg) (hl : cfg.lineLength = limit)
    (items1 items2 : List (Spec.InputLayout × List Spec.Word))
    (h1 : ValidLayoutM limit items1) (h2 : ValidLayoutM limit items2)
    (hsame : items1.map (·.2) = items2.map (·.2)) :
    proj (readData cfg ((Spec.renderInputs items1).map (· ++ ['\n']))) =
      proj (readData cfg ((Spec.renderInputs items2).map (· ++ ['\n']))) := by
  rw [C11_reader_render limit cfg hl items1 h1, C11_reader_render limit cfg hl items2 h2]
  have : ∀ items : List (Spec.InputLayout × List Spec.Word),
      items.map (fun it => (⟨cfg.firstBlock.value, it.2⟩ : Spec.Inp)) =
        (items.map (·.2)).map (fun ws => (⟨cfg.firstBlock.value, ws⟩ : Spec.Inp)) := by
    intro items; rw [List.map_map]; rfl
  rw [this items1, this items2, hsame]

/-! ### non-vacuity: one cell card in two layouts (`&` with trailing blanks and the next line in column 1; five-blank
    continuation) -/

/-- `"1 0 -1 &  \n2 imp:n=1\n"` -/
def exLayoutA : List Nat := [49, 32, 48, 32, 45, 49, 32, 38, 32, 32, 10, 50, 32, 105, 109, 112, 58, 110, 61, 49, 10]
/-- `"1 0 -1\r\n     2 imp:n=1\r\n"` (CRLF) -/
def exLayoutB : List Nat :=
  [49, 32, 48, 32, 45, 49, 13, 10, 32, 32, 32, 32, 32, 50, 32, 105, 109, 112, 58, 110, 61, 49, 13, 10]
def exCfg : Cfg := ⟨128, .cell, ['x'], [['x']]⟩

example : FileOK 128 (fileLines exLayoutA) ["1 0 -1 &  ".toList, "2 imp:n=1".toList] := by
  -- a string literal is `String.ofList` of its characters: the rewrite spares the kernel decoding it (also below)
  repeat rw [String.toList_ofList]
  exact exFileOK _ exLayoutA (by decide +kernel) (by decide +kernel)
example : FileOK 128 (fileLines exLayoutB) ["1 0 -1".toList, "     2 imp:n=1".toList] := by
  repeat rw [String.toList_ofList]
  exact exFileOK _ exLayoutB (by decide +kernel) (by decide +kernel)
example : Spec.inputsFrom 128 0 ["1 0 -1 &  ".toList, "2 imp:n=1".toList] =
    Spec.inputsFrom 128 0 ["1 0 -1".toList, "     2 imp:n=1".toList] := by
  repeat rw [String.toList_ofList]
  decide +kernel
example : proj (readData exCfg (fileLines exLayoutA)) =
    [.inp ⟨0, ["1".toList, "0".toList, "-1".toList, "2".toList, "imp:n=1".toList]⟩] := by
  repeat rw [String.toList_ofList]
  decide +kernel
example : PlainBytes [49, 32, 48] := by unfold PlainBytes; decide
example : cleanLine [49, 200, 13, 10] = ['1', ' ', '\n'] := by decide

/-! ### non-vacuity of `ValidLayout`: the cell card `1 0 -1 imp:n=1` with an `&` gap (two trailing blanks, next line in
    column 2), a five-blank continuation, a C comment in front and a `$` comment at the end -/

def exItems : List (Spec.InputLayout × List Spec.Word) :=
  [(⟨[(0, "a comment".toList)], 2, [.blanks 2, .amp 0 2 [] 1, .newline 0], 1, some "x &".toList⟩,
    ["1".toList, "0".toList, "-1".toList, "imp:n=1".toList]),
   (⟨[], 0, [], 0, none⟩, ["2".toList, "0".toList, "1".toList])]

example : Spec.renderInputs exItems =
    ["c a comment".toList, "  1   0 &  ".toList, " -1".toList, "     imp:n=1  $x &".toList, "2 0 1".toList] := by
  unfold exItems
  repeat rw [String.toList_ofList]
  decide +kernel

open MontePyVerif.Layout MontePyVerif.LayoutModel MontePyVerif.LineFacts in
example : ValidLayoutM 128 exItems := by
  unfold ValidLayoutM exItems
  repeat rw [String.toList_ofList]
  decide +kernel

/-! ### a C comment line between an `&` line and a continuation that begins in column 1

    `mode n &` / `c particles` / `p`.  Neither `ValidLayout` nor `GoodLine` / `FileOK` excludes this: the `amp` gap
    carries comment lines, the Spec ignores comment lines wherever they stand (`step` leaves `amp` alone on
    `.comment`), and the model keeps `continue_input` on a comment line (`stepData`, fix 0e3e134). -/

def exAmpComment : List (Spec.InputLayout × List Spec.Word) :=
  [(⟨[], 0, [.blanks 0, .amp 0 0 [(0, "particles".toList)] 0], 0, none⟩,
    ["mode".toList, "n".toList, "p".toList])]

example : Spec.renderInputs exAmpComment = ["mode n &".toList, "c particles".toList, "p".toList] := by
  unfold exAmpComment
  repeat rw [String.toList_ofList]
  decide +kernel

open MontePyVerif.Layout MontePyVerif.LayoutModel MontePyVerif.LineFacts in
example : ValidLayoutM 128 exAmpComment := by
  unfold ValidLayoutM exAmpComment
  repeat rw [String.toList_ofList]
  decide +kernel

/-- the Spec and the model both read one input `mode n p` in the data block -/
example : Spec.inputsFrom 128 2 (Spec.renderInputs exAmpComment) = [⟨2, ["mode".toList, "n".toList, "p".toList]⟩] := by
  unfold exAmpComment
  repeat rw [String.toList_ofList]
  decide +kernel
example : proj (readData ⟨128, .data, ['x'], [['x']]⟩ ((Spec.renderInputs exAmpComment).map (· ++ ['\n']))) =
    [.inp ⟨2, ["mode".toList, "n".toList, "p".toList]⟩] := by
  unfold exAmpComment
  repeat rw [String.toList_ofList]
  decide +kernel

/-- the same two inputs laid out plainly: by `C11_reader_layout_render` the model reads both alike -/
def exItemsPlain : List (Spec.InputLayout × List Spec.Word) :=
  exItems.map (fun it => (⟨[], 0, [], 0, none⟩, it.2))

example : exItems.map (·.2) = exItemsPlain.map (·.2) := by decide +kernel
example : proj (readData exCfg ((Spec.renderInputs exItems).map (· ++ ['\n']))) =
    proj (readData exCfg ((Spec.renderInputs exItemsPlain).map (· ++ ['\n']))) := by
  unfold exItemsPlain exItems
  repeat rw [String.toList_ofList]
  decide +kernel

/-! ### non-vacuity of `C11_after_terminator`: the replay of the repaired finding C11-F1 (`corpus/C11/trailing_content.json`):
    `1 0 -1⏎⏎1 so 5⏎⏎mode n⏎⏎` followed by `c MCNP ignores …⏎nps 77⏎` -/

/-- `"1 0 -1\n\n1 so 5\n\nmode n\n\n"` -/
def exThreeBlocks : List Nat :=
  [49, 32, 48, 32, 45, 49, 10, 10, 49, 32, 115, 111, 32, 53, 10, 10, 109, 111, 100, 101, 32, 110, 10, 10]
/-- `"c x\nnps 77\n"` -/
def exJunk : List Nat := [99, 32, 120, 10, 110, 112, 115, 32, 55, 55, 10]

example : stopsWithin exCfg (initState exCfg) (fileLines exThreeBlocks) = true := by decide +kernel
example : fileLines (exThreeBlocks ++ exJunk) = fileLines exThreeBlocks ++ fileLines exJunk := by decide +kernel
example : proj (readData exCfg (fileLines (exThreeBlocks ++ exJunk))) =
    [.inp ⟨0, ["1".toList, "0".toList, "-1".toList]⟩, .inp ⟨1, ["1".toList, "so".toList, "5".toList]⟩,
     .inp ⟨2, ["mode".toList, "n".toList]⟩] := by decide +kernel
/-- … and the Spec ignores the same text -/
example : Spec.inputsFrom 128 0 ["1 0 -1".toList, [], "1 so 5".toList, [], "mode n".toList, [], "c x".toList, "nps 77".toList] =
    [⟨0, ["1".toList, "0".toList, "-1".toList]⟩, ⟨1, ["1".toList, "so".toList, "5".toList]⟩,
     ⟨2, ["mode".toList, "n".toList]⟩] := by
  repeat rw [String.toList_ofList]
  decide +kernel
/-- inside a file pulled in by a read card of the data block the first blank line already is that terminator -/
example : proj (readData ⟨128, .data, ['d'], [['m'], ['d']]⟩ (fileLines [99, 116, 109, 101, 32, 53, 10, 10, 112, 114, 105, 110, 116, 10])) =
    [.inp ⟨2, ["ctme".toList, "5".toList]⟩] := by decide +kernel
/-- a `#` that does not start the line is plain data (fix 453a5e4): `2 0 #1` -/
example : proj (readData exCfg (fileLines [50, 32, 48, 32, 35, 49, 10])) = [.inp ⟨0, ["2".toList, "0".toList, "#1".toList]⟩] := by decide +kernel
example : firstRaise (readData exCfg (fileLines [32, 35, 32, 49, 10])) = some .unsupported := by decide +kernel

end MontePyVerif.C11
