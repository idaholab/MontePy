import MontePyVerif.Lemmas.ValueFormat
/-!
# C07 — "padding is adjusted to keep following columns" (the mechanism named in the property's anchors)

On the model of `syntax_node.py: ValueNode.format` (`Model/ValueFormat.lean`, tied to the code by C05's
correspondence U-valueformat, exact text).  `C07_columns` and `C07_columns_grow` are read off `format_spaces`, the one
equation for a changed leaf in front of `k` blanks.
-/
namespace MontePyVerif.C07Columns
open MontePyVerif.ValueFormat

theorem reverseEngineerFloat_valueLength (f : Formatter) (t : Text) :
    (reverseEngineerFloat f t).valueLength = f.valueLength := by
  unfold reverseEngineerFloat
  split <;> simp only [apply_ite Formatter.valueLength, ite_self]

theorem reverse_padding (n : Node) : (reverseEngineerFormatting n).padding = n.padding := by
  obtain ⟨f, r, h⟩ := reverse_shape n
  rw [h]

theorem reverse_valueLength (n : Node) (s : Text) (k : Nat) (rest : List PadItem)
    (htok : n.token = .str s) (hrev : n.isReversed = false) (hpad : n.padding = some (.spaces k :: rest)) :
    (reverseEngineerFormatting n).fmt.valueLength = s.length + k := by
  -- the later steps (sign, zero padding, float format) do not write the width: the arms of each `if` agree on it
  simp only [reverseEngineerFormatting, hrev, htok, hpad, Bool.false_eq_true, if_false,
    apply_ite Formatter.valueLength, reverseEngineerFloat_valueLength, ite_self]
  split <;> rfl

/-- **C07_leaf_echo** — a leaf whose value did not change is written as its token followed by its padding,
    character for character (whatever the token's spelling). -/
theorem C07_leaf_echo (n : Node) (h : valueChanged n = false) :
    (format n).2 = n.token.text ++ (match n.padding with | some p => padFormat p | none => []) :=
  congrArg Prod.snd (format_unchanged n h)

/-- the `saving` of `padStrings`: the padding goes on with blanks or a line break of its own -/
def saving : List PadItem → Bool
  | .spaces _ :: _ => true
  | .newline :: _ => true
  | _ => false

theorem padStrings_spaces (m : Node) (k : Nat) (rest : List PadItem) (h : m.padding = some (.spaces k :: rest))
    (len : Nat) :
    padStrings m len = (if len ≥ m.fmt.valueLength && !saving rest then [' '] else [], padFormat rest) := by
  simp only [padStrings, h]
  cases rest with
  | nil => rfl
  | cons r rs => cases r <;> rfl

theorem length_ljust (t : Text) (w : Nat) (h : t.length ≤ w) : (ljust t w).length = w := by
  rw [ljust, List.length_append, List.length_replicate]
  omega

theorem ljust_of_le (t : Text) (w : Nat) (h : w ≤ t.length) : ljust t w = t := by
  rw [ljust, Nat.sub_eq_zero_of_le h]
  exact List.append_nil t

theorem format_spaces (n : Node) (s : Text) (k : Nat) (rest : List PadItem) (x : Num)
    (htok : n.token = .str s) (hrev : n.isReversed = false) (hpad : n.padding = some (.spaces k :: rest))
    (hch : valueChanged n = true) (hval : n.value.isSome = true)
    (hx : printValue (reverseEngineerFormatting n) = some x) :
    (format n).2 = ljust (formatTemp (reverseEngineerFormatting n) x) (s.length + k) ++
      (if (formatTemp (reverseEngineerFormatting n) x).length ≥ s.length + k && !saving rest then [' '] else []) ++
      padFormat rest := by
  rw [format_changed n hch x hx hval, padStrings_spaces _ k rest ((reverse_padding n).trans hpad),
    reverse_valueLength n s k rest htok hrev hpad]

/-- **C07_columns** — a leaf whose value changed, whose padding starts with a run of `k` blanks and whose new text
    is shorter than token + blanks, is written in exactly the `token.length + k` columns the old text and its blanks
    occupied, followed by the rest of the padding unchanged: every later token of the line starts in the column it
    started in before. -/
theorem C07_columns (n : Node) (s : Text) (k : Nat) (rest : List PadItem) (x : Num)
    (htok : n.token = .str s) (hrev : n.isReversed = false) (hpad : n.padding = some (.spaces k :: rest))
    (hch : valueChanged n = true) (hval : n.value.isSome = true)
    (hx : printValue (reverseEngineerFormatting n) = some x)
    (hfit : (formatTemp (reverseEngineerFormatting n) x).length < s.length + k) :
    ∃ w : Text, (format n).2 = w ++ padFormat rest ∧ w.length = s.length + k ∧
      w = formatTemp (reverseEngineerFormatting n) x ++
            List.replicate (s.length + k - (formatTemp (reverseEngineerFormatting n) x).length) ' ' := by
  refine ⟨_, ?_, length_ljust _ _ (Nat.le_of_lt hfit), rfl⟩
  rw [format_spaces n s k rest x htok hrev hpad hch hval hx, decide_eq_false (Nat.not_le.2 hfit)]
  simp only [Bool.false_and, Bool.false_eq_true, if_false, List.append_nil]

/-- **C07_columns_grow** — when the new text needs all those columns or more, it is followed by exactly one blank
    (none if the padding goes on with blanks or a line break of its own) and the rest of the padding: later tokens
    move right by the excess plus that blank, nothing else changes, no padding item is lost. -/
theorem C07_columns_grow (n : Node) (s : Text) (k : Nat) (rest : List PadItem) (x : Num)
    (htok : n.token = .str s) (hrev : n.isReversed = false) (hpad : n.padding = some (.spaces k :: rest))
    (hch : valueChanged n = true) (hval : n.value.isSome = true)
    (hx : printValue (reverseEngineerFormatting n) = some x)
    (hbig : (formatTemp (reverseEngineerFormatting n) x).length ≥ s.length + k) :
    (format n).2 = formatTemp (reverseEngineerFormatting n) x ++
      (match rest with
       | .spaces _ :: _ => []
       | .newline :: _ => []
       | _ => [' ']) ++ padFormat rest := by
  rw [format_spaces n s k rest x htok hrev hpad hch hval hx, ljust_of_le _ _ hbig, decide_eq_true hbig]
  cases rest with
  | nil => rfl
  | cons r rs => cases r <;> rfl

/-! ### Non-vacuity: `1.5` followed by four blanks and a `$` comment, set to 2.25 -/

def exN : Option Node :=
  (mkNode (.str "1.5".toList) .float (some [.spaces 4, .comment "$ note".toList, .newline])).map
    (fun n => setValue n (some (Num.ofRat (9 / 4))))

/-- the hypotheses of `C07_columns` hold for it (new text `2.25`: 4 < 3 + 4 columns) … -/
example : exN.map (fun n => (n.token, n.isReversed, n.padding, valueChanged n, n.value.isSome)) =
    some (.str "1.5".toList, false, some [.spaces 4, .comment "$ note".toList, .newline], true, true) := by
  decide +kernel

example : exN.map (fun n => (printValue (reverseEngineerFormatting n)).map
      (fun x => (formatTemp (reverseEngineerFormatting n) x))) = some (some "2.25".toList) := by
  decide +kernel

/-- … and the comment starts in column 8 as before: `1.5    $ note` → `2.25   $ note` -/
example : exN.map (fun n => (format n).2) = some "2.25   $ note\n".toList := by
  -- on lists of characters: the kernel is slow at decoding string literals
  unfold exN
  repeat rw [String.toList_ofList]
  decide +kernel

end MontePyVerif.C07Columns
