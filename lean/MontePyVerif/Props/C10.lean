import MontePyVerif.Model.Wrap
import MontePyVerif.Gen.CommentProbe
import MontePyVerif.Spec.Text
/-! # C10 — written lines obey MCNP's physical line rules without changing content -/
namespace MontePyVerif.C10
open MontePyVerif MontePyVerif.Wrap

/-- what the proofs need from the tables of the code: every regime leaves room behind the continuation indent
    and behind the `     $ ` prefix of a continued comment; the default version is in the table; the TextWrapper
    is configured as the model assumes. -/
theorem C10_tables :
    (∀ e ∈ Gen.lineLength, Gen.blankSpaceContinue + 2 < e.2) ∧
    (Gen.lineLength.lookup Gen.defaultVersion).isSome = true ∧
    Gen.textwrapBreakLongWords = true ∧ Gen.textwrapMaxLinesIsNone = true ∧
    -- the configuration Model/Wrap.lean mirrors (a change of the TextWrapper call re-opens this proof)
    Gen.wrapDropWhitespace = false ∧ Gen.wrapBreakOnHyphens = false ∧ Gen.wrapBreakLongWords = true ∧
    Gen.wrapExpandTabs = true ∧ Gen.wrapReplaceWhitespace = true := by decide

/-- C10_comment_probe — the model's comment-line test agrees with the working tree's `MCNP_Object._is_comment_line`
    on every probe of the generated list (comment markers and data words that merely begin with c — `c14`, `cf4`,
    `cut:n`, `ctme` … — behind 0..5 blanks, followed by nothing, a blank, a letter or a digit).  The answers are
    measured on the code at every run (tools/extractors/c10_comment_probe.py): a change of its test re-opens the proof. -/
theorem C10_comment_probe : ∀ p ∈ Gen.commentLineProbes, isCommentLine p.1 = p.2 := by decide +kernel

/-! ## the greedy-fill invariant of `_wrap_chunks` -/

theorem fillLine_append (width : Nat) (chunks : List Str) (curLen : Nat) :
    (fillLine width curLen chunks).1 ++ (fillLine width curLen chunks).2 = chunks := by
  fun_induction fillLine width curLen chunks with
  | case1 => rfl
  | case2 _ c _ _ r ih => exact congrArg (c :: ·) ih
  | case3 => rfl

theorem fillLine_len (width : Nat) (chunks : List Str) (curLen : Nat) (h : curLen ≤ width) :
    curLen + (fillLine width curLen chunks).1.flatten.length ≤ width := by
  fun_induction fillLine width curLen chunks with
  | case1 => exact h
  | case2 curLen c _ hfit r ih =>
    simp only [List.flatten_cons, List.length_append, ← Nat.add_assoc]
    exact ih hfit
  | case3 => exact h

theorem fillLine_greedy (width : Nat) : ∀ (chunks : List Str) (curLen : Nat) (c : Str),
    (fillLine width curLen chunks).2.head? = some c →
      width < curLen + (fillLine width curLen chunks).1.flatten.length + c.length
  | [], _, c, h => by simp [fillLine] at h
  | d :: rest, curLen, c, h => by
    by_cases hfit : curLen + d.length ≤ width
    · simp only [fillLine, hfit, if_true] at h ⊢
      have := fillLine_greedy width rest (curLen + d.length) c h
      simp only [List.flatten_cons, List.length_append]
      omega
    · simp only [fillLine, hfit, if_false, List.head?_cons, Option.some.injEq] at h ⊢
      subst h
      simp only [List.flatten_nil, List.length_nil]
      omega

theorem finishLine_flatten (width : Nat) (taken rest : List Str) :
    (finishLine width taken rest).1.flatten ++ (finishLine width taken rest).2.flatten = taken.flatten ++ rest.flatten := by
  rcases finishLine_cases width taken rest with h | ⟨c, rest', rfl, -, h⟩ <;> rw [h]
  simp only [List.flatten_append, List.flatten_cons, List.flatten_nil, List.append_nil, List.append_assoc]
  rw [← List.append_assoc (List.take _ c), List.take_append_drop]

theorem finishLine_len (width : Nat) (taken rest : List Str) (hw : 1 ≤ width) (h : taken.flatten.length ≤ width) :
    (finishLine width taken rest).1.flatten.length ≤ width := by
  rcases finishLine_cases width taken rest with h' | ⟨c, rest', rfl, -, h'⟩ <;> rw [h']
  · exact h
  · rw [if_neg (Nat.not_lt.mpr hw)]
    simp only [List.flatten_append, List.length_append, List.flatten_cons, List.flatten_nil, List.append_nil,
      List.length_take]
    exact Nat.add_le_of_le_sub' h (Nat.min_le_left _ _)

theorem finishLine_fst (width : Nat) (taken rest : List Str) : ∃ x, (finishLine width taken rest).1 = taken ++ x := by
  rcases finishLine_cases width taken rest with h | ⟨c, rest', rfl, -, h⟩ <;> rw [h]
  · exact ⟨[], (List.append_nil _).symm⟩
  · exact ⟨_, rfl⟩

theorem finishLine_snd_ne (width : Nat) (taken rest : List Str) (hw : 1 ≤ width) (hr : ∀ c ∈ rest, c ≠ []) :
    ∀ c ∈ (finishLine width taken rest).2, c ≠ [] := by
  rcases finishLine_cases width taken rest with h | ⟨c, rest', rfl, hc, h⟩ <;> rw [h]
  · exact hr
  · rw [if_neg (Nat.not_lt.mpr hw)]
    intro x hx
    rcases List.mem_cons.mp hx with rfl | hx
    · intro h
      have := congrArg List.length h
      rw [List.length_drop, List.length_nil] at this
      omega
    · exact hr x (List.mem_cons_of_mem _ hx)

theorem oneLine_flatten (width : Nat) (chunks : List Str) :
    (oneLine width chunks).1.flatten ++ (oneLine width chunks).2.flatten = chunks.flatten := by
  rw [oneLine, finishLine_flatten, ← List.flatten_append, fillLine_append]

theorem oneLine_len (width : Nat) (chunks : List Str) (hw : 1 ≤ width) :
    (oneLine width chunks).1.flatten.length ≤ width :=
  finishLine_len _ _ _ hw (by simpa using fillLine_len width chunks 0 (Nat.zero_le _))

/-- the test `if cur_line:` of `_wrap_chunks` never fails (it is there for `drop_whitespace=True`) -/
theorem oneLine_fst_ne_nil (width : Nat) (c : Str) (rest : List Str) : (oneLine width (c :: rest)).1 ≠ [] := by
  simp only [oneLine, fillLine, Nat.zero_add]
  split
  · obtain ⟨x, hx⟩ := finishLine_fst width (c :: (fillLine width c.length rest).1) (fillLine width c.length rest).2
    rw [hx]
    exact List.cons_ne_nil _ _
  · rw [finishLine_long (Nat.lt_of_not_le ‹_›)]
    exact List.append_ne_nil_of_right_ne_nil _ (List.cons_ne_nil _ _)

theorem oneLine_fst_flatten_ne (width : Nat) (c : Str) (rest : List Str) (hw : 1 ≤ width) (hc : c ≠ []) :
    (oneLine width (c :: rest)).1.flatten ≠ [] := by
  rw [oneLine, fillLine]
  by_cases hfit : 0 + c.length ≤ width
  · rw [if_pos hfit]
    obtain ⟨x, hx⟩ :=
      finishLine_fst width (c :: (fillLine width (0 + c.length) rest).1) (fillLine width (0 + c.length) rest).2
    rw [hx]
    simpa using fun h => absurd h hc
  · rw [if_neg hfit, finishLine_long (by omega), if_neg (Nat.not_lt.mpr hw)]
    intro h
    have := congrArg List.length h
    have hpos := List.length_pos_iff.mpr hc
    simp only [List.flatten_nil, List.length_nil, List.nil_append, List.flatten_cons, List.append_nil,
      List.length_take] at this
    omega

theorem oneLine_snd_ne (width : Nat) (chunks : List Str) (hw : 1 ≤ width) (hne : ∀ c ∈ chunks, c ≠ []) :
    ∀ c ∈ (oneLine width chunks).2, c ≠ [] :=
  finishLine_snd_ne _ _ _ hw fun c hc => hne c (fillLine_append width chunks 0 ▸ List.mem_append_right _ hc)

theorem oneLine_eq_fillLine (width : Nat) (chunks : List Str) (hb : ∀ c ∈ chunks, c.length ≤ width) :
    oneLine width chunks = fillLine width 0 chunks := by
  have happ := fillLine_append width chunks 0
  unfold oneLine
  generalize fillLine width 0 chunks = r at happ
  obtain ⟨r1, r2⟩ := r
  cases r2 with
  | nil => rfl
  | cons c rest =>
    have : c ∈ chunks := by rw [← happ]; simp
    exact finishLine_fits (hb c this) _ _

theorem oneLine_append (width : Nat) (chunks : List Str) (hb : ∀ c ∈ chunks, c.length ≤ width) :
    (oneLine width chunks).1 ++ (oneLine width chunks).2 = chunks := by
  rw [oneLine_eq_fillLine _ _ hb, fillLine_append]

theorem wrapChunks_nil (W : Nat) (init subs : Str) (first : Bool) : wrapChunks W init subs first [] = [] := by
  rw [wrapChunks]

theorem wrapChunks_cons (W : Nat) (init subs : Str) (first : Bool) (c : Str) (rest : List Str) :
    wrapChunks W init subs first (c :: rest) =
      ((if first then init else subs) ++ (oneLine (W - (if first then init else subs).length) (c :: rest)).1.flatten) ::
        wrapChunks W init subs false (oneLine (W - (if first then init else subs).length) (c :: rest)).2 := by
  rw [wrapChunks]
  exact if_neg (by simpa using oneLine_fst_ne_nil _ c rest)

/-- `wrapChunks.induct` without its dead `r.1.isEmpty` case: the step is that of `wrapChunks_cons` -/
theorem wrapChunks_induction (W : Nat) (init subs : Str) {motive : Bool → List Str → Prop}
    (nil : ∀ first, motive first [])
    (cons : ∀ first c rest,
      motive false (oneLine (W - (if first then init else subs).length) (c :: rest)).2 → motive first (c :: rest))
    (first : Bool) (chunks : List Str) : motive first chunks :=
  wrapChunks.induct W init subs motive nil
    (fun first c rest h _ => absurd h (by simpa using oneLine_fst_ne_nil _ c rest))
    (fun first c rest _ ih => cons first c rest ih) first chunks

theorem wrapChunks_width (W : Nat) (init subs : Str) (hi : init.length < W) (hs : subs.length < W)
    (first : Bool) (chunks : List Str) :
    ∀ l ∈ wrapChunks W init subs first chunks, l.length ≤ W := by
  induction first, chunks using wrapChunks_induction W init subs with
  | nil => simp [wrapChunks_nil]
  | cons first c rest ih =>
    rw [wrapChunks_cons, List.forall_mem_cons, List.length_append]
    have hind : (if first then init else subs).length < W := by split <;> assumption
    exact ⟨Nat.add_le_of_le_sub' (Nat.le_of_lt hind) (oneLine_len _ (c :: rest) (Nat.sub_pos_of_lt hind)), ih⟩

/-- the text of a wrapped paragraph with the indents taken off again -/
def unindent (init subs : Str) : Bool → List Str → Str
  | _, [] => []
  | first, l :: ls => l.drop (if first then init.length else subs.length) ++ unindent init subs false ls

theorem wrapChunks_flatten (W : Nat) (init subs : Str) (first : Bool) (chunks : List Str) :
    unindent init subs first (wrapChunks W init subs first chunks) = chunks.flatten := by
  induction first, chunks using wrapChunks_induction W init subs with
  | nil => rw [wrapChunks_nil]; rfl
  | cons first c rest ih =>
    rw [wrapChunks_cons, unindent, ih, ← oneLine_flatten (W - (if first then init else subs).length) (c :: rest)]
    congr 1
    cases first <;> exact List.drop_left

def indentLines (init subs : Str) : Bool → List Str → List Str
  | _, [] => []
  | first, b :: bs => ((if first = true then init else subs) ++ b) :: indentLines init subs false bs

theorem indentLines_false (init subs : Str) : ∀ (bs : List Str),
    indentLines init subs false bs = bs.map (subs ++ ·)
  | [] => rfl
  | b :: bs => by simp [indentLines, indentLines_false init subs bs]

theorem indentLines_cons (init subs : Str) (first : Bool) (b : Str) (bs : List Str) :
    indentLines init subs first (b :: bs) = ((if first = true then init else subs) ++ b) :: bs.map (subs ++ ·) := by
  simp [indentLines, indentLines_false]

theorem mem_indentLines (init subs : Str) : ∀ (first : Bool) (bodies : List Str) (x : Str),
    x ∈ indentLines init subs first bodies → ∃ b ∈ bodies, x = init ++ b ∨ x = subs ++ b
  | _, [], x, h => by simp [indentLines] at h
  | first, b :: bs, x, h => by
    simp only [indentLines, List.mem_cons] at h
    rcases h with rfl | h
    · refine ⟨b, List.mem_cons_self, ?_⟩
      split
      · exact Or.inl rfl
      · exact Or.inr rfl
    · obtain ⟨b', hb', hx⟩ := mem_indentLines init subs false bs x h
      exact ⟨b', List.mem_cons_of_mem _ hb', hx⟩

theorem body_mem_indentLines (init subs : Str) : ∀ (first : Bool) (bodies : List Str) (b : Str),
    b ∈ bodies → ∃ x ∈ indentLines init subs first bodies, ∃ ind, x = ind ++ b
  | _, [], b, h => by simp at h
  | first, b0 :: bs, b, h => by
    rcases List.mem_cons.mp h with rfl | h
    · exact ⟨(if first = true then init else subs) ++ b, by simp [indentLines], _, rfl⟩
    · obtain ⟨x, hx, ind, hind⟩ := body_mem_indentLines init subs false bs b h
      exact ⟨x, by simp [indentLines, hx], ind, hind⟩

theorem wrapChunks_bodies (W : Nat) (init subs : Str) (hi : init.length < W) (hs : subs.length < W)
    (first : Bool) (chunks : List Str) (hne : ∀ c ∈ chunks, c ≠ []) :
    ∃ bodies, wrapChunks W init subs first chunks = indentLines init subs first bodies ∧
      bodies.flatten = chunks.flatten ∧ ∀ b ∈ bodies, b ≠ [] := by
  induction first, chunks using wrapChunks_induction W init subs with
  | nil => exact ⟨[], wrapChunks_nil .., rfl, nofun⟩
  | cons first c rest ih =>
    have hind : (if first = true then init else subs).length < W := by split <;> assumption
    obtain ⟨bodies, hb1, hb2, hb3⟩ := ih (oneLine_snd_ne _ _ (by omega) hne)
    refine ⟨_ :: bodies, by rw [wrapChunks_cons, hb1]; rfl, ?_, List.forall_mem_cons.mpr
      ⟨oneLine_fst_flatten_ne _ c rest (by omega) (hne c List.mem_cons_self), hb3⟩⟩
    rw [List.flatten_cons, hb2]
    exact oneLine_flatten _ (c :: rest)

/-! ## `_split` and `TextWrapper.wrap` -/

theorem splitChunks_flatten : ∀ (t : Str), (splitChunks t).flatten = t
  | [] => rfl
  | c :: rest => by
    have ih := splitChunks_flatten rest
    rw [splitChunks]
    generalize splitChunks rest = l at ih ⊢
    subst ih
    rcases l with _ | ⟨_ | ⟨d, ds⟩, more⟩
    · rfl
    · rfl
    · dsimp only
      split <;> rfl

/-- C10_flatten — `TextWrapper.wrap` (as configured by MontePy) neither loses nor invents a character, for every
    text and width: the lines with their indents taken off concatenate to the (tab-expanded) text. -/
theorem C10_flatten (W : Nat) (init subs text : Str) :
    unindent init subs true (textwrapWrap W init subs text) = munge text := by
  rw [textwrapWrap, wrapChunks_flatten, splitChunks_flatten]

theorem textwrapWrap_width (W : Nat) (init subs text : Str) (hi : init.length < W) (hs : subs.length < W) :
    ∀ l ∈ textwrapWrap W init subs text, l.length ≤ W :=
  wrapChunks_width W init subs hi hs true _

/-! ## `_wrap_line` -/

theorem leadBlanks_le (l : Str) : leadBlanks l ≤ l.length := by
  fun_induction leadBlanks l <;> simp <;> omega

/-- how `_wrap_line` puts a `$` comment back (the end of `wrapLine`) -/
def attachDollar (W : Nat) (subs : Str) (ret : List Str) (comment : Str) : List Str :=
  match ret.getLast? with
  | some last =>
    if last.length + comment.length ≤ W then ret.dropLast ++ [last ++ comment]
    else ret ++ textwrapWrap W subs (subs ++ ['$', ' ']) comment
  | none => ret ++ textwrapWrap W subs (subs ++ ['$', ' ']) comment

theorem forall_mem_attachDollar {P : Str → Prop} {W : Nat} {subs comment : Str} {ret : List Str}
    (hret : ∀ l ∈ ret, P l) (hcom : ∀ l ∈ textwrapWrap W subs (subs ++ ['$', ' ']) comment, P l)
    (hlast : ∀ last, last.length + comment.length ≤ W → P (last ++ comment)) :
    ∀ l ∈ attachDollar W subs ret comment, P l := by
  have hboth := List.forall_mem_append.mpr ⟨hret, hcom⟩
  unfold attachDollar
  split
  · split
    · exact List.forall_mem_append.mpr
        ⟨fun l hl => hret l (List.dropLast_subset _ hl), List.forall_mem_singleton.mpr (hlast _ ‹_›)⟩
    · exact hboth
  · exact hboth

/-- C10_fits_unchanged — a line that fits is written as it is (tabs expanded; initial indent in front of,
    and counted for, a data line only): nothing is wrapped, so it starts an input / is a comment exactly when the
    unwrapped line does. -/
theorem C10_fits_unchanged (line : Str) (W : Nat) (init subs : Str) :
    (isCommentLine (expandTabs Gen.tabSize line) = true → (expandTabs Gen.tabSize line).length ≤ W →
      wrapLine line W init subs = [expandTabs Gen.tabSize line]) ∧
    (isCommentLine (expandTabs Gen.tabSize line) = false → init.length + (expandTabs Gen.tabSize line).length ≤ W →
      wrapLine line W init subs = [init ++ expandTabs Gen.tabSize line]) := by
  constructor
  · intro hc hf; rw [wrapLine, if_pos hc, if_pos hf]
  · intro hc hf; rw [wrapLine, if_neg (by simp [hc]), if_pos hf]

theorem wrapLine_comment_long (line : Str) (W : Nat) (init subs : Str)
    (hc : isCommentLine (expandTabs Gen.tabSize line) = true) (hf : ¬ (expandTabs Gen.tabSize line).length ≤ W) :
    wrapLine line W init subs =
      textwrapWrap W [] ((expandTabs Gen.tabSize line).take (leadBlanks (expandTabs Gen.tabSize line) + 1) ++ [' '])
        (expandTabs Gen.tabSize line) := by
  rw [wrapLine, if_pos hc, if_neg hf]

theorem wrapLine_data_long (line : Str) (W : Nat) (init subs : Str)
    (hc : isCommentLine (expandTabs Gen.tabSize line) = false)
    (hf : ¬ init.length + (expandTabs Gen.tabSize line).length ≤ W) :
    wrapLine line W init subs =
      let p := partitionDollar (expandTabs Gen.tabSize line)
      let ret := (textwrapWrap W init subs p.1).filter stripNonEmpty
      if p.2.1 then attachDollar W subs ret ('$' :: p.2.2) else ret := by
  rw [wrapLine, if_neg (by simp [hc]), if_neg hf]
  rfl

theorem wrapLine_width (line : Str) (W : Nat) (init subs : Str)
    (hi : init.length < W) (hs : subs.length + 2 < W) (h6 : Gen.blankSpaceContinue + 1 < W) :
    ∀ l ∈ wrapLine line W init subs, l.length ≤ W := by
  have hs' : subs.length < W := Nat.lt_of_le_of_lt (Nat.le_add_right _ 2) hs
  cases hc : isCommentLine (expandTabs Gen.tabSize line) with
  | true =>
    by_cases hf : (expandTabs Gen.tabSize line).length ≤ W
    · rw [(C10_fits_unchanged line W init subs).1 hc hf]
      exact List.forall_mem_singleton.mpr hf
    · rw [wrapLine_comment_long _ _ _ _ hc hf]
      have hlead : leadBlanks (expandTabs Gen.tabSize line) < Gen.blankSpaceContinue := by
        simp only [isCommentLine, Bool.and_eq_true, decide_eq_true_eq] at hc
        exact hc.1
      refine textwrapWrap_width W [] _ _ (Nat.zero_lt_of_lt hi) ?_
      rw [List.length_append, List.length_take, List.length_singleton]
      exact Nat.lt_of_le_of_lt (Nat.succ_le_succ (Nat.le_trans (Nat.min_le_left _ _) hlead)) h6
  | false =>
    by_cases hf : init.length + (expandTabs Gen.tabSize line).length ≤ W
    · rw [(C10_fits_unchanged line W init subs).2 hc hf]
      exact List.forall_mem_singleton.mpr (List.length_append ▸ hf)
    · rw [wrapLine_data_long _ _ _ _ hc hf]
      have hret : ∀ x ∈ (textwrapWrap W init subs (partitionDollar (expandTabs Gen.tabSize line)).1).filter stripNonEmpty,
          x.length ≤ W :=
        fun x hx => textwrapWrap_width W init subs _ hi hs' x (List.mem_filter.mp hx).1
      simp only
      split
      · exact forall_mem_attachDollar hret (textwrapWrap_width W subs _ _ hs' (List.length_append ▸ hs))
          (fun last h => List.length_append ▸ h)
      · exact hret

/-! ## `wrap_string_for_mcnp` -/

theorem foldl_fst_flatMap {α β γ} (p : α → Bool) (f : α → List β) (g : List β × γ → α → γ) (ls : List α) :
    ∀ acc : List β × γ,
      (ls.foldl (fun acc x => if p x then (acc.1 ++ f x, g acc x) else acc) acc).1 = acc.1 ++ (ls.filter p).flatMap f := by
  induction ls with
  | nil => intro acc; simp
  | cons x t ih =>
    intro acc
    rw [List.foldl_cons, ih]
    cases hp : p x <;> simp [hp]

theorem wrapStringWith_fst (s : Str) (W : Nat) (isFirst : Bool) :
    (wrapStringWith s W isFirst).1 = ((splitLines s).filter stripNonEmpty).flatMap (fun line =>
      wrapLine line W (if isFirst then [] else blanks Gen.blankSpaceContinue) (blanks Gen.blankSpaceContinue)) :=
  foldl_fst_flatMap stripNonEmpty _ (fun acc line =>
    if (wrapLine line W (if isFirst then [] else blanks Gen.blankSpaceContinue) (blanks Gen.blankSpaceContinue)).length > 1
    then acc.2 + 1 else acc.2) _ _

theorem length_blanks (n : Nat) : (blanks n).length = n := List.length_replicate

/-- C10_width_string — every line `wrap_string_for_mcnp` produces for line length `W` has at most `W` characters:
    all strings, both values of `is_first_line`, every `W` that leaves more than two columns behind the continuation
    indent (room for a character behind `$ `). -/
theorem C10_width_string (s : Str) (W : Nat) (isFirst : Bool) (hW : Gen.blankSpaceContinue + 2 < W) :
    ∀ l ∈ (wrapStringWith s W isFirst).1, l.length ≤ W := by
  intro l hl
  rw [wrapStringWith_fst] at hl
  obtain ⟨line, _, hl⟩ := List.mem_flatMap.mp hl
  refine wrapLine_width line W _ _ ?_ (by rw [length_blanks]; exact hW) (Nat.lt_trans (Nat.lt_succ_self _) hW) l hl
  cases isFirst
  · rw [if_neg Bool.false_ne_true, length_blanks]
    exact Nat.lt_of_le_of_lt (Nat.le_add_right _ 2) hW
  · exact Nat.zero_lt_of_lt hW

theorem getMaxLineLength_mem (v : Version) (n : Nat) (h : getMaxLineLength v = .ok n) :
    ∃ e ∈ Gen.lineLength, e.2 = n := by
  have hmem : ∀ k, Gen.lineLength.lookup k = some n → ∃ e ∈ Gen.lineLength, e.2 = n := fun k hk =>
    let ⟨l₁, l₂, hl, _⟩ := List.lookup_eq_some_iff.mp hk
    ⟨(k, n), hl ▸ List.mem_append_right _ List.mem_cons_self, rfl⟩
  unfold getMaxLineLength at h
  split at h
  all_goals
    split at h
    · cases h; exact hmem _ ‹_›
    · cases h

/-- C10_width — for every version of the code's `LINE_LENGTH` table (consumed from the generated file), every
    string and either `is_first_line`: whenever `wrap_string_for_mcnp` returns, each line fits that version's limit. -/
theorem C10_width (v : Version) (s : Str) (isFirst : Bool) (r : List Str × Nat) (n : Nat)
    (hn : getMaxLineLength v = .ok n) (h : wrapStringForMcnp s v isFirst = .ok r) :
    ∀ l ∈ r.1, l.length ≤ n := by
  obtain ⟨e, he, rfl⟩ := getMaxLineLength_mem v n hn
  unfold wrapStringForMcnp at h
  rw [hn] at h
  simp only at h
  split at h
  · cases h
  · cases h
    exact C10_width_string s e.2 isFirst (C10_tables.1 e he)

/-- non-vacuity: the three listed versions and the later (7,0,0) have a line length, the earlier (5,1,0) has none -/
example : getMaxLineLength (6, 1, 0) = .ok 80 ∧ getMaxLineLength (5, 1, 60) = .ok 80 ∧
    getMaxLineLength (6, 2, 0) = .ok 128 ∧ getMaxLineLength (7, 0, 0) = .ok 128 ∧
    getMaxLineLength (5, 1, 0) = .error .unsupportedFeature :=
  ⟨rfl, rfl, rfl, rfl, rfl⟩

theorem sliceTo_length (s : Str) (n m : Nat) (h : m ≤ n) : (sliceTo s ((n : Int) - (m : Int))).length ≤ n - m := by
  rw [sliceTo, if_pos (Int.sub_nonneg_of_le (Int.ofNat_le.mpr h)), List.length_take, Int.toNat_sub]
  exact Nat.min_le_left _ _

/-- C10_title_message_width — title and message lines are cut to at most limit columns (mcnp_input.py as repaired in
    /repo; upstream cuts one column short of the limit). -/
theorem C10_title_message_width (v : Version) (n : Nat) (hn : getMaxLineLength v = .ok n) :
    (∀ title ls, titleFormat title v = .ok ls → ∀ l ∈ ls, l.length ≤ n) ∧
    (∀ msg ls, messageFormat msg v = .ok ls → ∀ l ∈ ls, l.length ≤ n) := by
  obtain ⟨e, he, rfl⟩ := getMaxLineLength_mem v n hn
  -- room for `MESSAGE: `
  have h9 : 9 ≤ e.2 := (by decide : ∀ e ∈ Gen.lineLength, 9 ≤ e.2) e he
  constructor
  · intro title ls h
    rw [titleFormat, hn] at h
    cases h
    exact List.forall_mem_singleton.mpr (sliceTo_length title e.2 0 (Nat.zero_le _))
  · intro msg ls h
    rw [messageFormat, hn] at h
    cases h
    refine List.forall_mem_append.mpr ⟨?_, List.forall_mem_singleton.mpr (Nat.zero_le _)⟩
    cases msg with
    | nil => exact fun _ h => nomatch h
    | cons m rest =>
      refine List.forall_mem_cons.mpr ⟨?_, List.forall_mem_map.mpr fun x _ => sliceTo_length x e.2 0 (Nat.zero_le _)⟩
      have hm : "MESSAGE: ".toList.length = 9 := by rw [String.toList_ofList]; rfl
      rw [List.length_append, hm]
      exact Nat.add_le_of_le_sub' h9 (sliceTo_length m e.2 9 h9)

/-! ## content: the data words survive wrapping -/
open _root_.MontePyVerif.Spec.Text (words wordsAux)

theorem wordsAux_append_blank : ∀ (a b cur : Str),
    wordsAux (a ++ ' ' :: b) cur = wordsAux a cur ++ wordsAux b []
  | [], b, cur => by cases cur <;> rfl
  | c :: a, b, cur => by
    simp only [List.cons_append, wordsAux]
    by_cases hc : (c == ' ') = true
    · simp only [hc, if_true, wordsAux_append_blank a b []]
      cases cur <;> rfl
    · simp only [hc, Bool.false_eq_true, if_false, wordsAux_append_blank a b (c :: cur)]

/-- the break between `a` and `b` is a word boundary -/
def Sep (a b : Str) : Prop := a = [] ∨ b = [] ∨ (∃ a', a = a' ++ [' ']) ∨ (∃ b', b = ' ' :: b')

/-- a word reader that only looks at blank-separated pieces -/
structure WordReader (wf : Str → List Str) : Prop where
  nil : wf [] = []
  sep : ∀ a b, Sep a b → wf (a ++ b) = wf a ++ wf b
  blank : ∀ b, wf (' ' :: b) = wf b

theorem WordReader.blanks {wf : Str → List Str} (h : WordReader wf) (n : Nat) (b : Str) :
    wf (blanks n ++ b) = wf b := by
  induction n with
  | zero => rfl
  | succ k ih => rw [Wrap.blanks, List.replicate_succ, List.cons_append, h.blank]; exact ih

theorem WordReader.of_append_blank {wf : Str → List Str} (h0 : wf [] = [])
    (h : ∀ a b, wf (a ++ ' ' :: b) = wf a ++ wf b) : WordReader wf := by
  have hb : ∀ b, wf (' ' :: b) = wf b := fun b => by
    have := h [] b
    rwa [List.nil_append, h0, List.nil_append] at this
  refine ⟨h0, ?_, hb⟩
  rintro a b (rfl | rfl | ⟨a', rfl⟩ | ⟨b', rfl⟩)
  · rw [List.nil_append, h0, List.nil_append]
  · rw [List.append_nil, h0, List.append_nil]
  · rw [List.append_assoc, List.singleton_append, h, h, h0, List.append_nil]
  · rw [h, hb]

theorem textWords_reader : WordReader Spec.Text.words :=
  .of_append_blank rfl fun a b => wordsAux_append_blank a b []

/-- a blank chunk -/
def WsC (c : Str) : Prop := ∀ x ∈ c, x = ' '

/-- chunk lists as `_split` produces them from munged text: no empty chunk, and of two neighbours one is blanks -/
def Chain : List Str → Prop
  | [] => True
  | [c] => c ≠ []
  | a :: b :: rest => a ≠ [] ∧ (WsC a ∨ WsC b) ∧ Chain (b :: rest)

theorem Chain.head_ne {c : Str} {rest : List Str} (h : Chain (c :: rest)) : c ≠ [] := by
  cases rest with
  | nil => exact h
  | cons b r => exact h.1

theorem Chain.tail {c : Str} {rest : List Str} (h : Chain (c :: rest)) : Chain rest := by
  cases rest with
  | nil => trivial
  | cons b r => exact h.2.2

theorem Chain.drop_left : ∀ (t r : List Str), Chain (t ++ r) → Chain r
  | [], _, h => h
  | _ :: t, r, h => Chain.drop_left t r (Chain.tail h)

theorem chain_ne : ∀ (cs : List Str), Chain cs → ∀ c ∈ cs, c ≠ []
  | [], _, c, hc => by simp at hc
  | a :: rest, h, c, hc => by
    rcases List.mem_cons.mp hc with rfl | hc
    · exact Chain.head_ne h
    · exact chain_ne rest (Chain.tail h) c hc

theorem flatten_ne_nil_of_chain {c : Str} {rest : List Str} (h : Chain (c :: rest)) : (c :: rest).flatten ≠ [] :=
  fun h' => Chain.head_ne h (List.append_eq_nil_iff.mp h').1

theorem wsC_ends {a : Str} (h : a ≠ []) (hw : WsC a) : ∃ a', a = a' ++ [' '] :=
  ⟨a.dropLast, hw _ (List.getLast_mem h) ▸ (List.dropLast_concat_getLast h).symm⟩

theorem sep_of_chain (t r : List Str) (h : Chain (t ++ r)) : Sep t.flatten r.flatten := by
  rcases List.eq_nil_or_concat t with rfl | ⟨t', a, rfl⟩
  · exact Or.inl rfl
  cases r with
  | nil => exact Or.inr (Or.inl rfl)
  | cons b r' =>
    have h' : Chain (a :: b :: r') := Chain.drop_left t' _ (by simpa using h)
    rcases h'.2.1 with hw | hw
    · obtain ⟨a', rfl⟩ := wsC_ends h'.1 hw
      exact Or.inr (Or.inr (Or.inl ⟨t'.flatten ++ a', by simp⟩))
    · cases b with
      | nil => exact absurd rfl (Chain.head_ne h'.2.2)
      | cons x b' =>
        cases hw x List.mem_cons_self
        exact Or.inr (Or.inr (Or.inr ⟨b' ++ r'.flatten, by simp⟩))

theorem wrapChunks_words {wf : Str → List Str} (hwf : WordReader wf) (W ni ns : Nat) (first : Bool) (chunks : List Str)
    (hc : Chain chunks) (hb : ∀ c ∈ chunks, c.length ≤ W - ni ∧ c.length ≤ W - ns) :
    ((wrapChunks W (blanks ni) (blanks ns) first chunks).map wf).flatten = wf chunks.flatten := by
  induction first, chunks using wrapChunks_induction W (blanks ni) (blanks ns) with
  | nil => rw [wrapChunks_nil]; exact hwf.nil.symm
  | cons first c rest ih =>
    obtain ⟨k, hk, hwid⟩ : ∃ k, (if first then blanks ni else blanks ns) = blanks k ∧
        ∀ x ∈ c :: rest, x.length ≤ W - k := by
      cases first
      · exact ⟨ns, rfl, fun x hx => (hb x hx).2⟩
      · exact ⟨ni, rfl, fun x hx => (hb x hx).1⟩
    rw [wrapChunks_cons, hk, length_blanks]
    rw [hk, length_blanks] at ih
    -- the line and the chunks that remain cut the chain in two: a word boundary
    have happ := oneLine_append (W - k) (c :: rest) hwid
    rw [← happ] at hc hb
    rw [List.map_cons, List.flatten_cons, ih (Chain.drop_left _ _ hc) (fun x hx => hb x (List.mem_append_right _ hx)),
      hwf.blanks, ← hwf.sep _ _ (sep_of_chain _ _ hc), ← List.flatten_append, happ]

/-- what `_split` guarantees about its first chunk: carries `Chain` through the recursion of `splitChunks` -/
def HeadProp : List Str → Prop
  | (d :: ds) :: _ => isTwWs d = true → WsC (d :: ds)
  | [] :: _ => False
  | [] => True

theorem isTwWs_blank : isTwWs ' ' = true := by decide

theorem wsC_singleton {c : Char} (h : c = ' ') : WsC [c] := fun _ hx => List.mem_singleton.mp hx ▸ h

theorem splitChunks_chain : ∀ (t : Str), (∀ x ∈ t, isTwWs x = true → x = ' ') →
    Chain (splitChunks t) ∧ HeadProp (splitChunks t)
  | [], _ => ⟨trivial, trivial⟩
  | c :: rest, hws => by
    have ih := splitChunks_chain rest (fun x hx => hws x (List.mem_cons_of_mem _ hx))
    have hc : isTwWs c = true → WsC [c] := fun h => wsC_singleton (hws c List.mem_cons_self h)
    rw [splitChunks]
    generalize splitChunks rest = l at ih ⊢
    rcases l with _ | ⟨_ | ⟨d, ds⟩, more⟩
    · exact ⟨List.cons_ne_nil _ _, hc⟩
    · exact ih.2.elim
    · obtain ⟨ihc, ihh⟩ := ih
      replace ihh : isTwWs d = true → WsC (d :: ds) := ihh
      dsimp only
      split
      · rename_i hm
        have hm' : isTwWs c = isTwWs d := by simpa using hm
        have hhead : isTwWs c = true → WsC (c :: d :: ds) := fun h1 =>
          List.forall_mem_cons.mpr ⟨hc h1 c List.mem_cons_self, ihh (hm' ▸ h1)⟩
        refine ⟨?_, hhead⟩
        cases more with
        | nil => exact List.cons_ne_nil _ _
        | cons b m =>
          refine ⟨List.cons_ne_nil _ _, ihc.2.1.imp_left fun hw => hhead ?_, ihc.2.2⟩
          rw [hm', hw d List.mem_cons_self]
          exact isTwWs_blank
      · -- `c` starts a chunk: of `c` and `d` exactly one is white space
        rename_i hm
        refine ⟨⟨List.cons_ne_nil _ _, ?_, ihc⟩, hc⟩
        cases h1 : isTwWs c with
        | true => exact Or.inl (hc h1)
        | false =>
          refine Or.inr (ihh ?_)
          cases h2 : isTwWs d with
          | true => rfl
          | false => rw [h1, h2] at hm; exact absurd rfl hm

theorem munge_ws (text : Str) : ∀ x ∈ munge text, isTwWs x = true → x = ' ' := by
  intro x hx hw
  simp only [munge, show Gen.textwrapReplaceWhitespace = true from rfl, if_true, List.mem_map] at hx
  obtain ⟨y, _, rfl⟩ := hx
  by_cases h : isTwWs y = true
  · exact if_pos h
  · rw [if_neg h] at hw; exact absurd hw h

/-- the side condition of the content theorems: no chunk of the text (a word, or a run of blanks) is longer than what
    a continuation line can hold -/
def NoLongChunk (W ni ns : Nat) (text : Str) : Prop :=
  ∀ c ∈ splitChunks (munge text), c.length ≤ W - ni ∧ c.length ≤ W - ns

instance (W ni ns : Nat) (text : Str) : Decidable (NoLongChunk W ni ns text) := by
  unfold NoLongChunk; infer_instance

theorem textwrapWrap_words {wf : Str → List Str} (hwf : WordReader wf) (W ni ns : Nat) (text : Str)
    (h : NoLongChunk W ni ns text) :
    ((textwrapWrap W (blanks ni) (blanks ns) text).map wf).flatten = wf (munge text) := by
  rw [textwrapWrap, wrapChunks_words hwf W ni ns true _ (splitChunks_chain _ (munge_ws text)).1 h, splitChunks_flatten]

/-- C10_words — `TextWrapper.wrap` as MontePy configures it, with blank indents: for EVERY text and EVERY width,
    if no chunk is over-long, the words MCNP reads from the wrapped lines (each continuation line read by
    `Spec.Text.words`) are exactly the words of the unwrapped text, in order. -/
theorem C10_words (W ni ns : Nat) (text : Str) (h : NoLongChunk W ni ns text) :
    ((textwrapWrap W (blanks ni) (blanks ns) text).map words).flatten = words (munge text) :=
  textwrapWrap_words textWords_reader W ni ns text h

/-- non-vacuity of the hypothesis -/
example : NoLongChunk 80 0 5 "1 0 -1 -2 imp:n=1 be-met.40t".toList := by
  -- the literal as the list of its characters: the kernel is slow at decoding a literal itself
  rw [String.toList_ofList]
  decide +kernel

/-! ## the unconditional content clause is refuted by the code; the partial theorem -/

/-- "the words of the wrapped data are the words of the unwrapped data", for every regime of the code's table and
    every text, with no side condition -/
def C10_content_statement : Prop :=
  ∀ e ∈ Gen.lineLength, ∀ text : Str,
    ((textwrapWrap e.2 [] (blanks Gen.blankSpaceContinue) text).map words).flatten = words (munge text)

def longWordWitness : Str := ['1', ' ', '0', ' '] ++ List.replicate 77 'h'

/-- the word goes to a line of its own and is cut after 75 columns -/
theorem longWordWitness_wrapped : textwrapWrap 80 [] (blanks 5) longWordWitness =
    [['1', ' ', '0', ' '], blanks 5 ++ List.replicate 75 'h', blanks 5 ++ List.replicate 2 'h'] := by
  decide +kernel

/-- C10_content_refuted — the code refutes the unconditional statement: in the 80-column regime the 77-character
    word of `1 0 hhh…h` fits on no continuation line (75 columns) and `break_long_words` cuts it in two
    (known finding C10-F1). -/
theorem C10_content_refuted : ¬ C10_content_statement := by
  intro h
  have : ((textwrapWrap 80 [] (blanks 5) longWordWitness).map words).flatten = words (munge longWordWitness) :=
    h ((6, 1, 0), 80) (by decide) longWordWitness
  rw [longWordWitness_wrapped] at this
  revert this
  decide +kernel

/-- C10_content_data (the partial theorem) — for every regime of the table and every text without an over-long
    chunk the words are preserved. -/
theorem C10_content_data : ∀ e ∈ Gen.lineLength, ∀ text : Str,
    NoLongChunk e.2 0 Gen.blankSpaceContinue text →
    ((textwrapWrap e.2 [] (blanks Gen.blankSpaceContinue) text).map words).flatten = words (munge text) :=
  fun e _ text h => C10_words e.2 0 Gen.blankSpaceContinue text h

example : NoLongChunk 80 0 Gen.blankSpaceContinue
    "mt1 lwtr.20t be-met.40t".toList := by
  rw [String.toList_ofList]
  decide +kernel

/-! ## indentation of continuation lines; comments stay comments -/

theorem wrapChunks_indent_rest (W : Nat) (init subs : Str) (chunks : List Str) :
    ∀ l ∈ wrapChunks W init subs false chunks, subs <+: l := by
  generalize hf : false = first
  induction first, chunks using wrapChunks_induction W init subs with
  | nil => simp [wrapChunks_nil]
  | cons first c rest ih =>
    subst hf
    rw [wrapChunks_cons]
    exact List.forall_mem_cons.mpr ⟨List.prefix_append _ _, ih rfl⟩

/-- C10_indent — every line `TextWrapper.wrap` produces after the first one starts with the subsequent indent
    (for MontePy: `BLANK_SPACE_CONTINUE` blanks for data, `     $ ` for a continued `$` comment, `c ` for a continued
    comment line), for every text and width. -/
theorem C10_indent (W : Nat) (init subs text : Str) :
    ∀ l ∈ (textwrapWrap W init subs text).tail, subs <+: l := by
  unfold textwrapWrap
  cases splitChunks (munge text) with
  | nil => simp [wrapChunks_nil]
  | cons c rest => rw [wrapChunks_cons]; exact wrapChunks_indent_rest W init subs _

theorem commentWithin_blanks (k n : Nat) (c : Char) (rest : Str) (hk : k < n) (hc : c = 'c' ∨ c = 'C') :
    Spec.Text.commentWithin n (blanks k ++ c :: ' ' :: rest) = true := by
  induction k generalizing n with
  | zero =>
    obtain ⟨m, rfl⟩ := Nat.exists_eq_add_one.mpr hk
    rcases hc with rfl | rfl <;> rfl
  | succ j ih =>
    obtain ⟨m, rfl⟩ := Nat.exists_eq_add_one.mpr (Nat.zero_lt_of_lt hk)
    exact ih m (Nat.lt_of_succ_lt_succ hk)

/-- C10_comment_stays_comment — (a) a line that starts with the prefix a wrapped C comment is continued with
    (fewer than five blanks, `c`/`C`, a blank) is a comment line for MCNP; (b) every continuation line of a wrapped
    C comment does start with that prefix; (c) a continuation line of a wrapped `$` comment (`     $ …`) carries no
    data word. -/
theorem C10_comment_stays_comment :
    (∀ (k : Nat) (c : Char) (l : Str), k < 5 → (c = 'c' ∨ c = 'C') → (blanks k ++ [c, ' ']) <+: l →
        Spec.Text.isCommentLine l = true) ∧
    (∀ (W : Nat) (pre line : Str), ∀ l ∈ (textwrapWrap W [] pre line).tail, pre <+: l) ∧
    (∀ (l : Str), (blanks 5 ++ ['$', ' ']) <+: l → words (Spec.Text.splitDollar l).1 = []) := by
  refine ⟨?_, fun W pre line => C10_indent W [] pre line, ?_⟩
  · rintro k c l hk hc ⟨t, rfl⟩
    rw [List.append_assoc]
    exact commentWithin_blanks k 5 c t hk hc
  · rintro l ⟨t, rfl⟩
    rfl

/-! ## the shape of what `TextWrapper.wrap` returns (for `Props/C10Roundtrip.lean`) -/

theorem splitChunks_munge_ne (text : Str) : ∀ c ∈ splitChunks (munge text), c ≠ [] :=
  chain_ne _ (splitChunks_chain _ (munge_ws text)).1

theorem textwrapWrap_bodies (W : Nat) (init subs text : Str) (hi : init.length < W) (hs : subs.length < W) :
    ∃ bodies, textwrapWrap W init subs text = indentLines init subs true bodies ∧ bodies.flatten = munge text ∧
      ∀ b ∈ bodies, b ≠ [] := by
  obtain ⟨bodies, h1, h2, h3⟩ := wrapChunks_bodies W init subs hi hs true _ (splitChunks_munge_ne text)
  exact ⟨bodies, h1, by rw [h2, splitChunks_flatten], h3⟩

/-- the chunk that no longer fits the first line does fit behind the indent of the others (`NoLongChunk`): so that line
    is longer than the indent -/
theorem textwrap_first (W : Nat) (subs text : Str) (hlong : NoLongChunk W 0 subs.length text)
    (l0 : Str) (ls : List Str) (h : textwrapWrap W [] subs text = l0 :: ls) :
    (ls = [] ∧ l0 = munge text) ∨ (subs.length < l0.length ∧ ∃ r, munge text = l0 ++ r) := by
  rw [NoLongChunk] at hlong
  rw [textwrapWrap] at h
  cases hch : splitChunks (munge text) with
  | nil => rw [hch, wrapChunks_nil] at h; cases h
  | cons c rest =>
    rw [hch] at h hlong
    have hfit : ∀ x ∈ c :: rest, x.length ≤ W - ([] : Str).length := fun x hx => (hlong x hx).1
    have happ := oneLine_append _ _ hfit
    have hgr := fillLine_greedy (W - ([] : Str).length) (c :: rest) 0
    rw [← oneLine_eq_fillLine _ _ hfit] at hgr
    rw [wrapChunks_cons, if_pos rfl, List.nil_append] at h
    obtain ⟨rfl, rfl⟩ := List.cons.inj h
    have hd : munge text = (oneLine (W - ([] : Str).length) (c :: rest)).1.flatten ++
        (oneLine (W - ([] : Str).length) (c :: rest)).2.flatten := by
      rw [← List.flatten_append, happ, ← hch, splitChunks_flatten]
    cases hr : (oneLine (W - ([] : Str).length) (c :: rest)).2 with
    | nil => exact Or.inl ⟨wrapChunks_nil .., by rw [hd, hr]; simp⟩
    | cons x r =>
      have hx : x ∈ c :: rest := happ ▸ List.mem_append_right _ (hr ▸ List.mem_cons_self)
      have h1 := hgr x (by rw [hr]; rfl)
      have h2 := (hlong x hx).2
      have h3 := List.length_pos_iff.mpr (splitChunks_munge_ne text x (hch ▸ hx))
      exact Or.inr ⟨by simp only [List.length_nil] at h1 ⊢; omega, _, hd⟩

/-! ## blank lines -/

theorem not_blank_of_stripNonEmpty (l : Str) (h : stripNonEmpty l = true) : Spec.Text.isBlankLine l = false := by
  simp only [stripNonEmpty, List.any_eq_true, Bool.not_eq_true'] at h
  obtain ⟨c, hc, hs⟩ := h
  cases hb : Spec.Text.isBlankLine l with
  | false => rfl
  | true =>
    simp only [Spec.Text.isBlankLine, List.all_eq_true, beq_iff_eq] at hb
    have := hb c hc
    subst this
    have : pyIsSpace ' ' = true := by decide
    rw [this] at hs; cases hs

/-- C10_noblank_data — the data lines `_wrap_line` produces for a line that had to be wrapped are never blank
    (a blank line would end the block): for every line without a `$` comment, every width and indents. -/
theorem C10_noblank_data (line : Str) (W : Nat) (init subs : Str)
    (hnc : isCommentLine (expandTabs Gen.tabSize line) = false)
    (hlong : ¬ init.length + (expandTabs Gen.tabSize line).length ≤ W)
    (hnd : (partitionDollar (expandTabs Gen.tabSize line)).2.1 = false) :
    ∀ l ∈ wrapLine line W init subs, Spec.Text.isBlankLine l = false := by
  rw [wrapLine_data_long _ _ _ _ hnc hlong]
  simp only [hnd, Bool.false_eq_true, if_false]
  exact fun l hl => not_blank_of_stripNonEmpty l (List.mem_filter.mp hl).2

/-- non-vacuity: `1 0 -1` followed by 100 blanks is such a line in the 80-column regime -/
example : isCommentLine (expandTabs Gen.tabSize ("1 0 -1".toList ++ blanks 100)) = false ∧
    ¬ ([] : Str).length + (expandTabs Gen.tabSize ("1 0 -1".toList ++ blanks 100)).length ≤ 80 ∧
    (partitionDollar (expandTabs Gen.tabSize ("1 0 -1".toList ++ blanks 100))).2.1 = false := by
  rw [String.toList_ofList]
  decide +kernel

end MontePyVerif.C10
