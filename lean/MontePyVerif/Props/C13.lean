import Batteries.Lean.Except
import MontePyVerif.Model.Errors
import MontePyVerif.Lemmas.ReaderErrors
import MontePyVerif.Props.C20
/-!
# C13 — bad input fails in a controlled way: a deliberate error, never a leak or hang

Theorems about `Model.Errors` (the error policy of `read_input`), stated over the tables GENERATED from the source
(`Gen/Errors.lean`: class hierarchy from the live classes, handler lists OBSERVED by raising every class inside every
region of the working tree, `raise` statements from the AST), so that removing a class from an `except` tuple, changing
the hierarchy or adding a `raise` of an unhandled class inside a guarded loop re-opens a proof.

**What is not proved here.** "No internal exception escapes from any Python expression reachable from `read_input`"
is a statement about every expression of the interpreter; no executable Lean model short of a model of CPython
carries it.  An abstract file *states* which class is raised where; the theorems say what the layers of handlers make
of it, for all files.  The other half is explored on the real code (corruption enumeration, tools/props/c13.py) and
is labelled exploration in the evidence.
-/
namespace MontePyVerif.Errors
open MontePyVerif.Gen.Errors

/-! ## 1. The decision table -/

/-- The policy, written out as a maintainer would: which classes each guarded region takes.  `C13_mapping` proves
    that the `except` clauses of the source (`Gen.Errors.handlers` and the live hierarchy) implement exactly it. -/
def policy : Region → List Cls
  | .parseInputConstructKeep => [.MalformedInputError, .ParsingError, .BrokenObjectLinkError, .UnknownElement]
  | .parseInputConstructMap =>
      [.MalformedInputError, .ParsingError, .BrokenObjectLinkError, .RedundantParameterSpecification,
       .ParticleTypeNotInProblem, .ParticleTypeNotInCell, .UnknownElement, .IllegalState, .ValueError, .UnicodeDecodeError]
  | .parseInputInner =>
      [.MalformedInputError, .ParsingError, .NumberConflictError, .BrokenObjectLinkError, .UnsupportedFeature, .UnknownElement,
       .TypeError]
  | .parseInputOuter =>
      [.MalformedInputError, .ParsingError, .BrokenObjectLinkError, .UnsupportedFeature, .FileNotFoundError]
  | .uipLoadData => [.MalformedInputError, .ParsingError, .BrokenObjectLinkError]
  | .uipSurfaceLoop => [.BrokenObjectLinkError, .ParticleTypeNotInProblem, .ParticleTypeNotInCell]
  | .uipDataLoop =>
      [.MalformedInputError, .ParsingError, .BrokenObjectLinkError, .ParticleTypeNotInProblem, .ParticleTypeNotInCell]
  | .cellsModifierOnce => [.MalformedInputError, .ParsingError, .BrokenObjectLinkError]
  | .cellsModifierMerge => [.MalformedInputError, .ParsingError, .BrokenObjectLinkError]
  | .cellsCellLoop =>
      [.MalformedInputError, .ParsingError, .BrokenObjectLinkError, .ParticleTypeNotInProblem, .ParticleTypeNotInCell]
  | .cellsBlankModifiers =>
      [.MalformedInputError, .ParsingError, .BrokenObjectLinkError, .ParticleTypeNotInProblem, .ParticleTypeNotInCell]
  | .objectInit =>
      [.MalformedInputError, .ParsingError, .BrokenObjectLinkError, .RedundantParameterSpecification,
       .ParticleTypeNotInProblem, .ParticleTypeNotInCell, .UnknownElement, .IllegalState, .ValueError, .UnicodeDecodeError]
  | .flushInput =>
      [.MalformedInputError, .ParsingError, .BrokenObjectLinkError, .RedundantParameterSpecification,
       .ParticleTypeNotInProblem, .ParticleTypeNotInCell, .UnknownElement, .IllegalState, .ValueError, .UnicodeDecodeError]

theorem mem_Region_all (r : Region) : r ∈ Region.all := by cases r <;> decide +kernel

theorem mem_Cls_all (c : Cls) : c ∈ Cls.all := by cases c <;> decide +kernel

/-- `forall_Region` and `forall_Cls` let a decidable statement about every region (class) be checked on the generated
    list: one evaluation by the kernel instead of one per constructor. -/
theorem forall_Region {p : Region → Prop} (h : ∀ r ∈ Region.all, p r) (r : Region) : p r :=
  h r (mem_Region_all r)

theorem forall_Cls {p : Cls → Prop} (h : ∀ c ∈ Cls.all, p c) (c : Cls) : p c :=
  h c (mem_Cls_all c)

theorem policy_eq_filter : ∀ r : Region, policy r = Cls.all.filter (handled r) :=
  forall_Region (by decide +kernel)

theorem handled_eq_policy (r : Region) (c : Cls) : handled r c = (policy r).contains c := by
  rw [policy_eq_filter, Bool.eq_iff_iff, List.contains_iff_mem, List.mem_filter]
  exact ⟨fun h => ⟨mem_Cls_all c, h⟩, And.right⟩

theorem handled_documented {r : Region} {c : Cls} (h : handled r c = true) : documented c = true :=
  forall_Region (p := fun r => ∀ c ∈ policy r, documented c = true) (by decide +kernel) r c
    (List.contains_iff_mem.mp (handled_eq_policy r c ▸ h))

/-- **C13_mapping.** For every guarded region, every class and both modes the outcome is: handled classes become a
    warning in check mode and are re-raised in normal mode; every other class propagates unchanged — and "handled" is
    exactly the written-out policy table. -/
theorem C13_mapping : ∀ (r : Region) (c : Cls) (m : Mode),
    outcome r c m =
      if (policy r).contains c then (match m with | .check => .warnAndContinue | .normal => .raise c) else .leak c := by
  intro r c m
  -- `outcome` is this very `if`, on `handled r c`
  rw [← handled_eq_policy]
  rfl

/-- **C13_tables_known.** Every fact of `Gen/Errors.lean` was observed on the working tree or read from its source:
    the translator wrote no "unknown" (a region whose probe could not be run AND whose except clauses were not
    recognised, a raise site whose function is gone, a pairing step that neither pairs strictly nor truncates).
    An unknown region is written as the empty handler list, so that `C13_mapping` fails with it. -/
theorem C13_tables_known : unknownFacts = [] := by decide

/-- **C13_hierarchy.** The facts about `errors.py` the policy relies on (from the live classes): MalformedInputError,
    UnknownElement, ParticleTypeNotInProblem, ParticleTypeNotInCell and RedundantParameterSpecification are
    ValueErrors; NumberConflictError, UnsupportedFeature (a NotImplementedError) and LexError are not; ParsingError and
    BrokenObjectLinkError are MalformedInputErrors; the six classes listed last are Exceptions and not Warnings. -/
theorem C13_hierarchy :
    isSubclass .ParsingError .MalformedInputError = true ∧ isSubclass .BrokenObjectLinkError .MalformedInputError = true
    ∧ isSubclass .MalformedInputError .ValueError = true ∧ isSubclass .UnknownElement .ValueError = true
    ∧ isSubclass .ParticleTypeNotInProblem .ValueError = true ∧ isSubclass .ParticleTypeNotInCell .ValueError = true
    ∧ isSubclass .RedundantParameterSpecification .ValueError = true
    ∧ isSubclass .NumberConflictError .ValueError = false ∧ isSubclass .UnsupportedFeature .ValueError = false
    ∧ isSubclass .UnsupportedFeature .NotImplementedError = true
    ∧ isSubclass .LexError .ValueError = false
    ∧ (∀ c ∈ [Cls.MalformedInputError, .ParsingError, .BrokenObjectLinkError, .NumberConflictError, .UnsupportedFeature,
              .UnknownElement], isSubclass c .Warning = false ∧ isSubclass c .Exception = true) := by
  decide

/-- **C13_handled_ok.** Every class MontePy raises with a `raise` statement inside a guarded region (linking
    functions: enumerated from the AST; per-input region: every deliberate class after the two mapping layers; outer
    region: the reader's own errors) is taken by that region's handler: nothing deliberate passes a handler it is
    raised under, so in check mode nothing deliberate becomes a traceback. -/
theorem C13_handled_ok : ∀ (r : Region) (c : Cls), c ∈ raisedIn r → handled r c = true :=
  forall_Region (by decide +kernel)

/-- non-vacuity: the enumerations are not empty -/
example : Cls.BrokenObjectLinkError ∈ raisedIn .cellsCellLoop ∧ Cls.NumberConflictError ∈ raisedIn .parseInputInner
    ∧ Cls.UnsupportedFeature ∈ raisedIn .parseInputInner ∧ Cls.FileNotFoundError ∈ raisedIn .parseInputOuter := by decide +kernel

/-- **C13_mapping_layers.** The two mapping layers in front of the per-input handler: a ValueError of any kind raised
    by the parser becomes MalformedInputError (MCNP_Object.__init__); after the constructor every ValueError that is
    not already a MalformedInputError or UnknownElement becomes MalformedInputError (parse_input); everything else
    (TypeError, AttributeError, LexError, UnsupportedFeature ...) passes unchanged; an ordinary input passes
    `flush_input`, a malformed read input is re-raised. -/
theorem C13_mapping_layers : ∀ c : Cls,
    (objectInitMap c = if isSubclass c .ValueError then .MalformedInputError else c)
    ∧ (constructMap c = if isSubclass c .MalformedInputError || c == .UnknownElement then c
                        else if isSubclass c .ValueError then .MalformedInputError else c)
    ∧ (isSubclass c .ValueError = true → handled .parseInputInner (constructMap c) = true)
    ∧ flushInput .ValueError = .yieldInput ∧ flushInput .ParsingError = .reraise .ParsingError :=
  forall_Cls (by decide +kernel)

/-! ## 2. The staged reader, for all abstract files -/

/-- the item's fault, if any, is of a class MontePy raises deliberately: the handler it is raised under takes it -/
def itemOk : Item → Bool
  | .readerRaise c => handled .parseInputOuter c
  | .input _ (some f) => handled .parseInputInner (constructClass f)
  | .input _ none => true

def Deliberate (file : List Item) : Prop := ∀ it ∈ file, itemOk it = true

instance (file : List Item) : Decidable (Deliberate file) :=
  inferInstanceAs (Decidable (∀ it ∈ file, itemOk it = true))

section
variable {r : Region} {c c' : Cls} (m : Mode) (s : St)

theorem outcome_check (h : handled r c = true) : outcome r c .check = .warnAndContinue := by
  simp [outcome, h]

theorem outcome_normal (h : handled r c = true) : outcome r c .normal = .raise c := by
  simp [outcome, h]

theorem outcome_leak (h : handled r c = false) : outcome r c m = .leak c := by
  simp [outcome, h]

theorem outcome_raise {m : Mode} (h : outcome r c m = .raise c') : handled r c' = true := by
  unfold outcome at h
  split at h
  · cases m <;> cases h
    assumption
  · cases h

theorem outerHandle_check (h : handled .parseInputOuter c = true) :
    outerHandle .check s c = .stop { s with warnings := s.warnings ++ [c] } := by
  simp only [outerHandle, outcome_check h]

theorem outerHandle_normal (h : handled .parseInputOuter c = true) :
    outerHandle .normal s c = .fail s c (some .parseInputOuter) := by
  simp only [outerHandle, outcome_normal h]

theorem outerHandle_leak (h : handled .parseInputOuter c = false) : outerHandle m s c = .fail s c none := by
  simp only [outerHandle, outcome_leak m h]

theorem innerHandle_check (h : handled .parseInputInner c = true) :
    innerHandle .check s c = .next { s with warnings := s.warnings ++ [c] } := by
  simp only [innerHandle, outcome_check h]

theorem innerHandle_normal (h : handled .parseInputInner c = true) :
    innerHandle .normal s c = .fail s c (some .parseInputInner) := by
  simp only [innerHandle, outcome_normal h]

theorem innerHandle_leak (h : handled .parseInputInner c = false) : innerHandle m s c = outerHandle m s c := by
  simp only [innerHandle, outcome_leak m h]

end

/-- `stepItem` with `flush_input` evaluated, this lemma and the next: a faulty input goes to `innerHandle`, an
    ordinary input is yielded -/
theorem stepItem_fault (m : Mode) (s : St) (card : Card) (f : Fault) :
    stepItem m s (.input card (some f)) = innerHandle m s (constructClass f) := rfl

theorem stepItem_input (m : Mode) (s : St) (card : Card) :
    stepItem m s (.input card none) =
      if (appendCard s card).2 then innerHandle m (appendCard s card).1 .NumberConflictError
      else .next (appendCard s card).1 := rfl

theorem handled_conflict : handled .parseInputInner .NumberConflictError = true := by decide

theorem readItems_append {m : Mode} {s1 : St} (rest pre : List Item) (s : St) (h : readItems m s pre = .next s1) :
    readItems m s (pre ++ rest) = readItems m s1 rest := by
  fun_induction readItems m s pre with
  | case1 s => cases h; rfl
  | case2 s it more s2 hst ih => simp only [List.cons_append, readItems, hst]; exact ih h
  | case3 s it more hne => exact (hne s1 h).elim

/-! ### the data loop -/

/-- what `matScan` (a second MT for one M) and `visit` (an MT without M) append to the events -/
abbrev dataEv : Region × Cls := (.uipDataLoop, .MalformedInputError)

theorem matScan_inv (mid n : Nat) (snap : List (Nat × Card)) (st : DSt) :
    (matScan mid n snap st).visited = st.visited
    ∧ (∃ k, (matScan mid n snap st).events = st.events ++ List.replicate k dataEv)
    ∧ (∀ y ∈ (matScan mid n snap st).live, y ∈ st.live) := by
  fun_induction matScan mid n snap st with
  | case1 st => exact ⟨rfl, ⟨0, (List.append_nil _).symm⟩, fun _ h => h⟩
  | case2 => exact ⟨rfl, ⟨1, rfl⟩, fun _ h => h⟩
  | case3 j m rest st _ _ ih => exact ⟨ih.1, ih.2.1, fun y hy => (List.mem_filter.mp (ih.2.2 y hy)).1⟩
  | case4 _ _ _ _ _ ih => exact ih
  | case5 _ _ _ _ ih => exact ih

theorem visit_inv (st : DSt) (x : Nat × Card) :
    (visit st x).visited = st.visited ++ [x.1]
    ∧ (∃ k, (visit st x).events = st.events ++ List.replicate k dataEv)
    ∧ (∀ y ∈ (visit st x).live, y ∈ st.live) := by
  fun_cases visit st x
  · exact matScan_inv ..
  · exact ⟨rfl, ⟨0, (List.append_nil _).symm⟩, fun _ h => h⟩
  · exact ⟨rfl, ⟨1, rfl⟩, fun _ h => h⟩
  · exact ⟨rfl, ⟨0, (List.append_nil _).symm⟩, fun _ h => h⟩

theorem foldVisit_inv (xs : List (Nat × Card)) : ∀ (st : DSt),
    (xs.foldl visit st).visited = st.visited ++ xs.map (·.1)
    ∧ (∃ k, (xs.foldl visit st).events = st.events ++ List.replicate k dataEv)
    ∧ (∀ y ∈ (xs.foldl visit st).live, y ∈ st.live) := by
  induction xs with
  | nil => intro st; exact ⟨(List.append_nil _).symm, ⟨0, (List.append_nil _).symm⟩, fun _ h => h⟩
  | cons x rest ih =>
    intro st
    obtain ⟨v1, ⟨k1, v2⟩, v3⟩ := visit_inv st x
    obtain ⟨h1, ⟨k2, h2⟩, h3⟩ := ih (visit st x)
    refine ⟨?_, ⟨k1 + k2, ?_⟩, fun y hy => v3 y (h3 y hy)⟩
    · rw [List.foldl_cons, h1, v1, List.append_assoc]; rfl
    · rw [List.foldl_cons, h2, v2, List.append_assoc, List.replicate_append_replicate]

theorem dataLoopEvents_eq (data : List Card) : ∃ k, dataLoopEvents data = List.replicate k dataEv :=
  (foldVisit_inv (indexed data) { live := indexed data }).2.1

theorem indexed_mem (data : List Card) (c : Card) (h : c ∈ data) : ∃ i, (i, c) ∈ indexed data := by
  obtain ⟨i, hi, rfl⟩ := List.mem_iff_getElem.mp h
  exact ⟨i, List.mem_iff_getElem.mpr ⟨i, by simp [indexed, hi], by simp [indexed]⟩⟩

theorem indexed_snd (data : List Card) : ∀ y ∈ indexed data, y.2 ∈ data :=
  fun _ hy => (List.of_mem_zip hy).2

theorem foldVisit_dangling (data : List Card) (n : Nat) (hno : Card.material n ∉ data) (xs : List (Nat × Card)) :
    ∀ (st : DSt), (∀ y ∈ st.live, y.2 ∈ data) → (∃ i, (i, Card.thermal n) ∈ xs) →
      dataEv ∈ (xs.foldl visit st).events := by
  induction xs with
  | nil => intro st _ ⟨i, hi⟩; cases hi
  | cons x rest ih =>
    intro st hlive ⟨i, hi⟩
    rw [List.foldl_cons]
    rcases List.mem_cons.mp hi with rfl | hi
    · obtain ⟨k, hk⟩ := (foldVisit_inv rest (visit st (i, .thermal n))).2.1
      rw [hk]
      apply List.mem_append_left
      have : (st.live.any fun y => y.2 == Card.material n) = false :=
        List.any_eq_false.mpr fun y hy hc => hno (beq_iff_eq.mp hc ▸ hlive y hy)
      simp [visit, this]
    · exact ih (visit st x) (fun y hy => hlive y ((visit_inv st x).2.2 y hy)) ⟨i, hi⟩

theorem dataLoopEvents_dangling {data : List Card} {n : Nat} (hmem : Card.thermal n ∈ data)
    (hno : Card.material n ∉ data) : dataEv ∈ dataLoopEvents data :=
  foldVisit_dangling data n hno (indexed data) { live := indexed data } (indexed_snd data) (indexed_mem data _ hmem)

/-! ### what the loops of the linking stage can report -/

theorem cellLinkError_cls {s : St} {c : Card} {x : Cls} : cellLinkError s c = some x → x = .BrokenObjectLinkError := by
  fun_cases cellLinkError s c <;> intro h <;> cases h <;> rfl

theorem surfaceLinkError_cls {s : St} {c : Card} {x : Cls} :
    surfaceLinkError s c = some x → x = .BrokenObjectLinkError := by
  fun_cases surfaceLinkError s c <;> intro h <;> cases h <;> rfl

theorem dangling_iff {have_ refs : List Nat} : dangling have_ refs = true ↔ ∃ r ∈ refs, r ∉ have_ := by
  simp [dangling]

theorem cellLinkError_bad {s : St} {num mat : Nat} {surfs comps mods : List Nat}
    (hbad : (mat > 0 ∧ mat ∉ s.materials) ∨ (∃ r ∈ surfs, r ∉ s.surfaces.map Card.num)
      ∨ (∃ r ∈ comps, r ∉ s.cells.map Card.num)) :
    cellLinkError s (.cell num mat surfs comps mods) = some .BrokenObjectLinkError := by
  simp only [cellLinkError, ite_eq_left_iff]
  intro h1 h2 h3
  rcases hbad with ⟨hm, hnm⟩ | hr | hr
  · exact absurd (by simp [hm, hnm]) h1
  · exact absurd (dangling_iff.mpr hr) h2
  · exact absurd (dangling_iff.mpr hr) h3

theorem surfaceLinkError_bad {s : St} {num : Nat} {tr per : Option Nat}
    (hbad : (∃ p, per = some p ∧ p ∉ s.surfaces.map Card.num) ∨ (∃ t, tr = some t ∧ Card.transform t ∉ s.data)) :
    surfaceLinkError s (.surface num tr per) = some .BrokenObjectLinkError := by
  rcases hbad with ⟨p, rfl, hp⟩ | ⟨t, rfl, ht⟩
  · simp [surfaceLinkError, hp]
  · cases per <;> simp [surfaceLinkError, ht]

theorem mem_optEvents {r : Region} {f : Card → Option Cls} {cs : List Card} {e : Region × Cls} :
    e ∈ optEvents r f cs ↔ e.1 = r ∧ ∃ c ∈ cs, f c = some e.2 := by
  obtain ⟨r', x⟩ := e
  simp only [optEvents, List.mem_filterMap, Option.map_eq_some_iff, Prod.mk.injEq]
  constructor
  · rintro ⟨c, hc, _, hx, rfl, rfl⟩; exact ⟨rfl, c, hc, hx⟩
  · rintro ⟨rfl, c, hc, hx⟩; exact ⟨c, hc, x, hx, rfl, rfl⟩

def linkEventKinds : List (Region × Cls) :=
  [(.uipLoadData, .MalformedInputError), (.cellsModifierOnce, .MalformedInputError),
   (.cellsModifierMerge, .MalformedInputError), (.cellsCellLoop, .BrokenObjectLinkError),
   (.cellsBlankModifiers, .MalformedInputError), (.uipSurfaceLoop, .BrokenObjectLinkError), dataEv]

theorem optEvents_kinds {r : Region} {f : Card → Option Cls} (cs : List Card)
    (h : ∀ c x, f c = some x → (r, x) ∈ linkEventKinds) : optEvents r f cs ⊆ linkEventKinds := by
  intro e he
  obtain ⟨hr, c, _, hc⟩ := mem_optEvents.mp he
  obtain ⟨r', x⟩ := e
  cases hr
  exact h c x hc

theorem modifierEvents_kinds (seen : List Nat) (cs : List Card) : modifierEvents seen cs ⊆ linkEventKinds := by
  fun_induction modifierEvents seen cs with
  | case1 => exact List.nil_subset _
  | case2 seen k cant _ rest ih =>
    refine List.append_subset.mpr ⟨?_, ih⟩
    split
    · decide
    · exact List.nil_subset _
  | case3 _ _ _ _ ih => exact ih

theorem linkEvents_kinds (s : St) : linkEvents s ⊆ linkEventKinds := by
  simp only [linkEvents, List.append_subset]
  refine ⟨⟨⟨⟨⟨?_, modifierEvents_kinds _ _⟩, ?_⟩, ?_⟩, ?_⟩, ?_⟩
  · split
    · decide
    · exact List.nil_subset _
  · exact optEvents_kinds _ fun c x h => by cases cellLinkError_cls h; decide
  · intro e he
    obtain ⟨k, _, hk⟩ := List.mem_filterMap.mp he
    split at hk
    · cases hk; decide
    · cases hk
  · exact optEvents_kinds _ fun c x h => by cases surfaceLinkError_cls h; decide
  · intro e he
    obtain ⟨k, hk⟩ := dataLoopEvents_eq s.data
    cases List.eq_of_mem_replicate (hk ▸ he)
    decide

theorem linkEvents_handled (s : St) : ∀ e ∈ linkEvents s, handled e.1 e.2 = true := fun e he =>
  (by decide : ∀ e ∈ linkEventKinds, handled e.1 e.2 = true) e (linkEvents_kinds s he)

/-! ### check mode: every deliberate failure becomes a warning -/

theorem linkRun_check (evs : List (Region × Cls)) : ∀ (s : St), (∀ e ∈ evs, handled e.1 e.2 = true) →
    linkRun .check s evs = { final := .returned, st := { s with warnings := s.warnings ++ evs.map (·.2) } } := by
  induction evs with
  | nil => intro s _; simp [linkRun]
  | cons e rest ih =>
    intro s h
    simp only [linkRun, outcome_check (h e List.mem_cons_self)]
    rw [ih _ fun e he => h e (List.mem_cons_of_mem _ he)]
    simp

/-- The state in which check mode ends the reading of a file of deliberate faults, read off the `for` loop of
    mcnp_problem.py:parse_input with `check_input=True`: the per-input handler warns and goes on to the next input (a
    failing construction, or `append` refusing a number that is taken, with the state as `appendCard` leaves it); the
    outer handler warns about the reader's own exception and the loop is over.  Not part of the model: a description
    for the proofs, which `readItems_check` shows `readItems .check` to compute. -/
def checkRead (s : St) : List Item → St
  | [] => s
  | .readerRaise c :: _ => { s with warnings := s.warnings ++ [c] }
  | .input _ (some f) :: rest => checkRead { s with warnings := s.warnings ++ [constructClass f] } rest
  | .input card none :: rest =>
    if (appendCard s card).2 then
      checkRead { (appendCard s card).1 with warnings := (appendCard s card).1.warnings ++ [.NumberConflictError] } rest
    else checkRead (appendCard s card).1 rest

theorem readItems_check (file : List Item) (s : St) (h : Deliberate file) :
    readItems .check s file = .next (checkRead s file) ∨ readItems .check s file = .stop (checkRead s file) := by
  fun_induction checkRead s file with
  | case1 s => exact .inl rfl
  | case2 s c rest =>
    exact .inr (by simp only [readItems, stepItem, outerHandle_check s (h _ List.mem_cons_self)])
  | case3 s card f rest ih =>
    simp only [readItems, stepItem_fault, innerHandle_check s (h _ List.mem_cons_self)]
    exact ih fun x hx => h x (List.mem_cons_of_mem _ hx)
  | case4 s card rest hc ih =>
    simp only [readItems, stepItem_input, if_pos hc, innerHandle_check _ handled_conflict]
    exact ih fun x hx => h x (List.mem_cons_of_mem _ hx)
  | case5 s card rest hc ih =>
    simp only [readItems, stepItem_input, if_neg hc]
    exact ih fun x hx => h x (List.mem_cons_of_mem _ hx)

/-- Check mode on a file of deliberate faults, exactly: it returns what was read, and the warnings are those of
    reading followed by the classes of all events of the linking stage. -/
theorem readInput_check {file : List Item} (h : Deliberate file) :
    readInput .check file = { final := .returned, st := { checkRead {} file with
      warnings := (checkRead {} file).warnings ++ (linkEvents (checkRead {} file)).map (·.2) } } := by
  unfold readInput
  rcases readItems_check file {} h with hs | hs <;> simp only [hs] <;> exact linkRun_check _ _ (linkEvents_handled _)

/-- **C13_check_mode_returns.** In check mode the staged reader returns for EVERY abstract file whose faults are of
    classes MontePy raises deliberately, whatever their number, kind and position: every failure becomes a warning. -/
theorem C13_check_mode_returns (file : List Item) (h : Deliberate file) :
    (readInput .check file).final = .returned :=
  congrArg Result.final (readInput_check h)

example : Deliberate [.input (.cell 1 0 [7] [] []) none, .input (.cell 1 0 [1] [] []) none,
    .input (.surface 1 none none) (some ⟨.ctor, .ValueError⟩), .input .other (some ⟨.parser, .UnsupportedFeature⟩),
    .readerRaise .FileNotFoundError] := by decide

theorem appendCard_warnings (s : St) (c : Card) : (appendCard s c).1.warnings = s.warnings := by
  unfold appendCard
  split <;> (try split) <;> rfl

theorem checkRead_mono (file : List Item) (s : St) : ∀ w ∈ s.warnings, w ∈ (checkRead s file).warnings := by
  intro w hw
  fun_induction checkRead s file with
  | case1 s => exact hw
  | case2 s c rest => exact List.mem_append_left _ hw
  | case3 s card f rest ih => exact ih (List.mem_append_left _ hw)
  | case4 s card rest hc ih => exact ih (List.mem_append_left _ (appendCard_warnings s card ▸ hw))
  | case5 s card rest hc ih => exact ih (appendCard_warnings s card ▸ hw)

def NoReaderFault (file : List Item) : Prop := ∀ it ∈ file, ∀ c, it ≠ .readerRaise c

theorem checkRead_append {pre : List Item} (hr : NoReaderFault pre) (rest : List Item) (s : St) :
    checkRead s (pre ++ rest) = checkRead (checkRead s pre) rest := by
  fun_induction checkRead s pre with
  | case1 s => rfl
  | case2 s c more => exact absurd rfl (hr _ List.mem_cons_self c)
  | case3 s card f more ih => exact ih fun x hx => hr x (List.mem_cons_of_mem _ hx)
  | case4 s card more hc ih =>
    simpa only [List.cons_append, checkRead, if_pos hc] using ih fun x hx => hr x (List.mem_cons_of_mem _ hx)
  | case5 s card more hc ih =>
    simpa only [List.cons_append, checkRead, if_neg hc] using ih fun x hx => hr x (List.mem_cons_of_mem _ hx)

/-- **C13_check_mode_reports.** In check mode no per-input failure is lost: if no reader-level fault cuts the file
    short, the class of EVERY failing input of a deliberate file is among the warnings of the returned problem —
    wherever the input stands and however many other inputs fail before or after it (check mode does not abandon the
    file at the first error). -/
theorem C13_check_mode_reports (pre post : List Item) (card : Card) (f : Fault)
    (h : Deliberate (pre ++ .input card (some f) :: post)) (hr : NoReaderFault pre) :
    constructClass f ∈ (readInput .check (pre ++ .input card (some f) :: post)).st.warnings := by
  rw [readInput_check h]
  refine List.mem_append_left _ ?_
  rw [checkRead_append hr]
  exact checkRead_mono post _ _ (List.mem_append_right _ List.mem_cons_self)

example : Deliberate ([.input (.cell 1 0 [1] [] []) (some ⟨.parser, .UnsupportedFeature⟩)] ++
    .input (.surface 1 none none) (some ⟨.treeNone, .ParsingError⟩) :: [.input .mode none]) ∧
    NoReaderFault [.input (.cell 1 0 [1] [] []) (some ⟨.parser, .UnsupportedFeature⟩)] :=
  ⟨by decide, fun it hit c hc => by cases List.mem_singleton.mp hit; cases hc⟩

/-! ### normal mode: the first failure, with its deliberate class -/

/-- the state after items that all pass the reading loop from `s` without an exception (`none`: one does not) -/
def cleanFrom (s : St) : List Item → Option St
  | [] => some s
  | .input card none :: rest => if (appendCard s card).2 then none else cleanFrom (appendCard s card).1 rest
  | _ => none

theorem readItems_clean (m : Mode) (pre : List Item) (s s1 : St) (h : cleanFrom s pre = some s1) :
    readItems m s pre = .next s1 := by
  fun_induction cleanFrom s pre with
  | case1 s => cases h; rfl
  | case2 s card more hc => cases h
  | case3 s card more hc ih => simp only [readItems, stepItem_input, hc]; exact ih h
  | case4 => cases h

theorem readInput_first_fail {m : Mode} {pre : List Item} {s1 s : St} {it : Item} {c : Cls} {r : Option Region}
    (post : List Item) (hpre : readItems m {} pre = .next s1) (hit : stepItem m s1 it = .fail s c r) :
    (readInput m (pre ++ it :: post)).final = .raised c r := by
  unfold readInput
  rw [readItems_append _ _ _ hpre]
  simp only [readItems, hit]

/-- **C13_normal_mode_first_error.** In normal mode the outcome is the FIRST failing input's class after the mapping
    layers, re-raised by the per-input handler: for every file `pre ++ [failing input] ++ post` whose prefix reads
    cleanly, whatever follows. -/
theorem C13_normal_mode_first_error (pre post : List Item) (card : Card) (f : Fault) (s1 : St)
    (hpre : cleanFrom {} pre = some s1) (hf : handled .parseInputInner (constructClass f) = true) :
    (readInput .normal (pre ++ .input card (some f) :: post)).final = .raised (constructClass f) (some .parseInputInner) :=
  readInput_first_fail post (readItems_clean .normal pre {} s1 hpre)
    ((stepItem_fault ..).trans (innerHandle_normal s1 hf))

example : cleanFrom {} [.input (.cell 1 0 [1] [] []) none, .input (.cell 2 0 [1] [] []) none] =
    some { cells := [.cell 1 0 [1] [] [], .cell 2 0 [1] [] []] } := by decide

/-- **C13_normal_mode_clean_prefix.** A duplicate number is the container's NumberConflictError, and a reader-level
    fault is the reader's class re-raised by the outer handler — again after any cleanly read prefix. -/
theorem C13_normal_mode_clean_prefix (pre post : List Item) (s1 : St) (hpre : cleanFrom {} pre = some s1) :
    (∀ card, (appendCard s1 card).2 = true →
      (readInput .normal (pre ++ .input card none :: post)).final = .raised .NumberConflictError (some .parseInputInner))
    ∧ (∀ c, handled .parseInputOuter c = true →
      (readInput .normal (pre ++ .readerRaise c :: post)).final = .raised c (some .parseInputOuter)) := by
  have hread := readItems_clean .normal pre {} s1 hpre
  constructor
  · intro card hc
    refine readInput_first_fail (s := (appendCard s1 card).1) post hread ?_
    rw [stepItem_input, if_pos hc]
    exact innerHandle_normal _ handled_conflict
  · intro c hc
    exact readInput_first_fail post hread (outerHandle_normal s1 hc)

/-- the duplicate-number conflict is real: a second cell with a number already read -/
example : (appendCard { cells := [.cell 1 0 [1] [] []] } (.cell 1 0 [2] [] [])).2 = true := by decide

/-! ### the linking stage -/

/-- **C13_link_errors.** What the linking stage reports, for every state the reading stage can hand over:
    a cell with a missing material, surface or complement gives BrokenObjectLinkError in the cell loop; a surface with
    a missing periodic partner or transform gives BrokenObjectLinkError in the surface loop; MT without M gives
    MalformedInputError in the data loop; two MODE inputs give MalformedInputError; and whatever else the stage
    reports (two MT for one M, a once-only per-cell data input given twice, per-cell data in both blocks) is of one
    of these two classes. -/
theorem C13_link_errors (s : St) :
    (∀ num mat surfs comps mods, Card.cell num mat surfs comps mods ∈ s.cells →
        ((mat > 0 ∧ mat ∉ s.materials) ∨ (∃ r ∈ surfs, r ∉ s.surfaces.map Card.num) ∨ (∃ r ∈ comps, r ∉ s.cells.map Card.num)) →
        (Region.cellsCellLoop, Cls.BrokenObjectLinkError) ∈ linkEvents s)
    ∧ (∀ num tr per, Card.surface num tr per ∈ s.surfaces →
        ((∃ p, per = some p ∧ p ∉ s.surfaces.map Card.num) ∨ (∃ t, tr = some t ∧ Card.transform t ∉ s.data)) →
        (Region.uipSurfaceLoop, Cls.BrokenObjectLinkError) ∈ linkEvents s)
    ∧ (∀ n, Card.thermal n ∈ s.data → Card.material n ∉ s.data → (Region.uipDataLoop, Cls.MalformedInputError) ∈ linkEvents s)
    ∧ ((s.data.filter (· == .mode)).length ≥ 2 → (Region.uipLoadData, Cls.MalformedInputError) ∈ linkEvents s)
    ∧ (∀ e ∈ linkEvents s, e.2 = .BrokenObjectLinkError ∨ e.2 = .MalformedInputError) := by
  refine ⟨?_, ?_, ?_, ?_, ?_⟩
  · intro num mat surfs comps mods hmem hbad
    simp only [linkEvents, List.mem_append]
    exact .inl (.inl (.inl (.inr (mem_optEvents.mpr ⟨rfl, _, hmem, cellLinkError_bad hbad⟩))))
  · intro num tr per hmem hbad
    simp only [linkEvents, List.mem_append]
    exact .inl (.inr (mem_optEvents.mpr ⟨rfl, _, hmem, surfaceLinkError_bad hbad⟩))
  · intro n hmem hno
    exact List.mem_append_right _ (dataLoopEvents_dangling hmem hno)
  · intro h
    simp only [linkEvents, List.mem_append]
    exact .inl (.inl (.inl (.inl (.inl (by simp [h])))))
  · intro e he
    exact (by decide : ∀ e ∈ linkEventKinds, e.2 = .BrokenObjectLinkError ∨ e.2 = .MalformedInputError) e
      (linkEvents_kinds s he)

example : (Region.cellsCellLoop, Cls.BrokenObjectLinkError) ∈
    linkEvents { cells := [.cell 1 0 [7] [] []], surfaces := [.surface 1 none none] } := by decide

/-- **C13_link_first.** In normal mode the linking stage raises the class of its first event, re-raised by the
    handler of the region the event occurs in; with no event it returns. -/
theorem C13_link_first (s : St) :
    (linkEvents s = [] → (linkRun .normal s (linkEvents s)).final = .returned)
    ∧ (∀ r c rest, linkEvents s = (r, c) :: rest → (linkRun .normal s (linkEvents s)).final = .raised c (some r)) := by
  constructor
  · intro h; rw [h]; rfl
  · intro r c rest h
    have hh : handled r c = true := linkEvents_handled s (r, c) (h ▸ List.mem_cons_self)
    rw [h]
    simp only [linkRun, outcome_normal hh]

/-! ### the loop over the data inputs -/

/-- **C13_link_visits_all.** With the loop of `__update_internal_pointers` running over a snapshot of
    `self._data_inputs` (as the source has it: `for input in list(self._data_inputs)`), `update_pointers` runs for
    EVERY data input EXACTLY ONCE, in file order, whatever the order of the cards and however many MT inputs the
    materials remove from the list on the way; so an MT input without a material is reported wherever it stands. -/
theorem C13_link_visits_all (data : List Card) :
    (linkDataSnapshot data).visited = List.range data.length
    ∧ (∀ n, Card.thermal n ∈ data → Card.material n ∉ data →
        (Region.uipDataLoop, Cls.MalformedInputError) ∈ dataLoopEvents data) := by
  refine ⟨?_, fun n => dataLoopEvents_dangling⟩
  unfold linkDataSnapshot
  rw [(foldVisit_inv (indexed data) { live := indexed data }).1]
  exact List.map_fst_zip (by simp)

/-- **C13_link_live_skips.** Why the snapshot matters: the same loop over the list itself (`for input in
    self._data_inputs`, Python's list iterator on a list that shrinks) skips the input after a material that removed
    an MT written before it — `mt1, m1, mt7, m2`: `mt7` (no material 7) is never visited and nothing is reported. -/
theorem C13_link_live_skips :
    (linkDataLive [.thermal 1, .material 1, .thermal 7, .material 2]).visited = [0, 1, 3]
    ∧ (linkDataLive [.thermal 1, .material 1, .thermal 7, .material 2]).events = []
    ∧ (linkDataSnapshot [.thermal 1, .material 1, .thermal 7, .material 2]).visited = [0, 1, 2, 3]
    ∧ dataLoopEvents [.thermal 1, .material 1, .thermal 7, .material 2] = [(.uipDataLoop, .MalformedInputError)] := by
  decide

/-- the cards of a behaviour probe (`Gen.Errors.probeDataLoop`: kind 0 = M, 1 = MT, 2 = other) -/
def probeCard : Nat × Nat → Card
  | (0, n) => .material n
  | (1, n) => .thermal n
  | _ => .other

/-- **C13_link_probe.** The model's data loop agrees with the BEHAVIOUR of the working tree: for every probe problem
    the translator linked just now (every order of `mt1, m1, mt7, m2` and three orders with a duplicated MT, in check
    mode) the number of MalformedInputError warnings is the model's.  A loop that no longer visits every input (the
    list iterated while it shrinks) changes the recorded numbers and this obligation fails. -/
theorem C13_link_probe :
    ∀ p ∈ probeDataLoop, (dataLoopEvents (p.1.map probeCard)).length = p.2 := by
  decide +kernel

example : probeDataLoop.length ≥ 24 ∧ (∃ p ∈ probeDataLoop, p.2 = 2) := by decide

/-! ### what can come out is documented -/

section
variable {m : Mode} {s s' : St} {c x : Cls} {r : Region}

theorem outerHandle_fail (h : outerHandle m s c = .fail s' x (some r)) : handled r x = true := by
  unfold outerHandle at h
  split at h
  · cases h
  · rename_i ho; cases h; exact outcome_raise ho
  · cases h

theorem innerHandle_fail (h : innerHandle m s c = .fail s' x (some r)) : handled r x = true := by
  unfold innerHandle at h
  split at h
  · cases h
  · rename_i ho; cases h; exact outcome_raise ho
  · exact outerHandle_fail h

theorem stepItem_fail {it : Item} (h : stepItem m s it = .fail s' x (some r)) : handled r x = true := by
  cases it with
  | readerRaise c => exact outerHandle_fail h
  | input card fault =>
    cases fault with
    | some f => exact innerHandle_fail h
    | none =>
      rw [stepItem_input] at h
      split at h
      · exact innerHandle_fail h
      · cases h

theorem readItems_fail (file : List Item) (s : St) (h : readItems m s file = .fail s' x (some r)) :
    handled r x = true := by
  fun_induction readItems m s file with
  | case1 s => cases h
  | case2 s it rest s1 hst ih => exact ih h
  | case3 s it rest hne => exact stepItem_fail h

theorem linkRun_raised (evs : List (Region × Cls)) (s : St) (h : (linkRun m s evs).final = .raised x (some r)) :
    handled r x = true := by
  fun_induction linkRun m s evs with
  | case1 s => cases h
  | case2 s r c rest _ ih => exact ih h
  | case3 s r c rest a ho => cases h; exact outcome_raise ho
  | case4 => cases h

theorem readInput_raised_handled {file : List Item} (h : (readInput m file).final = .raised c (some r)) :
    handled r c = true := by
  unfold readInput at h
  split at h
  · exact linkRun_raised _ _ h
  · exact linkRun_raised _ _ h
  · rename_i hrd; cases h; exact readItems_fail _ _ hrd

end

/-- **C13_deliberate_is_documented.** Every class a handler of the mapping layer can hand to the caller — re-raised
    by a region in normal mode — is in C13's documented set (MalformedInputError and subclasses,
    NumberConflictError, UnsupportedFeature, UnknownElement, ValueError, TypeError, FileNotFoundError); so is every
    class `read_input` raises in the name of a region. -/
theorem C13_deliberate_is_documented :
    (∀ (r : Region) (c : Cls) (m : Mode) (c' : Cls), outcome r c m = .raise c' → documented c' = true)
    ∧ (∀ (file : List Item) (c : Cls) (r : Region), Deliberate file →
        (readInput .normal file).final = .raised c (some r) → documented c = true) :=
  ⟨fun _ _ _ _ h => handled_documented (outcome_raise h),
   fun _ _ _ _ h => handled_documented (readInput_raised_handled h)⟩

/-! ## 3. What the mapping layer does not do: arbitrary classes -/

/-- the full-strength wish: whatever class is raised inside an input's construction, check mode returns -/
def C13_any_class_statement : Prop :=
  ∀ (file : List Item), (readInput .check file).final = .returned

/-- **C13_any_class_refuted.** It does not hold: a class outside ValueError and TypeError that no handler names (an
    AttributeError, IndexError or KeyError thrown by the runtime in a constructor, after the guarded parse) passes every
    layer in both modes.
    The mapping layer cannot make *every* Python exception deliberate; which expressions throw is explored on the real
    code (known findings C13-F*). -/
theorem C13_any_class_refuted : ¬ C13_any_class_statement :=
  fun h => absurd (h [.input .other (some ⟨.ctor, .AttributeError⟩)]) (by decide)

/-- **C13_any_class_partial.** With the excluded class spelled out — some fault's class is taken by no handler —
    it holds (this is `C13_check_mode_returns`), and such a class reaches the caller unchanged, marked as not
    re-raised by any region. -/
theorem C13_any_class_partial :
    (∀ file, Deliberate file → (readInput .check file).final = .returned)
    ∧ (∀ (m : Mode) (card : Card) (w : Where) (c : Cls), handled .parseInputInner (constructClass ⟨w, c⟩) = false →
        handled .parseInputOuter (constructClass ⟨w, c⟩) = false →
        (readInput m [.input card (some ⟨w, c⟩)]).final = .raised (constructClass ⟨w, c⟩) none) := by
  refine ⟨C13_check_mode_returns, ?_⟩
  intro m card w c h1 h2
  exact readInput_first_fail (pre := []) [] rfl ((innerHandle_leak m _ h1).trans (outerHandle_leak m _ h2))

example : handled .parseInputInner (constructClass ⟨.ctor, .AttributeError⟩) = false
    ∧ handled .parseInputOuter (constructClass ⟨.ctor, .AttributeError⟩) = false := by decide

/-- a TypeError raised while one input is built (explicit, like `Mode particle must be a str`, or thrown by the
    runtime) is taken by the per-input handler: a warning in check mode, re-raised unchanged in normal mode -/
example : (readInput .check [.input .mode (some ⟨.ctor, .TypeError⟩)]).final = .returned
    ∧ (readInput .normal [.input .mode (some ⟨.ctor, .TypeError⟩)]).final = .raised .TypeError (some .parseInputInner) := by
  decide

/-! ## 3b. The pairing step of a material (nothing of the file is dropped silently) -/

theorem pairUpStrict_spec {α : Type} : ∀ xs : List α,
    (xs.length % 2 = 1 → pairUpStrict xs = .error .leftover)
    ∧ (xs.length % 2 = 0 → ∃ ps, pairUpStrict xs = .ok ps ∧ ps.flatMap (fun p => [p.1, p.2]) = xs ∧ 2 * ps.length = xs.length)
  | [] => ⟨nofun, fun _ => ⟨[], rfl, rfl, rfl⟩⟩
  | [_] => ⟨fun _ => rfl, nofun⟩
  | a :: b :: rest => by
    obtain ⟨hodd, heven⟩ := pairUpStrict_spec rest
    have hl : (a :: b :: rest).length % 2 = rest.length % 2 := Nat.add_mod_right rest.length 2
    rw [hl]
    constructor
    · intro ho
      simp only [pairUpStrict, hodd ho]
    · intro he
      obtain ⟨ps, hps, hflat, hlen⟩ := heven he
      refine ⟨(a, b) :: ps, by simp only [pairUpStrict, hps], congrArg (a :: b :: ·) hflat, ?_⟩
      show 2 * (ps.length + 1) = rest.length + 2
      rw [Nat.mul_add, hlen]

/-- **C13_pairing.** The pairing step of `Material.__init__` as the source has it now (`Gen.Errors.materialPairing`,
    read off the AST): a list with an odd number of entries is REJECTED (a ValueError, which `parse_input` reports as
    MalformedInputError: re-raised in normal mode, a warning in check mode), and a list with an even number of entries
    loses nothing: the pairs, flattened, are the list.  With the truncating `zip(it, it)` idiom neither half is
    provable (an odd list is accepted and its last entry dropped): a rewrite of the pairing expression re-opens this
    theorem. -/
theorem C13_pairing {α : Type} (xs : List α) :
    (xs.length % 2 = 1 →
      ∃ e, pairUp xs = .error e ∧ pairErrClass e = .MalformedInputError
        ∧ handled .parseInputInner (pairErrClass e) = true)
    ∧ (xs.length % 2 = 0 →
      ∃ ps, pairUp xs = .ok ps ∧ ps.flatMap (fun p => [p.1, p.2]) = xs ∧ 2 * ps.length = xs.length) :=
  ⟨fun h => ⟨.leftover, (pairUpStrict_spec xs).1 h, by decide, by decide⟩, (pairUpStrict_spec xs).2⟩

/-- non-vacuity, and what the truncating idiom would do -/
example : pairUp [1001, 6667, 8016] = .error .leftover ∧ pairUp [1001, 6667, 8016, 3333] = .ok [(1001, 6667), (8016, 3333)]
    ∧ pairUpWith .zipTruncating [1001, 6667, 8016] = .ok [(1001, 6667)] := by decide

/-! ## 4. The reader itself (reusing the reader model of C11/C20, `Model/Reader.lean`)

`Model.Errors` takes reader-level faults as given (`Item.readerRaise c`).  The theorems below discharge that
assumption against the *line-level* model of `read_front_matters` / `read_data` / the read-card queue that C11 and C20
validate against the code: for every byte content of every file, the reader is total, stops at its first error, and
that error is one of the classes the outer handler of `parse_input` takes. -/

open MontePyVerif.Reader in
/-- the exception class a reader error of `Model.Reader` stands for (`outOfFuel` is not an outcome of the code) -/
def errCls : Reader.Err → Option Cls
  | .parsing => some .ParsingError
  | .malformed => some .MalformedInputError
  | .unsupported => some .UnsupportedFeature
  | .fileNotFound => some .FileNotFoundError
  | .outOfFuel => none

theorem errCls_raised {e : Reader.Err} {c : Cls} (h : errCls e = some c) : c ∈ raisedIn .parseInputOuter := by
  cases e <;> cases h <;> decide

open MontePyVerif.Reader in
/-- **C13_reader_total.** `Reader.readData` (= `read_data` on one file, a structurally recursive total function:
    it terminates on every list of lines) fails — for EVERY configuration and EVERY content — only with a malformed
    read input (ParsingError), a read cycle (MalformedInputError) or vertical format (UnsupportedFeature); nothing is
    yielded after the first error; and each of these classes is raised by a `raise` statement of the reader
    (`raisedIn .parseInputOuter`, from the AST) and is taken by the outer handler of `parse_input` — so in check mode
    every reader-level failure is a warning and the call returns. -/
theorem C13_reader_total (cfg : Reader.Cfg) (lines : List Reader.Str) :
    (∀ e, Event.raise e ∈ readData cfg lines → e = .parsing ∨ e = .malformed ∨ e = .unsupported)
    ∧ cut (readData cfg lines) = readData cfg lines
    ∧ (∀ e, Event.raise e ∈ readData cfg lines →
        ∃ c, errCls e = some c ∧ c ∈ raisedIn .parseInputOuter ∧ handled .parseInputOuter c = true
          ∧ outerHandle .check {} c = .stop { warnings := [c] }) := by
  refine ⟨ore_readData cfg lines, cut_readData cfg lines, fun e he => ?_⟩
  obtain ⟨c, hc⟩ : ∃ c, errCls e = some c := by
    rcases ore_readData cfg lines e he with rfl | rfl | rfl <;> exact ⟨_, rfl⟩
  have h2 := C13_handled_ok _ c (errCls_raised hc)
  exact ⟨c, hc, errCls_raised hc, h2, outerHandle_check {} h2⟩

/-- non-vacuity: a vertical-format line and a malformed read input do raise -/
example : Reader.Event.raise .unsupported ∈ Reader.readData ⟨128, .cell, ['m'], [['m']]⟩ ["1 0 -1".toList, "# 1 2".toList] := by
  decide +kernel

example : Reader.Event.raise .parsing ∈ Reader.readData ⟨128, .cell, ['m'], [['m']]⟩ ["read foo".toList] := by
  decide +kernel

open MontePyVerif.Reader in
/-- **C13_reader_terminates.** The whole reader with its read-card queue (`Reader.readAll` = `read_input_syntax`
    consumed to the end), on every finite file system and every top-level file: from some fuel on the run is the same
    for every larger fuel (the queue empties: never a hang — `C20_term_always`, reused), it never ends for lack of
    fuel, and every error it ends with stands for a class the outer handler takes: the three of `read_data` or
    FileNotFoundError for a read target that is missing. -/
theorem C13_reader_terminates (ll : Nat) (fs : FS) (main : Reader.Str) (bytes : List Nat) (support : List Reader.Str)
    (hsup : ∀ p, fs p ≠ none → p ∈ support) (hm : fs main = some bytes) :
    ∃ fuel0, ∀ extra, readAll ll (extra + fuel0) fs main = readAll ll fuel0 fs main ∧
      ∀ e, Event.raise e ∈ readAll ll (extra + fuel0) fs main →
        ∃ c, errCls e = some c ∧ handled .parseInputOuter c = true ∧ documented c = true := by
  obtain ⟨_, fuel0, h⟩ := MontePyVerif.C20.C20_term_always ll fs main bytes support hsup hm
  refine ⟨fuel0, fun extra => ⟨(h extra).1, ?_⟩⟩
  intro e he
  rw [(h extra).1] at he
  obtain ⟨c, hc⟩ : ∃ c, errCls e = some c := by
    cases e with
    | outOfFuel => exact absurd he (h extra).2
    | _ => exact ⟨_, rfl⟩
  have h2 := C13_handled_ok _ c (errCls_raised hc)
  exact ⟨c, hc, h2, handled_documented h2⟩

/-- the run on C20's example file system with a missing read target ends with FileNotFoundError -/
example : Reader.firstRaise (Reader.readAll 128 2 MontePyVerif.C20.exFsMissing ['d', '/', 'm']) = some .fileNotFound := by
  decide +kernel

end MontePyVerif.Errors
