import MontePyVerif.Gen.Constants
import MontePyVerif.Gen.PyText
/-!
# Model.Wrap — how MontePy lays a formatted input out into physical lines (property C10)

Mirrors, function by function, the code of /repo as repaired by its `fix:` commits:

* `montepy/constants.py`            `get_max_line_length`
* `montepy/mcnp_object.py`          `MCNP_Object.wrap_string_for_mcnp`, `_wrap_line`, `_is_comment_line`
* `textwrap.py` (CPython 3.12)      `TextWrapper._munge_whitespace`, `_split` (with `break_on_hyphens=False`:
                                    `wordsep_simple_re`), `_wrap_chunks`, `_handle_long_word`
                                    (configuration: `drop_whitespace=False`, `break_long_words=True`,
                                    `break_on_hyphens=False`, `max_lines=None`, `fix_sentence_endings=False`)
* `str.splitlines`, `str.strip` (as a truth value), `str.expandtabs`, `str.partition("$")`
* `montepy/cell.py`                 `Cell.format_for_mcnp_input` (the assembly loop) and its `cleanup_last_line`
* `montepy/input_parser/mcnp_input.py`  `Message.format_for_mcnp_input`, `Title.format_for_mcnp_input`

Strings are `List Char`; Python `int`s that cannot be negative here are `Nat`.  The one subtraction that can go
negative, `width = self.width - len(indent)`, is truncated at 0.  That takes the same branches while no chunk is
empty (`_split` filters them), but below a width of 1 `_handle_long_word` can leave an empty chunk on the stack, and
with a negative width CPython then never returns (`TextWrapper(width=2, initial_indent=" "*5, …).wrap("ab")`) where
the model goes on as for width 0.  So the model is `TextWrapper.wrap` for `len(indent) ≤ W` only; MontePy's indents
are at most 7 columns in 80 or 128.
-/
namespace MontePyVerif.Wrap
open MontePyVerif

abbrev Str := List Char

/-! ## character classes of the Python runtime (tables generated from the interpreter) -/

/-- `c.isspace()` -/
def pyIsSpace (c : Char) : Bool := Gen.pySpaceCodes.contains c.toNat
/-- `c` is a boundary of `str.splitlines()` -/
def pyIsLineBreak (c : Char) : Bool := Gen.pyLineBreakCodes.contains c.toNat
/-- `c in textwrap._whitespace` -/
def isTwWs (c : Char) : Bool := Gen.textwrapWhitespaceCodes.contains c.toNat

def blanks (n : Nat) : Str := List.replicate n ' '

/-! ## str methods -/

/-- `str.splitlines()`: cut at every boundary, `\r\n` is one boundary, no empty last line. -/
def splitLinesAux : Str → Str → List Str
  | [], cur => if cur.isEmpty then [] else [cur.reverse]
  | '\r' :: '\n' :: rest, cur => cur.reverse :: splitLinesAux rest []
  | c :: rest, cur =>
    if pyIsLineBreak c then cur.reverse :: splitLinesAux rest []
    else splitLinesAux rest (c :: cur)

def splitLines (s : Str) : List Str := splitLinesAux s []

/-- truth value of `line.strip()` -/
def stripNonEmpty (l : Str) : Bool := l.any (fun c => !pyIsSpace c)

/-- `str.expandtabs(tabsize)`; `col` is the running column (reset by `\n` and `\r`). -/
def expandTabsAux (tabsize : Nat) : Nat → Str → Str
  | _, [] => []
  | col, c :: rest =>
    if c == '\t' then
      if tabsize > 0 then
        let incr := tabsize - col % tabsize
        blanks incr ++ expandTabsAux tabsize (col + incr) rest
      else expandTabsAux tabsize col rest
    else if c == '\n' || c == '\r' then c :: expandTabsAux tabsize 0 rest
    else c :: expandTabsAux tabsize (col + 1) rest

def expandTabs (tabsize : Nat) (s : Str) : Str := expandTabsAux tabsize 0 s

/-- `len(line) - len(line.lstrip(" "))` -/
def leadBlanks : Str → Nat
  | ' ' :: rest => leadBlanks rest + 1
  | _ => 0

/-- `line.partition("$")` → (before, found, after) -/
def partitionDollar : Str → Str × Bool × Str
  | [] => ([], false, [])
  | c :: rest =>
    if c == '$' then ([], true, rest)
    else let r := partitionDollar rest; (c :: r.1, r.2.1, r.2.2)

/-! ## textwrap.TextWrapper -/

/-- textwrap.py:TextWrapper._munge_whitespace (expand_tabs, replace_whitespace both default True) -/
def munge (text : Str) : Str :=
  let t := if Gen.textwrapExpandTabs then expandTabs Gen.textwrapTabsize text else text
  if Gen.textwrapReplaceWhitespace then t.map (fun c => if isTwWs c then ' ' else c) else t

/-- textwrap.py:TextWrapper._split with `break_on_hyphens=False`: `wordsep_simple_re.split`, empty strings removed:
    the maximal runs of whitespace and of non-whitespace, in order. -/
def splitChunks : Str → List Str
  | [] => []
  | c :: rest =>
    match splitChunks rest with
    | (d :: ds) :: more => if isTwWs c == isTwWs d then (c :: d :: ds) :: more else [c] :: (d :: ds) :: more
    | [] :: more => [c] :: more
    | [] => [[c]]

/-- the inner `while chunks:` of `_wrap_chunks`: move chunks onto the current line while they fit. -/
def fillLine (width : Nat) : Nat → List Str → List Str × List Str
  | _, [] => ([], [])
  | curLen, c :: rest =>
    if curLen + c.length ≤ width then
      let r := fillLine width (curLen + c.length) rest
      (c :: r.1, r.2)
    else ([], c :: rest)

/-- after the inner loop: `_handle_long_word` (`break_long_words=True`, `break_on_hyphens=False`) when the
    next chunk is too long for any line.  `taken` = `cur_line`, `rest` = the chunks still on the stack. -/
def finishLine (width : Nat) (taken : List Str) : List Str → List Str × List Str
  | c :: rest' =>
    if c.length > width then
      -- textwrap.py:TextWrapper._handle_long_word
      let spaceLeft := if width < 1 then 1 else width - taken.flatten.length
      (taken ++ [c.take spaceLeft], c.drop spaceLeft :: rest')
    else (taken, c :: rest')
  | [] => (taken, [])

/-- one pass of the outer loop of `_wrap_chunks`: the pieces of the current line (`cur_line`) and the
    chunks that remain. -/
def oneLine (width : Nat) (chunks : List Str) : List Str × List Str :=
  finishLine width (fillLine width 0 chunks).1 (fillLine width 0 chunks).2

/-- termination measure of `_wrap_chunks`: characters and chunks still to place -/
def weight : List Str → Nat
  | [] => 0
  | c :: rest => c.length + 1 + weight rest

theorem fillLine_weight (width : Nat) (chunks : List Str) (curLen : Nat) :
    weight (fillLine width curLen chunks).1 + weight (fillLine width curLen chunks).2 = weight chunks := by
  fun_induction fillLine width curLen chunks with
  | case1 => rfl
  | case2 curLen c rest _ r ih => simp only [weight, r] at ih ⊢; omega
  | case3 => exact Nat.zero_add _

theorem finishLine_fits {width : Nat} {c : Str} (h : c.length ≤ width) (taken rest : List Str) :
    finishLine width taken (c :: rest) = (taken, c :: rest) := by
  rw [finishLine, if_neg (Nat.not_lt.mpr h)]

theorem finishLine_long {width : Nat} {c : Str} (h : width < c.length) (taken rest : List Str) :
    finishLine width taken (c :: rest) =
      (taken ++ [c.take (if width < 1 then 1 else width - taken.flatten.length)],
        c.drop (if width < 1 then 1 else width - taken.flatten.length) :: rest) := by
  rw [finishLine, if_pos h]

theorem finishLine_cases (width : Nat) (taken rest : List Str) :
    finishLine width taken rest = (taken, rest) ∨
    ∃ c rest', rest = c :: rest' ∧ width < c.length ∧
      finishLine width taken rest =
        (taken ++ [c.take (if width < 1 then 1 else width - taken.flatten.length)],
          c.drop (if width < 1 then 1 else width - taken.flatten.length) :: rest') := by
  cases rest with
  | nil => exact Or.inl rfl
  | cons c rest' =>
    by_cases hc : c.length ≤ width
    · exact Or.inl (finishLine_fits hc taken rest')
    · exact Or.inr ⟨c, rest', rfl, Nat.lt_of_not_le hc, finishLine_long (Nat.lt_of_not_le hc) taken rest'⟩

theorem finishLine_weight_le (width : Nat) (taken rest : List Str) :
    weight (finishLine width taken rest).2 ≤ weight rest := by
  rcases finishLine_cases width taken rest with h | ⟨c, rest', rfl, -, h⟩ <;> rw [h]
  · exact Nat.le_refl _
  · simp only [weight, List.length_drop]
    exact Nat.add_le_add_right (Nat.add_le_add_right (Nat.sub_le _ _) 1) _

/-- a chunk too long for any line still loses a character: `space_left ≥ 1` on an empty line -/
theorem oneLine_decreases (width : Nat) (c : Str) (rest : List Str) :
    weight (oneLine width (c :: rest)).2 < weight (c :: rest) := by
  simp only [oneLine, fillLine, Nat.zero_add]
  split
  · have h1 := finishLine_weight_le width (c :: (fillLine width c.length rest).1) (fillLine width c.length rest).2
    have h2 := fillLine_weight width rest c.length
    simp only [weight]; omega
  · simp only [finishLine_long (Nat.lt_of_not_le ‹_›), weight, List.length_drop, List.flatten_nil, List.length_nil]
    split <;> omega

/-- textwrap.py:TextWrapper._wrap_chunks (`max_lines=None`, `drop_whitespace=False`).
    `first` = no line has been stored yet (`indent = subsequent_indent if lines else initial_indent`). -/
def wrapChunks (W : Nat) (initialIndent subsequentIndent : Str) (first : Bool) (chunks : List Str) : List Str :=
  match chunks with
  | [] => []
  | c :: rest =>
    let indent := if first then initialIndent else subsequentIndent
    let r := oneLine (W - indent.length) (c :: rest)
    if r.1.isEmpty then wrapChunks W initialIndent subsequentIndent first r.2
    else (indent ++ r.1.flatten) :: wrapChunks W initialIndent subsequentIndent false r.2
termination_by weight chunks
decreasing_by
  all_goals exact oneLine_decreases _ c rest

/-- `textwrap.TextWrapper(width=W, initial_indent=…, subsequent_indent=…, drop_whitespace=False,
    break_on_hyphens=False).wrap(text)` for `W > 0` (`W ≤ 0` raises `ValueError`, see `wrapStringForMcnp`). -/
def textwrapWrap (W : Nat) (initialIndent subsequentIndent text : Str) : List Str :=
  wrapChunks W initialIndent subsequentIndent true (splitChunks (munge text))

/-! ## montepy/mcnp_object.py -/

/-- mcnp_object.py:MCNP_Object._is_comment_line -/
def isCommentLine (line : Str) : Bool :=
  let start := leadBlanks line
  decide (start < Gen.blankSpaceContinue)
    && (match line.drop start with
        | c :: rest => (c == 'c' || c == 'C') && (match rest with | [] => true | d :: _ => d == ' ')
        | [] => false)

/-- mcnp_object.py:MCNP_Object._wrap_line -/
def wrapLine (line : Str) (lineLength : Nat) (initialIndent subsequentIndent : Str) : List Str :=
  let line := expandTabs Gen.tabSize line
  if isCommentLine line then
    if line.length ≤ lineLength then [line]
    else
      let start := leadBlanks line
      textwrapWrap lineLength [] (line.take (start + 1) ++ [' ']) line
  else if initialIndent.length + line.length ≤ lineLength then [initialIndent ++ line]
  else
    let p := partitionDollar line
    let ret := (textwrapWrap lineLength initialIndent subsequentIndent p.1).filter stripNonEmpty
    if p.2.1 then
      let comment := '$' :: p.2.2
      match ret.getLast? with
      | some last =>
        if last.length + comment.length ≤ lineLength then ret.dropLast ++ [last ++ comment]
        else ret ++ textwrapWrap lineLength subsequentIndent (subsequentIndent ++ ['$', ' ']) comment
      | none => ret ++ textwrapWrap lineLength subsequentIndent (subsequentIndent ++ ['$', ' ']) comment
    else ret

inductive Err where
  | unsupportedFeature   -- constants.py:get_max_line_length, version not in LINE_LENGTH
  | valueError           -- textwrap: "invalid width (must be > 0)"
  deriving Repr, DecidableEq

abbrev Version := Nat × Nat × Nat

/-- Python tuple comparison `a >= b` on 3-tuples -/
def versionGe (a b : Version) : Bool :=
  a.1 > b.1 || (a.1 == b.1 && (a.2.1 > b.2.1 || (a.2.1 == b.2.1 && a.2.2 ≥ b.2.2)))

/-- constants.py:get_max_line_length -/
def getMaxLineLength (v : Version) : Except Err Nat :=
  if versionGe v Gen.defaultVersion then
    match Gen.lineLength.lookup Gen.defaultVersion with
    | some n => .ok n
    | none => .error .unsupportedFeature   -- (a KeyError in Python; unreachable while the table holds the default)
  else
    match Gen.lineLength.lookup v with
    | some n => .ok n
    | none => .error .unsupportedFeature

/-- the body of mcnp_object.py:MCNP_Object.wrap_string_for_mcnp once the line length is known.
    Result: the lines, and how many source lines raised a `LineExpansionWarning`. -/
def wrapStringWith (string : Str) (lineLength : Nat) (isFirstLine : Bool) : List Str × Nat :=
  let initialIndent := if isFirstLine then [] else blanks Gen.blankSpaceContinue
  (splitLines string).foldl (fun (acc : List Str × Nat) line =>
      if stripNonEmpty line then
        let buffer := wrapLine line lineLength initialIndent (blanks Gen.blankSpaceContinue)
        (acc.1 ++ buffer, if buffer.length > 1 then acc.2 + 1 else acc.2)
      else acc) ([], 0)

/-- mcnp_object.py:MCNP_Object.wrap_string_for_mcnp -/
def wrapStringForMcnp (string : Str) (v : Version) (isFirstLine : Bool) : Except Err (List Str × Nat) :=
  match getMaxLineLength v with
  | .error e => .error e
  | .ok lineLength =>
    -- every non-blank line reaches TextWrapper._wrap_chunks or fits; with width 0 nothing fits and it raises
    if lineLength == 0 && (splitLines string).any stripNonEmpty then .error .valueError
    else .ok (wrapStringWith string lineLength isFirstLine)

/-! ## montepy/cell.py -/

/-- `str.rstrip()` -/
def pyRstrip (s : Str) : Str := (s.reverse.dropWhile pyIsSpace).reverse

/-- cell.py:Cell.format_for_mcnp_input.cleanup_last_line (`ret` is never empty there: the cell number precedes) -/
def cleanupLastLine (ret : Str) : Str :=
  -- a padding that ends in a line break: the next parameter continues the input
  if ret.getLast? == some '\n' then ret ++ blanks Gen.blankSpaceContinue
  else
    match (splitLines ret).getLast? with
    | none => ret   -- Python: IndexError; not reachable from format_for_mcnp_input
    | some lastLine =>
      if isCommentLine lastLine || lastLine.contains '$' then ret ++ ['\n'] ++ blanks Gen.blankSpaceContinue
      -- a line that ends in the continuation mark "&" has to stay the end of its line
      else if (pyRstrip lastLine).getLast? == some '&' then ret ++ ['\n'] ++ blanks Gen.blankSpaceContinue
      else match lastLine.getLast? with
        | some c => if !pyIsSpace c then ret ++ [' '] else ret
        | none => ret   -- Python: IndexError on an empty last line

/-- what the loop of `Cell.format_for_mcnp_input` appends -/
inductive Piece where
  | node (text : Str)               -- `ret += node.format()` for a key other than "parameters"
  | modifier (lines : List Str)     -- `cleanup_last_line`, then `"\n".join(modifier.format_for_mcnp_input(v))`
  | param (text : Str)              -- `cleanup_last_line`, then `param.format()`

def joinNl : List Str → Str
  | [] => []
  | [l] => l
  | l :: rest => l ++ ['\n'] ++ joinNl rest

/-- cell.py:Cell.format_for_mcnp_input, the string handed to `wrap_string_for_mcnp` -/
def cellAssemble (pieces : List Piece) : Str :=
  let ret := pieces.foldl (fun ret p =>
    match p with
    | .node t => ret ++ t
    | .modifier ls => cleanupLastLine ret ++ joinNl ls
    | .param t => cleanupLastLine ret ++ t) []
  -- the input must not end in the continuation mark "&": it would continue into the next input
  let stripped := pyRstrip ret
  if stripped.getLast? == some '&' && !(((splitLines stripped).getLast?.getD []).contains '$') then stripped.dropLast
  else ret

/-- cell.py:Cell.format_for_mcnp_input -/
def cellFormat (pieces : List Piece) (v : Version) : Except Err (List Str × Nat) :=
  wrapStringForMcnp (cellAssemble pieces) v true

/-! ## montepy/data_inputs/cell_modifier.py, importance.py: per-cell data written to the data block -/

/-- `str.rstrip(" ")` -/
def rstripBlanks (s : Str) : Str := (s.reverse.dropWhile (· == ' ')).reverse

/-- `s[s.rfind("\n") + 1:]`: what stands behind the last line feed (all of `s` when there is none) -/
def afterLastNl (s : Str) : Str := (s.reverse.takeWhile (· != '\n')).reverse

/-- the test of cell_modifier.py:_drop_final_continuation_mark: the text ends in the continuation mark (white space
    aside) and the mark is not comment text -/
def endsInMark (text : Str) : Bool :=
  (pyRstrip text).getLast? == some '&' && !(afterLastNl (pyRstrip text)).contains '$'

/-- cell_modifier.py:_drop_final_continuation_mark — an input of the data block must not end in the continuation
    mark (the values come from the cells with the padding they had there) -/
def dropFinalContinuationMark (text : Str) : Str :=
  if endsInMark text then rstripBlanks (pyRstrip text).dropLast else text

/-- importance.py:Importance._format_tree, data-block branch: `cards` are the texts `tree.format()` of the groups of
    particles that are printed together, in print order; every one of them loses a final continuation mark -/
def importanceDataText (cards : List Str) : Str := joinNl (cards.map dropFinalContinuationMark)

/-- cell_modifier.py:CellModifierInput.format_for_mcnp_input, data-block branch, from the text `_format_tree` returns -/
def modifierDataFormat (text : Str) (v : Version) : Except Err (List Str × Nat) :=
  wrapStringForMcnp (dropFinalContinuationMark text) v true

/-! ## montepy/input_parser/mcnp_input.py -/

/-- Python slice `s[0:k]` for an `int` k that may be negative -/
def sliceTo (s : Str) (k : Int) : Str :=
  if k ≥ 0 then s.take k.toNat else s.take (s.length - (-k).toNat)

/-- mcnp_input.py:Message.format_for_mcnp_input -/
def messageFormat (lines : List Str) (v : Version) : Except Err (List Str) :=
  match getMaxLineLength v with
  | .error e => .error e
  | .ok n =>
    .ok ((match lines with
          | [] => []
          | l :: rest => ("MESSAGE: ".toList ++ sliceTo l ((n : Int) - 9)) :: rest.map (fun x => sliceTo x (n : Int))) ++ [[]])

/-- mcnp_input.py:Title.format_for_mcnp_input -/
def titleFormat (title : Str) (v : Version) : Except Err (List Str) :=
  match getMaxLineLength v with
  | .error e => .error e
  | .ok n => .ok [sliceTo title (n : Int)]

end MontePyVerif.Wrap
