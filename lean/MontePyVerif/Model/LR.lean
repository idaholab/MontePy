/-! # Model.LR — the LR stack machine of `sly/yacc.py: Parser.parse`, over arbitrary (action, goto) tables

Symbols, states and productions are `Nat` ids.

* token id `0` is `$end` (`lookahead = YaccSymbol(); lookahead.type = '$end'` when the token stream is exhausted);
* an action cell is the integer `t` SLY stores: `t > 0` shift to state `t`, `t < 0` reduce by production `-t`,
  `t = 0` accept;
* a *defaulted* state (`LRTable.__init__`: the row holds exactly one cell and it is a reduce) reduces without
  looking at the lookahead (`t = defaulted_states[self.state]`).

What is modelled: the run of `parse` up to (and excluding) the first syntax error.  The first `t is None` calls
the `error()` hook; MontePy's hook (`parser_base.py: MCNP_Parser.error`) records the error in the log and
`MCNP_Parser.parse` then returns `None` whatever the panic-mode recovery of SLY does afterwards.  So the model stops
there with `Res.reject` (reductions so far, number of unconsumed tokens; the offending token is the first of them,
or `$end` when none is left).  A table lookup on which Python would raise (`prod[-t]` out of range, empty state
stack, `goto[state][name]` KeyError) is `Res.crash`; it is excluded for well-formed tables, never observed.

Termination: the number of reductions between two shifts is not bounded by the input alone, so `run` takes fuel;
`Run` is the same machine as a relation, without fuel, and the theorems of `Props/C12LR.lean` are about `Run`.
-/
namespace MontePyVerif.LR

/-- `sly/yacc.py: LRTable` + `Grammar.Productions` as `Parser.parse` uses them -/
structure Tables where
  /-- number of terminals; ids `< nTerm` are terminals, `0` is `$end` -/
  nTerm : Nat
  /-- `Grammar.Start` -/
  start : Nat
  /-- `Grammar.Productions`: (lhs, rhs); index 0 is the augmented `S' → start` -/
  prods : Array (Nat × List Nat)
  /-- `LRTable.lr_action`: row of a state = association list token ↦ t -/
  action : Array (List (Nat × Int))
  /-- `LRTable.lr_goto` -/
  goto : Array (List (Nat × Nat))

/-- `dict.get` on an association list -/
def assoc {β : Type} (k : Nat) : List (Nat × β) → Option β
  | [] => none
  | (k', v) :: rest => if k' = k then some v else assoc k rest

theorem assoc_mem {β : Type} {k : Nat} {v : β} : ∀ {l : List (Nat × β)}, assoc k l = some v → (k, v) ∈ l
  | [], h => by simp [assoc] at h
  | (k', v') :: rest, h => by
    unfold assoc at h
    split at h
    · next e => cases h; subst e; exact List.mem_cons_self
    · exact List.mem_cons_of_mem _ (assoc_mem h)

/-- the machine state of `parse`: `statestack` (top first) and the tokens not yet consumed.  `symstack` is not
    kept: `parse` never reads the TYPE of a stacked symbol outside error recovery. -/
structure Config where
  stack : List Nat
  input : List Nat
deriving Repr, DecidableEq

/-- `lookahead.type`: the next token, `$end` (= 0) when the stream is exhausted -/
def lookahead (inp : List Nat) : Nat := inp.headD 0

def row (t : Tables) (s : Nat) : List (Nat × Int) := t.action.getD s []

/-- `LRTable.__init__`: `rules = list(actions.values()); if len(rules) == 1 and rules[0] < 0: defaulted_states[state] = rules[0]` -/
def defaulted (t : Tables) (s : Nat) : Option Int :=
  match row t s with
  | [(_, a)] => if a < 0 then some a else none
  | _ => none

/-- the `t` of one iteration of the loop: `defaulted_states[state]` or `actions[state].get(ltype)` -/
def actionOf (t : Tables) (s la : Nat) : Option Int :=
  match defaulted t s with
  | some a => some a
  | none => assoc la (row t s)

inductive StepRes
  | shift (c : Config)
  | reduce (p : Nat) (c : Config)
  | accept
  | error
  | crash
deriving Repr, DecidableEq

/-- one iteration of `while True:` in `Parser.parse` -/
def step (t : Tables) (c : Config) : StepRes :=
  match c.stack with
  | [] => .crash
  | s :: _ =>
    match actionOf t s (lookahead c.input) with
    | none => .error
    | some a =>
      if 0 < a then
        -- `statestack.append(t); symstack.append(lookahead); lookahead = None`
        .shift ⟨a.toNat :: c.stack, c.input.tail⟩
      else if a < 0 then
        -- `p = prod[-t]; del statestack[-plen:]; state = goto[statestack[-1]][pname]; statestack.append(state)`
        match t.prods[(-a).toNat]? with
        | none => .crash
        | some (lhs, rhs) =>
          match c.stack.drop rhs.length with
          | [] => .crash
          | s' :: below =>
            match assoc lhs (t.goto.getD s' []) with
            | none => .crash
            | some g => .reduce (-a).toNat ⟨g :: s' :: below, c.input⟩
      else .accept

/-- what a run of `parse` gives: the production indices reduced, in order (a right-most derivation in reverse) -/
inductive Res
  | accept (reds : List Nat)
  /-- first syntax error: `remaining` tokens were not consumed (the offending one is the first of them; `$end` if 0) -/
  | reject (reds : List Nat) (remaining : Nat)
  | crash (reds : List Nat)
  | outOfFuel
deriving Repr, DecidableEq

def Res.cons (p : Nat) : Res → Res
  | .accept r => .accept (p :: r)
  | .reject r n => .reject (p :: r) n
  | .crash r => .crash (p :: r)
  | .outOfFuel => .outOfFuel

def run (t : Tables) : Nat → Config → Res
  | 0, _ => .outOfFuel
  | fuel + 1, c =>
    match step t c with
    | .shift c' => run t fuel c'
    | .reduce p c' => (run t fuel c').cons p
    | .accept => .accept []
    | .error => .reject [] c.input.length
    | .crash => .crash []

/-- `restart()`: `statestack = [0]` -/
def init (toks : List Nat) : Config := ⟨[0], toks⟩

/-- `Parser.parse(tokens)` -/
def parse (t : Tables) (fuel : Nat) (toks : List Nat) : Res := run t fuel (init toks)

inductive Run (t : Tables) : Config → Res → Prop
  | shift {c c' : Config} {r : Res} : step t c = .shift c' → Run t c' r → Run t c r
  | reduce {c c' : Config} {p : Nat} {r : Res} : step t c = .reduce p c' → Run t c' r → Run t c (r.cons p)
  | accept {c : Config} : step t c = .accept → Run t c (.accept [])
  | error {c : Config} : step t c = .error → Run t c (.reject [] c.input.length)
  | crash {c : Config} : step t c = .crash → Run t c (.crash [])

theorem Res.cons_ne_outOfFuel {p : Nat} {r : Res} (h : r ≠ .outOfFuel) : r.cons p ≠ .outOfFuel := by
  cases r <;> simp_all [Res.cons]

theorem run_iff {t : Tables} {c : Config} {r : Res} : Run t c r ↔
    match step t c with
    | .shift c' => Run t c' r
    | .reduce p c' => ∃ r', Run t c' r' ∧ r = r'.cons p
    | .accept => r = .accept []
    | .error => r = .reject [] c.input.length
    | .crash => r = .crash [] := by
  constructor
  · intro h
    cases h with
    | shift hs hr => rw [hs]; exact hr
    | reduce hs hr => rw [hs]; exact ⟨_, hr, rfl⟩
    | accept hs | error hs | crash hs => rw [hs]
  · intro h
    split at h
    · next hs => exact .shift hs h
    · next hs => obtain ⟨r', hr, rfl⟩ := h; exact .reduce hs hr
    · next hs => exact h ▸ .accept hs
    · next hs => exact h ▸ .error hs
    · next hs => exact h ▸ .crash hs

theorem run_sound (t : Tables) : ∀ (fuel : Nat) (c : Config) (r : Res),
    run t fuel c = r → r ≠ .outOfFuel → Run t c r
  | 0, _, _, h, hne => absurd h.symm hne
  | n + 1, c, r, h, hne => by
    rw [run_iff]
    rw [run] at h
    split at h
    · exact run_sound t n _ r h hne
    · exact ⟨_, run_sound t n _ _ rfl fun e => hne (by rw [← h, e]; rfl), h.symm⟩
    all_goals exact h.symm

theorem Run.det {t : Tables} {c : Config} {r r' : Res} (h : Run t c r) : Run t c r' → r = r' := by
  induction h generalizing r' with
  | shift hs _ ih => intro h'; rw [run_iff, hs] at h'; exact ih h'
  | reduce hs _ ih => intro h'; rw [run_iff, hs] at h'; obtain ⟨_, hr', rfl⟩ := h'; rw [ih hr']
  | accept hs | error hs | crash hs => intro h'; rw [run_iff, hs] at h'; exact h'.symm

theorem run_complete {t : Tables} {c : Config} {r : Res} (h : Run t c r) :
    ∃ n, ∀ fuel, n ≤ fuel → run t fuel c = r := by
  suffices ∃ n, ∀ k, run t (k + n) c = r by
    obtain ⟨n, hn⟩ := this
    exact ⟨n, fun fuel hf => Nat.sub_add_cancel hf ▸ hn (fuel - n)⟩
  induction h with
  | shift hs _ ih | reduce hs _ ih =>
    obtain ⟨n, hn⟩ := ih
    exact ⟨n + 1, fun k => by rw [← Nat.add_assoc]; simp only [run, hs, hn]⟩
  | accept hs | error hs | crash hs => exact ⟨1, fun k => by simp only [run, hs]⟩

theorem run_fuel_irrelevant (t : Tables) (f f' : Nat) (c : Config)
    (h : run t f c ≠ .outOfFuel) (h' : run t f' c ≠ .outOfFuel) : run t f c = run t f' c :=
  (run_sound t f c _ rfl h).det (run_sound t f' c _ rfl h')

end MontePyVerif.LR
