import MontePyVerif.Spec.Geometry
import MontePyVerif.Gen.Constants
import MontePyVerif.Gen.Geometry
/-! # Model.Geometry — executable model of MontePy's geometry trees (property C02)

Mirrors, function by function, the code of `montepy/surfaces/half_space.py` *after* the `fix:` commits
of branch fix-C02, the geometry rules of `montepy/input_parser/cell_parser.py` as a tree shape (`GT`),
`syntax_node.py: GeometryTree.format / PaddingNode.format`, `Cell.__invert__`, `Surface.__pos__/__neg__`.

The only thing imported from the Spec is the character alphabet `GCh` (a data type, no function), so that
model output and Spec input are the same type.

Representation.  Python shares syntax nodes between a `HalfSpace` and the `GeometryTree` of its parent
(`parent.node.nodes["left"]` is a chain of `_SHIFT` trees that ends in `child.node`).  The model stores the
chain (`lchain`/`rchain`) in the parent's node together with the identity (`ltarget`/`rtarget`) of the node
it ends in; `_encloses` (an `is` test in Python) is the comparison of that identity with the child's node id.
Fresh nodes take their id from a counter.

Not modelled: `UnitHalfSpace._update_node` re-formatting a leaf whose divider number or side was changed
(`ValueNode.format` of an edited value: properties C04/C05); `update_pointers`, `_add_new_children_to_cell`,
`remove_duplicate_surfaces` (C16/C18); aliasing of one HalfSpace object inside two trees. -/
namespace MontePyVerif.Geometry
open MontePyVerif.Spec.Geometry (GCh)

/-- a character of the source (code point) in the alphabet; anything unexpected becomes a comment start, which no
    theorem about new nodes survives -/
def chOfCode (n : Nat) : GCh :=
  if 48 ≤ n ∧ n ≤ 57 then .digit (n - 48)
  else if n = 32 then .sp else if n = 10 then .nl else if n = 58 then .colon else if n = 35 then .hash
  else if n = 40 then .lp else if n = 41 then .rp else if n = 43 then .plus else if n = 45 then .minus
  else if n = 38 then .amp else .cmt

/-- string constants of the source, generated by tools/extractors/geometry.py -/
def textOfCodes (cs : List Nat) : List GCh := cs.map chOfCode

/-- syntax_node.py: an element of `PaddingNode.nodes`: a string or a `CommentNode` (only its length matters). -/
inductive PItem where
  | str (cs : List GCh)
  | cmt (len : Nat)
  deriving DecidableEq, Repr

abbrev Pad := List PItem

def PItem.format : PItem → List GCh
  | .str cs => cs
  | .cmt _ => [.cmt]

/-- syntax_node.py:PaddingNode.format -/
def Pad.format (p : Pad) : List GCh := p.flatMap PItem.format

def optFmt : Option Pad → List GCh
  | none => []
  | some p => p.format

/-- syntax_node.py:ValueNode of a geometry leaf whose value is unchanged: `format` = token ++ padding.
    `value`/`neg` are `ValueNode.value` / `is_negative` as computed by MontePy from the token. -/
structure VN where
  id : Nat
  tok : List GCh
  pad : Option Pad
  value : Nat
  neg : Bool
  deriving DecidableEq, Repr

/-- a `_SHIFT` GeometryTree: "geom parens" `{start_pad, left, end_pad}` or a bare "shift" `{left}` -/
structure Wrap where
  id : Nat
  sp : Option Pad
  ep : Option Pad
  deriving DecidableEq, Repr

inductive Key where
  | left | operator | right | endPad
  deriving DecidableEq, Repr

inductive BOp where
  | inter | union
  deriving DecidableEq, Repr

/-- the GeometryTree of a HalfSpace: ordered key list (Python dict order), operator padding, optional
    end_pad, and the two links to the children's nodes. -/
structure GN where
  id : Nat
  order : List Key
  opr : Pad
  ep : Option Pad
  lchain : List Wrap
  ltarget : Nat
  rchain : List Wrap
  rtarget : Nat
  deriving DecidableEq, Repr

/-- half_space.py:HalfSpace / UnitHalfSpace with the attached syntax node (`_node`), if any. -/
inductive HS where
  | unit (div : Nat) (side : Bool) (isCell : Bool) (node : Option VN)
  | compl (l : HS) (node : Option GN)
  | bin (o : BOp) (l r : HS) (node : Option GN)
  deriving Repr

/-- the syntax tree of a geometry as `CellParser` builds it (geometry_expr / term / factor / factory) -/
inductive GT where
  | val (v : VN)
  | shift (w : Wrap) (left : GT)
  | compl (id : Nat) (order : List Key) (opr : Pad) (ep : Option Pad) (left : GT)
  | bin (id : Nat) (o : BOp) (order : List Key) (opr : Pad) (ep : Option Pad) (left right : GT)
  deriving Repr

/-! ## meaning of the object the API exposes -/

open MontePyVerif.Spec.Geometry (Env) in
/-- the Boolean function of a HalfSpace tree: `side = true` is the positive sense; a cell leaf is "inside
    that cell" (it only occurs under a complement). -/
def HS.eval (ρ : Env) : HS → Bool
  | .unit d s c _ => if c then ρ true d else (ρ false d == s)
  | .compl l _ => !(l.eval ρ)
  | .bin .inter l r _ => l.eval ρ && r.eval ρ
  | .bin .union l r _ => l.eval ρ || r.eval ρ

/-- half_space.py:HalfSpace.__str__ / UnitHalfSpace.__str__ (used to compare tree shapes) -/
def HS.str : HS → String
  | .unit d s c _ => (if s || c then (if c then "" else "+") else "-") ++ toString d
  | .compl l _ => "#" ++ l.str
  | .bin .inter l r _ => "(" ++ l.str ++ "*" ++ r.str ++ ")"
  | .bin .union l r _ => "(" ++ l.str ++ ":" ++ r.str ++ ")"

/-! ## syntax_node.py: GeometryTree.format -/

def wrapFmt : List Wrap → List GCh → List GCh
  | [], t => t
  | w :: ws, t => optFmt w.sp ++ wrapFmt ws t ++ optFmt w.ep

/-- text of the parser's tree (every character of the input is in exactly one leaf or padding) -/
def GT.format : GT → List GCh
  | .val v => v.tok ++ optFmt v.pad
  | .shift w l => optFmt w.sp ++ l.format ++ optFmt w.ep
  | .compl _ order opr ep l => order.flatMap fun
      | .operator => opr.format | .left => l.format | .endPad => optFmt ep | .right => []
  | .bin _ _ order opr ep l r => order.flatMap fun
      | .operator => opr.format | .left => l.format | .right => r.format | .endPad => optFmt ep

/-- `HalfSpace.node.format()`: the dict is walked in insertion order; the links are the chains around the
    children's own nodes. A HalfSpace without node has no text. -/
def HS.fmt : HS → List GCh
  | .unit _ _ _ (some v) => v.tok ++ optFmt v.pad
  | .unit _ _ _ none => []
  | .compl l (some g) => g.order.flatMap fun
      | .operator => g.opr.format | .left => wrapFmt g.lchain l.fmt | .endPad => optFmt g.ep | .right => []
  | .compl _ none => []
  | .bin _ l r (some g) => g.order.flatMap fun
      | .operator => g.opr.format | .left => wrapFmt g.lchain l.fmt
      | .right => wrapFmt g.rchain r.fmt | .endPad => optFmt g.ep
  | .bin _ _ _ none => []

/-! ## half_space.py: parse_input_node -/

def GT.id : GT → Nat
  | .val v => v.id
  | .shift w _ => w.id
  | .compl id .. => id
  | .bin id .. => id

/-- the `_SHIFT` trees between a tree and the first node that is not a shift, and that node's identity -/
def chainOf : GT → List Wrap × Nat
  | .shift w l => let (c, t) := chainOf l; (w :: c, t)
  | g => ([], g.id)

/-- half_space.py:HalfSpace.parse_input_node + UnitHalfSpace.parse_input_node.
    `_SHIFT` nodes are skipped (`return sides[0]`); a value directly below a complement is a cell. -/
def parseInputNode : GT → HS
  | .val v => .unit v.value (!v.neg) false (some v)
  | .shift _ l => parseInputNode l
  | .compl id order opr ep l =>
      let child := match l with
        | .val v => HS.unit v.value true true (some v)
        | l => parseInputNode l
      let (c, t) := chainOf l
      .compl child (some ⟨id, order, opr, ep, c, t, [], 0⟩)
  | .bin id o order opr ep l r =>
      let (lc, lt) := chainOf l
      let (rc, rt) := chainOf r
      .bin o (parseInputNode l) (parseInputNode r) (some ⟨id, order, opr, ep, lc, lt, rc, rt⟩)

/-! ## operators -/

/-- surface.py:Surface.__pos__ / __neg__ -/
def surfaceSide (n : Nat) (positive : Bool) : HS := .unit n positive false none
/-- cell.py:Cell.__invert__ -/
def cellInvert (n : Nat) : HS := .compl (.unit n true true none) none
/-- half_space.py:HalfSpace.__and__ -/
def HS.and (a b : HS) : HS := .bin .inter a b none
/-- half_space.py:HalfSpace.__or__ -/
def HS.or (a b : HS) : HS := .bin .union a b none
/-- half_space.py:HalfSpace.__invert__ -/
def HS.invert (a : HS) : HS := .compl a none

/-- half_space.py: the `operator` property setter on a binary tree (`hs.operator = Operator.UNION` /
    `INTERSECTION`): only `_operator` changes; the syntax node keeps the old operator text until `_update_node`
    rewrites it with `__switch_operator`. -/
def HS.setOperator (o' : BOp) : HS → HS
  | .bin _ l r n => .bin o' l r n
  | h => h

/-- a step down from a HalfSpace: `.left` or `.right` -/
inductive Dir where
  | l | r
  deriving DecidableEq, Repr

/-- the address of a HalfSpace in a tree: the attribute path from the root (`geometry.left.right…`) -/
abbrev Path := List Dir

/-- an edit at the node addressed by `p`: `f` is applied to the HalfSpace found there and the result is assigned
    back (through the parent's `left` / `right` setter, or `cell.geometry` for the root; in-place edits such as
    `hs.operator = …` are the case where `f` keeps the object). A path that leaves the tree, or that ends in the
    cell leaf of a `#n`, addresses nothing. -/
def HS.editAt (f : HS → HS) : Path → HS → HS
  | [], h => f h
  | .l :: p, .compl l n =>
      match l with
      | .unit _ _ true _ => .compl l n
      | l => .compl (HS.editAt f p l) n
  | .l :: p, .bin o l r n => .bin o (HS.editAt f p l) r n
  | .r :: p, .bin o l r n => .bin o l (HS.editAt f p r) n
  | _, h => h

/-- half_space.py:HalfSpace.__iand__ (repaired): the operand goes into the tree only along intersections;
    the node objects on the way are mutated in place, so they keep their syntax nodes. -/
def HS.iand : HS → HS → HS
  | .bin .inter l (.unit d s c vn) n, x => .bin .inter l (.bin .inter (.unit d s c vn) x none) n
  | .bin .inter l r n, x => .bin .inter l (r.iand x) n
  | h, x => .bin .inter h x none

/-- half_space.py:HalfSpace.__ior__ (repaired) -/
def HS.ior : HS → HS → HS
  | .bin .union l (.unit d s c vn) n, x => .bin .union l (.bin .union (.unit d s c vn) x none) n
  | .bin .union l r n, x => .bin .union l (r.ior x) n
  | h, x => .bin .union h x none

/-! ## half_space.py: _ensure_has_nodes, _link_child and helpers -/

def HS.nodeId : HS → Option Nat
  | .unit _ _ _ n => n.map (·.id)
  | .compl _ n => n.map (·.id)
  | .bin _ _ _ n => n.map (·.id)

def digitsAux : Nat → Nat → List GCh → List GCh
  | 0, _, acc => acc
  | f + 1, n, acc => if n < 10 then .digit n :: acc else digitsAux f (n / 10) (.digit (n % 10) :: acc)

/-- decimal digits of a number (`"{value:d}"`) -/
def natDigits (n : Nat) : List GCh := digitsAux (n + 1) n []

/-- the comment state behind a text: a comment hides everything up to the next line end -/
def cmtAfter : Bool → List GCh → Bool
  | c, [] => c
  | true, x :: xs => cmtAfter (x != .nl) xs
  | false, x :: xs => cmtAfter (x == .cmt) xs

/-- half_space.py:_ends_in_comment (on the text; Python walks the padding elements in text order, value tokens
    hold neither comments nor line ends) -/
def endsInComment (t : List GCh) : Bool := cmtAfter false t

/-- the two `append`s of `_end_trailing_comment` (`" " * BLANK_SPACE_CONTINUE`) -/
def Pad.endComment (p : Pad) : Pad := p ++ [.str [.nl], .str (List.replicate Gen.blankSpaceContinue .sp)]

/-- half_space.py:_end_trailing_comment, part 1: walk down the `_SHIFT` chain; `some` when the last
    dict value of one of them is its `end_pad` (the walk ends there). -/
def endChain : List Wrap → Option (List Wrap)
  | [] => none
  | w :: ws =>
      match w.ep with
      | some p => some ({ w with ep := some p.endComment } :: ws)
      | none => (endChain ws).map (w :: ·)

/-- half_space.py:_end_trailing_comment, part 2: the last value of the node's dict, recursively. -/
def endNode : HS → HS
  | .unit d s c (some v) => .unit d s c (some { v with pad := some ((v.pad.getD []).endComment) })
  | .unit d s c none => .unit d s c none
  | .compl l (some g) =>
      match g.order.getLast? with
      | some .endPad => .compl l (some { g with ep := g.ep.map Pad.endComment })
      | some .operator => .compl l (some { g with opr := g.opr.endComment })
      | some .left =>
          match endChain g.lchain with
          | some c => .compl l (some { g with lchain := c })
          | none => .compl (endNode l) (some g)
      | _ => .compl l (some g)
  | .compl l none => .compl l none
  | .bin o l r (some g) =>
      match g.order.getLast? with
      | some .endPad => .bin o l r (some { g with ep := g.ep.map Pad.endComment })
      | some .operator => .bin o l r (some { g with opr := g.opr.endComment })
      | some .left =>
          match endChain g.lchain with
          | some c => .bin o l r (some { g with lchain := c })
          | none => .bin o (endNode l) r (some g)
      | some .right =>
          match endChain g.rchain with
          | some c => .bin o l r (some { g with rchain := c })
          | none => .bin o l (endNode r) (some g)
      | none => .bin o l r (some g)
  | .bin o l r none => .bin o l r none

/-- half_space.py:_end_trailing_comment on a link (chain around a child's node) -/
def endLink (chain : List Wrap) (child : HS) : List Wrap × HS :=
  if endsInComment (wrapFmt chain child.fmt) then
    match endChain chain with
    | some c => (c, child)
    | none => (chain, endNode child)
  else (chain, child)

/-- half_space.py:_has_parentheses (of one `_SHIFT` tree): first item of start_pad is "(", of end_pad ")" -/
def Wrap.isParens (w : Wrap) : Bool :=
  match w.sp, w.ep with
  | some (.str [.lp] :: _), some (.str [.rp] :: _) => true
  | _, _ => false

/-- half_space.py:_has_parentheses of a link -/
def hasParens : List Wrap → Bool
  | w :: _ => w.isParens
  | [] => false

/-- half_space.py:HalfSpace._needs_parentheses; `parent = none` is the complement. -/
def needsParens (parent : Option BOp) (child : HS) : Bool :=
  match parent, child with
  | none, .unit _ _ true _ => false
  | none, _ => true
  | some _, .unit .. => false
  | some .inter, .bin .union .. => true
  | some _, _ => false

theorem endChain_length {ws c : List Wrap} (h : endChain ws = some c) : c.length = ws.length := by
  induction ws generalizing c with
  | nil => simp [endChain] at h
  | cons w ws ih =>
    simp only [endChain] at h
    split at h
    · cases h; rfl
    · obtain ⟨c', hh, rfl⟩ := Option.map_eq_some_iff.1 h
      simp [ih hh]

theorem endLink_length (ws : List Wrap) (h : HS) : (endLink ws h).1.length = ws.length := by
  unfold endLink
  split
  · split
    · rename_i c hc; exact endChain_length hc
    · rfl
  · rfl

/-- half_space.py:_end_comments_in_parentheses: in front of every ")" of the chain the comment line is ended.
    The Python loop walks the chain once; `fuel` is the number of trees still to visit. -/
def closeParensAux : Nat → List Wrap → HS → List Wrap × HS
  | 0, ws, h => (ws, h)
  | _, [], h => ([], h)
  | n + 1, w :: ws, h =>
      let r := if w.ep.isSome then endLink ws h else (ws, h)
      let r2 := closeParensAux n r.1 r.2
      (w :: r2.1, r2.2)

def closeParens (ws : List Wrap) (h : HS) : List Wrap × HS := closeParensAux ws.length ws h

/-- sufficiency of the fuel -/
theorem closeParensAux_fuel (n : Nat) (ws : List Wrap) (h : HS) (hn : ws.length ≤ n) :
    closeParensAux n ws h = closeParensAux ws.length ws h := by
  induction n generalizing ws h with
  | zero =>
    obtain rfl := List.eq_nil_of_length_eq_zero (Nat.le_zero.1 hn)
    rfl
  | succ n ih =>
    cases ws with
    | nil => simp [closeParensAux]
    | cons w ws =>
      simp only [List.length_cons] at hn
      simp only [closeParensAux, List.length_cons]
      have hl : (if w.ep.isSome then endLink ws h else (ws, h)).1.length = ws.length := by
        split
        · exact endLink_length ws h
        · rfl
      rw [ih _ _ (by rw [hl]; omega), hl]

/-- half_space.py:HalfSpace._link_child. Returns the new link, its target, the (possibly touched) child
    and the id counter. `follow` = "key == left and self.right is not None". -/
def linkChild (ctr : Nat) (parent : Option BOp) (follow : Bool) (chain : List Wrap) (target : Nat) (child : HS) :
    List Wrap × Nat × HS × Nat :=
  let cid := child.nodeId.getD 0
  let link := if target = cid then chain else []
  let np := needsParens parent child && !hasParens link
  let link := if np then ⟨ctr, some [.str (textOfCodes Gen.newParenOpenCodes)], some [.str (textOfCodes Gen.newParenCloseCodes)]⟩ :: link else link
  let lc := closeParens link child
  let lc := if follow then endLink lc.1 lc.2 else lc
  (lc.1, cid, lc.2, if np then ctr + 1 else ctr)

/-- half_space.py:HalfSpace._ensure_has_nodes / UnitHalfSpace._ensure_has_nodes -/
def ensureHasNodes : Nat → HS → HS × Nat
  | c, .unit d s ic none =>
      (.unit d s ic (some ⟨c, (if s || ic then [] else [.minus]) ++ natDigits d, none, d, !(s || ic)⟩), c + 1)
  | c, .unit d s ic (some v) => (.unit d s ic (some v), c)
  | c, .compl l n =>
      let (l, c) := ensureHasNodes c l
      let (g, c) := match n with
        | some g => (g, c)
        | none => (⟨c, [.operator, .left], [.str (textOfCodes Gen.newOprComplCodes)], none, [], l.nodeId.getD 0, [], 0⟩, c + 1)
      let (chain, tgt, l, c) := linkChild c none false g.lchain g.ltarget l
      (.compl l (some { g with lchain := chain, ltarget := tgt }), c)
  | c, .bin o l r n =>
      let (l, c) := ensureHasNodes c l
      let (r, c) := ensureHasNodes c r
      let (g, c) := match n with
        | some g => (g, c)
        | none =>
            let opr : Pad := match o with
              | .inter => [.str (textOfCodes Gen.newOprInterCodes)]
              | .union => [.str (textOfCodes Gen.newOprUnionCodes)]
            (⟨c, [.left, .operator, .right], opr, none, [], l.nodeId.getD 0, [], r.nodeId.getD 0⟩, c + 1)
      let (lchain, lt, l, c) := linkChild c (some o) true g.lchain g.ltarget l
      let (rchain, rt, r, c) := linkChild c (some o) false g.rchain g.rtarget r
      (.bin o l r (some { g with lchain := lchain, ltarget := lt, rchain := rchain, rtarget := rt }), c)

/-! ## half_space.py: _update_node and __switch_operator -/

/-- the text of the padding outside comments (`"".join(n for n in nodes if isinstance(n, str))`) -/
def strChars (p : Pad) : List GCh := p.flatMap fun
  | .str cs => cs
  | .cmt _ => []

def blankSym : GCh → GCh
  | .hash => .sp
  | .colon => .sp
  | c => c

def PItem.len : PItem → Nat
  | .str cs => cs.length
  | .cmt n => n

/-- blanks that are not behind a comment on the same line: (offset, item index, char index);
    also the total length and whether the padding ends inside a comment. -/
def vbStep (acc : List (Nat × Nat × Nat) × Nat × Bool × Nat) (it : PItem) :
    List (Nat × Nat × Nat) × Nat × Bool × Nat :=
  match it with
  | .cmt n => (acc.1, acc.2.1 + n, true, acc.2.2.2 + 1)
  | .str cs =>
      if cs = [.nl] then (acc.1, acc.2.1 + 1, false, acc.2.2.2 + 1)
      else if acc.2.2.1 then (acc.1, acc.2.1 + cs.length, acc.2.2.1, acc.2.2.2 + 1)
      else
        (acc.1 ++ (List.range cs.length).filterMap (fun j =>
            if cs[j]? = some .sp then some (acc.2.1 + j, acc.2.2.2, j) else none),
          acc.2.1 + cs.length, acc.2.2.1, acc.2.2.2 + 1)

def visibleBlanks (p : Pad) : List (Nat × Nat × Nat) × Nat × Bool :=
  let r := p.foldl vbStep ([], 0, false, 0)
  (r.1, r.2.1, r.2.2.1)

def setItem (p : Pad) (i : Nat) (f : List GCh → List GCh) : Pad :=
  (List.range p.length).zip p |>.map fun (k, it) =>
    match it with
    | .str cs => if k = i then .str (f cs) else it
    | it => it

def absDiff (a b : Nat) : Nat := if a ≤ b then b - a else a - b

/-- half_space.py:HalfSpace.__switch_operator (repaired). `sym = none` is the blank. -/
def switchOperator (p : Pad) (sym : Option GCh) : Pad :=
  let nodes : Pad := p.map fun
    | .str cs => .str (cs.map blankSym)
    | it => it
  match sym with
  | none => nodes
  | some s =>
    let (blanks, total, inCmt) := visibleBlanks nodes
    if s = .hash then
      match blanks.getLast? with
      | some (off, i, j) =>
          if off + 1 = total then setItem nodes i (fun cs => cs.take j ++ [.hash])
          else (if inCmt then nodes ++ [.str [.nl], .str (List.replicate Gen.blankSpaceContinue .sp)] else nodes) ++ [.str [.hash]]
      | none => (if inCmt then nodes ++ [.str [.nl], .str (List.replicate Gen.blankSpaceContinue .sp)] else nodes) ++ [.str [.hash]]
    else
      match blanks with
      | [] => .str [s] :: nodes
      | b :: bs =>
          let mid := total / 2
          let best := bs.foldl (fun (m : Nat × Nat × Nat) (x : Nat × Nat × Nat) =>
            if absDiff x.1 mid < absDiff m.1 mid then x else m) b
          setItem nodes best.2.1 (fun cs => cs.take best.2.2 ++ [s] ++ cs.drop (best.2.2 + 1))

def isSpaceCh : GCh → Bool
  | .sp => true
  | .nl => true
  | _ => false

/-- half_space.py:HalfSpace._update_node, intersection and union -/
def updateNodeBin (o : BOp) (g : GN) : GN :=
  let out := strChars g.opr
  match o with
  | .inter =>
      let sw := out.contains .colon || out.contains .hash
      let opr := if sw then switchOperator g.opr none else g.opr
      let out := if sw then out.map blankSym else out
      if !(out.any isSpaceCh || hasParens g.lchain || hasParens g.rchain) then { g with opr := .str [.sp] :: opr }
      else { g with opr := opr }
  | .union => if out.contains .colon then g else { g with opr := switchOperator g.opr (some .colon) }

/-- half_space.py:HalfSpace._update_node, complement (a rebuilt node has the keys operator, left only) -/
def updateNodeCompl (g : GN) : GN :=
  if (strChars g.opr).contains .hash then g
  else { g with opr := switchOperator g.opr (some .hash), order := [.operator, .left], ep := none }

/-- `_update_node` on every HalfSpace of the tree (the recursion of `_update_values`) -/
def updateAll : HS → HS
  | .unit d s c n => .unit d s c n
  | .compl l n => .compl (updateAll l) (n.map updateNodeCompl)
  | .bin o l r n => .bin o (updateAll l) (updateAll r) (n.map (updateNodeBin o))

/-- `_ensure_has_nodes` once and `_update_node` everywhere: what `_update_values` amounts to when re-running
    `_ensure_has_nodes` on a subtree that was just linked changes nothing (so on every well-formed tree:
    `C02_levels_once`). -/
def updateOnce (ctr : Nat) (h : HS) : HS × Nat :=
  let (h, c) := ensureHasNodes ctr h
  (updateAll h, c)

/-- half_space.py:HalfSpace._update_node on this HalfSpace only -/
def updateNodeHere : HS → HS
  | .unit d s c n => .unit d s c n
  | .compl l n => .compl l (n.map updateNodeCompl)
  | .bin o l r n => .bin o l r (n.map (updateNodeBin o))

def HS.height : HS → Nat
  | .unit .. => 0
  | .compl l _ => l.height + 1
  | .bin _ l r _ => max l.height r.height + 1

/-- half_space.py:HalfSpace._update_values, level by level as it is written:
    `self._ensure_has_nodes()` (which links the *whole* subtree below this HalfSpace), `self._update_node()`, then
    `self.left._update_values()` and `self.right._update_values()` — so `_ensure_has_nodes` and with it
    `_link_child` runs once more on every level. `fuel` = levels still to visit. -/
def updateLevels : Nat → Nat → HS → HS × Nat
  | 0, c, h => (h, c)
  | f + 1, c, h =>
      let e := ensureHasNodes c h
      match updateNodeHere e.1 with
      | .unit d s ic n => (.unit d s ic n, e.2)
      | .compl l n =>
          let a := updateLevels f e.2 l
          (.compl a.1 n, a.2)
      | .bin o l r n =>
          let a := updateLevels f e.2 l
          let b := updateLevels f a.2 r
          (.bin o a.1 b.1 n, b.2)

/-- half_space.py:HalfSpace._update_values as called by cell.py:Cell._update_values; the fuel is the number of
    levels of the tree (sufficiency: `updateLevels_fuel`). -/
def updateValues (ctr : Nat) (h : HS) : HS × Nat := updateLevels (h.height + 1) ctr h

/-- cell.py: `Cell._geometry` together with `Cell._tree["geometry"]`: the chain of `_SHIFT` trees the parser
    put around the root (`chain`, ending in the node with identity `target`). -/
structure CG where
  chain : List Wrap
  target : Nat
  hs : HS
  deriving Repr

/-- cell.py:Cell._parse_geometry -/
def parseCell (g : GT) : CG := ⟨(chainOf g).1, (chainOf g).2, parseInputNode g⟩

/-- cell.py: the geometry setter (`cell.geometry = h`); the syntax tree is only touched at the next write -/
def CG.set (c : CG) (h : HS) : CG := { c with hs := h }

/-- cell.py:Cell._update_values, geometry part (repaired): the entry of the cell's tree is kept while it
    still encloses the geometry's node, otherwise it becomes that node. -/
def CG.update (ctr : Nat) (c : CG) : CG × Nat :=
  let (h, n) := updateValues ctr c.hs
  if c.target = h.nodeId.getD 0 then
    let r := closeParens c.chain h
    (⟨r.1, c.target, r.2⟩, n)
  else (⟨[], h.nodeId.getD 0, h⟩, n)

/-- the geometry part of `Cell._tree.format()` -/
def CG.fmt (c : CG) : List GCh := wrapFmt c.chain c.hs.fmt

/-- `Cell.format_for_mcnp_input`, geometry part: `_update_values`, then `format`. -/
def writeGeometry (ctr : Nat) (c : CG) : List GCh × CG × Nat :=
  let (c, n) := c.update ctr
  (c.fmt, c, n)

end MontePyVerif.Geometry
