-- root of the library: generated by tools/gen_root.py
import MontePyVerif.Gen.CellData
import MontePyVerif.Gen.CommentProbe
import MontePyVerif.Gen.Constants
import MontePyVerif.Gen.Dedupe
import MontePyVerif.Gen.Errors
import MontePyVerif.Gen.Geometry
import MontePyVerif.Gen.GeometryProbe
import MontePyVerif.Gen.Grammar
import MontePyVerif.Gen.LexRules
import MontePyVerif.Gen.LrTables
import MontePyVerif.Gen.PyText
import MontePyVerif.Gen.Reader
import MontePyVerif.Gen.Registry
import MontePyVerif.Gen.SetterDecls
import MontePyVerif.Gen.Setters
import MontePyVerif.Gen.Shortcuts
import MontePyVerif.Gen.Tokens
import MontePyVerif.Gen.ValueFormat
import MontePyVerif.Gen.WriteOrder
import MontePyVerif.Lemmas.Cfg
import MontePyVerif.Lemmas.Collection
import MontePyVerif.Lemmas.Dec
import MontePyVerif.Lemmas.Dedupe
import MontePyVerif.Lemmas.Finite
import MontePyVerif.Lemmas.Flatten
import MontePyVerif.Lemmas.GeometryEnsure
import MontePyVerif.Lemmas.GeometryLevels
import MontePyVerif.Lemmas.GeometryLex
import MontePyVerif.Lemmas.GeometryParse
import MontePyVerif.Lemmas.GeometryPrint
import MontePyVerif.Lemmas.GeometryReady
import MontePyVerif.Lemmas.GeometrySwitch
import MontePyVerif.Lemmas.GeometryUpdate
import MontePyVerif.Lemmas.LR
import MontePyVerif.Lemmas.LRFast
import MontePyVerif.Lemmas.Layout
import MontePyVerif.Lemmas.LayoutModel
import MontePyVerif.Lemmas.LexNum
import MontePyVerif.Lemmas.LineFacts
import MontePyVerif.Lemmas.Links
import MontePyVerif.Lemmas.LinksLoad
import MontePyVerif.Lemmas.LinksStep
import MontePyVerif.Lemmas.ListBasics
import MontePyVerif.Lemmas.Paths
import MontePyVerif.Lemmas.Pick
import MontePyVerif.Lemmas.Queue
import MontePyVerif.Lemmas.ReadBack
import MontePyVerif.Lemmas.ReaderErrors
import MontePyVerif.Lemmas.Readers
import MontePyVerif.Lemmas.Refine
import MontePyVerif.Lemmas.RenumberLink
import MontePyVerif.Lemmas.Round
import MontePyVerif.Lemmas.SpecWords
import MontePyVerif.Lemmas.Text
import MontePyVerif.Lemmas.TransformWrite
import MontePyVerif.Lemmas.ValueFormat
import MontePyVerif.Lemmas.Write
import MontePyVerif.Model.CellData
import MontePyVerif.Model.Collection
import MontePyVerif.Model.Dedupe
import MontePyVerif.Model.Dispatch
import MontePyVerif.Model.Edits
import MontePyVerif.Model.Errors
import MontePyVerif.Model.FileWrite
import MontePyVerif.Model.Geometry
import MontePyVerif.Model.LR
import MontePyVerif.Model.LRTables
import MontePyVerif.Model.LexNum
import MontePyVerif.Model.Lexer
import MontePyVerif.Model.Links
import MontePyVerif.Model.ListNode
import MontePyVerif.Model.Reader
import MontePyVerif.Model.Regex
import MontePyVerif.Model.Renumber
import MontePyVerif.Model.Setter
import MontePyVerif.Model.Shortcut
import MontePyVerif.Model.ShortcutParse
import MontePyVerif.Model.TransformWrite
import MontePyVerif.Model.ValueFormat
import MontePyVerif.Model.World
import MontePyVerif.Model.Wrap
import MontePyVerif.Model.Write
import MontePyVerif.Props.C01Blocks
import MontePyVerif.Props.C01Wrapped
import MontePyVerif.Props.C02
import MontePyVerif.Props.C03
import MontePyVerif.Props.C04
import MontePyVerif.Props.C04Core
import MontePyVerif.Props.C04Neutral
import MontePyVerif.Props.C05
import MontePyVerif.Props.C06
import MontePyVerif.Props.C07
import MontePyVerif.Props.C07Columns
import MontePyVerif.Props.C08
import MontePyVerif.Props.C09
import MontePyVerif.Props.C10
import MontePyVerif.Props.C10Cards
import MontePyVerif.Props.C10Roundtrip
import MontePyVerif.Props.C11
import MontePyVerif.Props.C12
import MontePyVerif.Props.C12LR
import MontePyVerif.Props.C12Lexer
import MontePyVerif.Props.C13
import MontePyVerif.Props.C14
import MontePyVerif.Props.C15
import MontePyVerif.Props.C16
import MontePyVerif.Props.C17
import MontePyVerif.Props.C18
import MontePyVerif.Props.C19
import MontePyVerif.Props.C19Echo
import MontePyVerif.Props.C19Gen
import MontePyVerif.Props.C20
import MontePyVerif.Props.SpecFile
import MontePyVerif.Spec.Blocks
import MontePyVerif.Spec.Card
import MontePyVerif.Spec.CellData
import MontePyVerif.Spec.Dedupe
import MontePyVerif.Spec.File
import MontePyVerif.Spec.GeomEval
import MontePyVerif.Spec.Geometry
import MontePyVerif.Spec.Number
import MontePyVerif.Spec.Refs
import MontePyVerif.Spec.Shortcut
import MontePyVerif.Spec.Text
import MontePyVerif.Spec.TextLayout
import MontePyVerif.Spec.Transform
